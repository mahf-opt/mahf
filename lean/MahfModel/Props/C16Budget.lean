/-
C16 — "runs to its termination condition … and performs exactly the requested number of iterations", for every kind
of termination condition the templates accept (`LessThanN::iterations`, `LessThanN::evaluations`, `&`, `|`), at
every nesting depth, and on every run on a state (the first, or a later one on the same state).

The model (`Model/TemplatesBudget.lean`) has both counters a condition can read in the chain of registries that the
`Scope`s create (`insert` on `init`, innermost registry on every access).  `predict` computes the pass count of every
loop execution from the tree alone; the evaluation amounts in the tree come from the template's parameters through
the size analysis (`toB`).

* `pass_counts_sound`        — wherever `predict` answers, EVERY terminating run (all oracles for branches and failure
                               points, any fuel) made exactly the predicted loop executions, in order, each with exactly
                               the predicted number of passes, and ends with the predicted counters;
* `loop_passes_exact`        — the same for one loop anywhere in a configuration, with the number: `firstStop c e i v`;
* `budget_iterations`, `budget_evaluations`, `budget_and`, `budget_or`, `first_stop_characterised` — what that number
                               is: `n - i`, `⌈(k - v)/e⌉`, the minimum, the maximum; in general the first pass index at
                               which the condition is false;
* `scoped_search_independent_of_caller` — a scoped heuristic makes the same passes on every entry, whatever the
                               caller's counters are, and leaves them alone (the clause a local search that counts on
                               its caller's `Evaluations` violates);
* `shared_counter_violates`  — … which needs the scope to own its counters: a scoped loop that reads the caller's
                               evaluation counter makes 2 passes on the first entry and 0 on every later one;
* `rerun_counts_as_first_run`— a second `Configuration::run` on the same state makes the passes of the first;
* `template_budget_all_parameters` — the 16 templates with one loop whose evaluations per pass the parameters determine
                               (`budgetOf`: GA, ES, DE, PSO, SA, LS, RS, RW, black hole, ant systems), at EVERY parameter
                               point under every condition built from the two bounds: every terminating run, first or
                               later, makes exactly `firstStop c e 0 v0` passes; `template_evaluation_budget`: for
                               `LessThanN::evaluations(k)` that is `⌈(k - v0) / e⌉`;
* `ils_counts_all_parameters`— iterated local search (`real_ils`, `permutation_ils`) at EVERY parameter point, under
                               every pair of conditions: `p0` outer passes, and in every single one of them a local
                               search of exactly `m` passes; `ils_evaluation_budget` puts in the numbers for
                               `ls_condition = LessThanN::evaluations(b)`: `⌈b / n_neighbors⌉` passes per local search.
-/
import MahfModel.Proofs.C16Budget
import MahfModel.Proofs.C16FirstStop
import MahfModel.Proofs.C16BudgetParam
import MahfModel.Proofs.C16BudgetAll
import MahfModel.Proofs.ArithNat
namespace MahfModel.Props.C16.Budget
open MahfModel.Tpl

/-- Every terminating run made exactly the predicted loop executions and ends with the predicted counters. -/
theorem pass_counts_sound (o : BOracle) (F fuel : Nat) (c : BComp) (prior l' : Lvl) (g : List (Nat × Nat)) (s' : BSt)
    (hp : predictRun F c prior = some (l', g)) (hx : brun o fuel c prior = some s') :
    s'.lvls = [l'] ∧ s'.runs = g := by
  have := (bexec_sound_all o F fuel).1 0 c _ s' (binit c prior) l' [] g rfl hp hx
  simpa using this

/-- … and so did every part of a configuration, inside any chain of enclosing registries `L`, which it leaves alone. -/
theorem pass_counts_sound_anywhere (o : BOracle) (F fuel d : Nat) (c : BComp) (s s' : BSt) (l l' : Lvl) (L : List Lvl)
    (g : List (Nat × Nat)) (hs : s.lvls = l :: L) (hp : predict F d c l = some (l', g))
    (hx : bexec o fuel d c s = some s') : s'.lvls = l' :: L ∧ s'.runs = s.runs ++ g :=
  (bexec_sound_all o F fuel).1 d c s s' l l' L g hs hp hx

/-- One loop: started with `Iterations = i`, `Evaluations = v` in its registry, a body without a loop of the same
level that adds `evalsOf b` evaluations per pass — exactly `q = firstStop c (evalsOf b) i v` passes, ending with
`(i + q, v + q · evalsOf b)`; the body's own (scoped) loop executions are repeated `q` times. -/
theorem loop_passes_exact (o : BOracle) (F fuel d : Nat) (c : BCond) (b : BComp) (s s' : BSt) (i : Nat) (v : Option Nat)
    (L : List Lvl) (lb : Lvl) (bl : List (Nat × Nat)) (q : Nat)
    (hc : c.static = true) (hd : directB b = 0) (hs : s.lvls = ⟨some i, v⟩ :: L)
    (hb : predict F (d + 1) b ⟨some i, v⟩ = some (lb, bl)) (hq : firstStop c (evalsOf b) F i v = some q)
    (hx : bexec o fuel d (.loop c b) s = some s') :
    s'.lvls = ⟨some (i + q), v.map (· + q * evalsOf b)⟩ :: L ∧ s'.runs = s.runs ++ repLog q bl ++ [(d, q)] :=
  -- `predict` answers on this loop with exactly these values
  List.append_assoc .. ▸ pass_counts_sound_anywhere o F fuel d _ s s' _ _ L _ hs (by simp [predict, hc, hd, hb, hq]) hx

/-- What `firstStop` is: the first pass index at which the condition is false. -/
theorem first_stop_characterised (c : BCond) (e f i : Nat) (v : Option Nat) (p : Nat) :
    firstStop c e f i v = some p ↔
      p < f ∧ c.at e i v p = some false ∧ ∀ j, j < p → c.at e i v j = some true :=
  firstStop_iff c e f i v p

/-- `LessThanN::iterations(n)`: the missing iterations, whatever is evaluated. -/
theorem budget_iterations (n e f i : Nat) (v : Option Nat) (hf : n - i < f) :
    firstStop (.iterLt n) e f i v = some (n - i) :=
  firstStop_of_at hf fun _ => congrArg some (decide_eq_decide.2 Nat.lt_sub_iff_add_lt'.symm)

/-- `LessThanN::evaluations(k)` with `e ≥ 1` evaluations per pass and `v` evaluations made before the loop:
`⌈(k - v) / e⌉` passes. -/
theorem budget_evaluations (k e f i v : Nat) (he : 1 ≤ e) (hf : ceilDiv (k - v) e < f) :
    firstStop (.evalLt k) e f i (some v) = some (ceilDiv (k - v) e) :=
  firstStop_of_at hf fun j => congrArg some (decide_eq_decide.2 (by
    show v + j * e < k ↔ _
    rw [ceilDiv, Arith.lt_ceilDiv he]; exact Nat.lt_sub_iff_add_lt'.symm))

/-- `a & b`: the first of the two. -/
theorem budget_and (a b : BCond) (e f i : Nat) (v : Option Nat) (pa pb : Nat)
    (ha : firstStop a e f i v = some pa) (hb : firstStop b e f i v = some pb) :
    firstStop (.and a b) e f i v = some (min pa pb) := by
  refine firstStop_of_at (Nat.lt_of_le_of_lt (Nat.min_le_left ..) (firstStop_lt ha)) fun j => ?_
  rw [BCond.and_at, firstStop_at ha j, firstStop_at hb j]
  exact congrArg some ((Bool.decide_and ..).symm.trans (decide_eq_decide.2 Nat.lt_min.symm))

/-- `a | b`: the last of the two. -/
theorem budget_or (a b : BCond) (ha' : a.static = true) (hb' : b.static = true) (e f i : Nat) (v : Option Nat)
    (pa pb : Nat) (ha : firstStop a e f i v = some pa) (hb : firstStop b e f i v = some pb) :
    firstStop (.or a b) e f i v = some (max pa pb) := by
  -- `ha'`, `hb'` are not used: `firstStop` takes an opaque part as false, and false it stays (`BCond.at_mono`)
  have _ := ha'; have _ := hb'
  refine firstStop_of_at (Nat.max_lt.2 ⟨firstStop_lt ha, firstStop_lt hb⟩) fun j => ?_
  rw [BCond.or_at, firstStop_at ha j, firstStop_at hb j]
  exact congrArg some ((Bool.decide_or ..).symm.trans (decide_eq_decide.2 (by omega)))

/-- A scoped heuristic whose passes `predict` determines makes exactly those passes on EVERY entry — in any state,
with any counters in the caller's registries, under any oracle — and leaves the caller's registries as they were. -/
theorem scoped_search_independent_of_caller (F d : Nat) (b : BComp) (lb : Lvl) (g : List (Nat × Nat))
    (hd : predict F d b (binit b Lvl.empty) = some (lb, g))
    (o₁ o₂ : BOracle) (fuel₁ fuel₂ : Nat) (s₁ s₁' s₂ s₂' : BSt)
    (h₁ : bexec o₁ fuel₁ d (.scope b) s₁ = some s₁') (h₂ : bexec o₂ fuel₂ d (.scope b) s₂ = some s₂') :
    s₁'.lvls = s₁.lvls ∧ s₂'.lvls = s₂.lvls ∧ s₁'.runs = s₁.runs ++ g ∧ s₂'.runs = s₂.runs ++ g := by
  have scope_run : ∀ (o : BOracle) (fuel : Nat) (s s' : BSt), bexec o fuel d (.scope b) s = some s' →
      s'.lvls = s.lvls ∧ s'.runs = s.runs ++ g := by
    intro o fuel s s' h
    cases fuel with
    | zero => simp [bexec] at h
    | succ fuel =>
      rw [bexec_scope, Option.map_eq_some_iff] at h
      obtain ⟨s1, h1, rfl⟩ := h
      have := pass_counts_sound_anywhere o F fuel d b _ s1 (binit b Lvl.empty) lb s.lvls g rfl hd h1
      simp [this.1, this.2]
  exact ⟨(scope_run o₁ fuel₁ s₁ s₁' h₁).1, (scope_run o₂ fuel₂ s₂ s₂' h₂).1,
    (scope_run o₁ fuel₁ s₁ s₁' h₁).2, (scope_run o₂ fuel₂ s₂ s₂' h₂).2⟩

-- the local search of iterated local search is such a scope: 2 neighbours per pass, a budget of 6 evaluations
example : predict 100 1 (bsq [bsq [lsB (.evalLt 6) 2]]) (binit (bsq [bsq [lsB (.evalLt 6) 2]]) Lvl.empty)
    = some (⟨some 3, some 6⟩, [(1, 3)]) := by decide +kernel

/-- The proviso is needed.  A scoped loop bounded by `LessThanN::evaluations(4)` whose body evaluates WITHOUT the scope
owning an evaluation counter (no evaluator is initialised in the scope; what a `PopulationEvaluator::init` that does
`entry().or_default()` instead of `insert` amounts to when the caller already has a counter) counts on the caller's
counter: inside an outer loop asked for 3 iterations, with 2 evaluations per inner pass, the first entry makes 2
passes and the second and third make none.  `predict` refuses the tree. -/
def sharedCounter : BComp := bsq [.eval 0, .loop (.iterLt 3) (.scope (.loop (.evalLt 4) .addAny))]
theorem shared_counter_violates :
    predictRun 100 sharedCounter Lvl.empty = none ∧
    (brun ⟨fun _ => true, fun _ => false, fun _ => 2⟩ 100 sharedCounter Lvl.empty).map (·.runs)
      = some [(1, 2), (1, 0), (1, 0), (0, 3)] := by
  decide +kernel

/-- The same nest with a scope that owns its counter (an evaluator is initialised in it): 2 passes on every entry. -/
def ownCounter : BComp := bsq [.eval 0, .loop (.iterLt 3) (.scope (.loop (.evalLt 4) (.eval 2)))]
theorem own_counter_exact :
    predictRun 100 ownCounter Lvl.empty = some (⟨some 3, some 0⟩, [(1, 2), (1, 2), (1, 2), (0, 3)]) ∧
    (brun ⟨fun _ => true, fun _ => false, fun _ => 0⟩ 100 ownCounter Lvl.empty).map (·.runs)
      = some [(1, 2), (1, 2), (1, 2), (0, 3)] := by
  decide +kernel

/-- A configuration with a loop and an evaluator at its top level (every shipped template): whatever an earlier
run left in the state's registry, a run makes exactly the passes predicted for a fresh state. -/
theorem rerun_counts_as_first_run (o : BOracle) (F fuel : Nat) (c : BComp) (prior l' : Lvl) (g : List (Nat × Nat))
    (s' : BSt) (hl : 1 ≤ directB c) (he : 1 ≤ evalLeaves c)
    (hp : predictRun F c Lvl.empty = some (l', g)) (hx : brun o fuel c prior = some s') :
    s'.lvls = [l'] ∧ s'.runs = g := by
  have h1 : binit c prior = binit c Lvl.empty := by
    rw [binit_overwrites c prior hl he, binit_overwrites c Lvl.empty hl he]
  apply pass_counts_sound o F fuel c prior l' g s' _ hx
  simpa [predictRun, h1] using hp

/-- The single-loop templates at every parameter point: `v0` evaluations before the loop and `e` per pass
(`budgetOf name ps`), any termination condition `c` built from the two bounds — EVERY terminating run, on a fresh state
or on one that has been used, makes one loop execution of exactly `p = firstStop c e 0 v0` passes and ends with
`Iterations = p`, `Evaluations = v0 + p · e`. -/
theorem template_budget_all_parameters (name : Tid) (ps : List Nat) (cool : Bool) (t : SComp) (e v0 : Nat)
    (ht : tplT name ps cool = some t) (hb : budgetOf name ps = some (e, v0))
    (c : BCond) (hc : c.static = true) (F p : Nat) (hp : firstStop c e F 0 (some v0) = some p) :
    ∃ b, toBTop t [c] = some b ∧
      ∀ (o : BOracle) (fuel : Nat) (prior : Lvl) (s' : BSt), brun o fuel b prior = some s' →
        s'.lvls = [⟨some p, some (v0 + p * e)⟩] ∧ s'.runs = [(0, p)] := by
  obtain ⟨b, hb1, hb2⟩ := tpl_single_loop_all name ps cool t e v0 c ht hb
  exact ⟨b, hb1, fun o fuel prior s' hx => pass_counts_sound o F fuel b prior _ _ s' (hb2 F p prior hc hp) hx⟩

/-- … with the number for an evaluation budget `k`: `⌈(k - v0) / e⌉` passes, provided a pass evaluates at all. -/
theorem template_evaluation_budget (name : Tid) (ps : List Nat) (cool : Bool) (t : SComp) (e v0 : Nat)
    (ht : tplT name ps cool = some t) (hb : budgetOf name ps = some (e, v0)) (he : 1 ≤ e) (k : Nat) :
    ∃ b, toBTop t [.evalLt k] = some b ∧
      ∀ (o : BOracle) (fuel : Nat) (prior : Lvl) (s' : BSt), brun o fuel b prior = some s' →
        s'.runs = [(0, ceilDiv (k - v0) e)] := by
  obtain ⟨b, hb1, hb2⟩ := template_budget_all_parameters name ps cool t e v0 ht hb (.evalLt k) rfl
    (ceilDiv (k - v0) e + 1) (ceilDiv (k - v0) e) (budget_evaluations k e _ 0 v0 he (Nat.lt_succ_self _))
  exact ⟨b, hb1, fun o fuel prior s' hx => (hb2 o fuel prior s' hx).2⟩

example : (tplT .real_ga [6, 2]).isSome = true ∧ budgetOf .real_ga [6, 2] = some (6, 6) ∧ ceilDiv (40 - 6) 6 = 6 := by decide +kernel
example : (tplT .ant_system [0]).isSome = true ∧ budgetOf .ant_system [0] = some (1, 0) := by decide
example : budgetOf .real_bh [3] = some (6, 3) ∧ firstStop (.or (.iterLt 2) (.evalLt 20)) 6 100 0 (some 3) = some 3 := by decide +kernel

/-- Iterated local search at every parameter point (`k` = neighbours per local-search pass), for every termination
condition `c` and local-search condition `ci` built from the two bounds: the tree the parameters describe carries the
evaluation amounts of `ilsB`, and EVERY terminating run — on a fresh state or on one a previous run has used — makes
`p0` outer passes, each containing one local search of exactly `m` passes, where `p0` is the stopping index of `c`
with one evaluation per outer pass after the initial one, and `m` that of `ci` with `k` evaluations per pass from
fresh counters. -/
theorem ils_counts_all_parameters (name : Tid) (hn : name = .real_ils ∨ name = .permutation_ils)
    (ps : List Nat) (t : SComp) (ht : tplT name ps = some t) (c ci : BCond)
    (hc : c.static = true) (hci : ci.static = true) (F p0 m : Nat)
    (h0 : firstStop c 1 F 0 (some 1) = some p0) (hm : firstStop ci (ps.headD 0) F 0 (some 0) = some m) :
    ∃ b, toBTop t [c, ci] = some b ∧
      ∀ (o : BOracle) (fuel : Nat) (prior : Lvl) (s' : BSt), brun o fuel b prior = some s' →
        s'.lvls = [⟨some p0, some (1 + p0)⟩] ∧ s'.runs = repLog p0 [(1, m)] ++ [(0, p0)] := by
  have hb : toBTop t [c, ci] = some (ilsB (ps.headD 0) c ci) := by
    rcases hn with rfl | rfl
    · match ps, ht with
      | [k, _], ht => cases ht; exact ils_toB k c ci
    · match ps, ht with
      | [k, _, _], ht => cases ht; exact ils_toB k c ci
  exact ⟨_, hb, fun o fuel prior s' hx =>
    pass_counts_sound o F fuel _ prior _ _ s' (ils_predict _ c ci hc hci F p0 m prior h0 hm) hx⟩

/-- With the numbers: `n` requested iterations, a local search with an evaluation budget of `bud` and `k ≥ 1`
neighbours per pass — `n` outer passes and `⌈bud / k⌉` passes in EVERY local search (the point at which the trial change
`seeded/C16-sub4-p2` — `PopulationEvaluator::init` with `entry().or_default()` — is shown: `k = 2`, `bud = 6`, `n = 5`
gives 5 × 3). -/
theorem ils_evaluation_budget (name : Tid) (hn : name = .real_ils ∨ name = .permutation_ils)
    (ps : List Nat) (t : SComp) (ht : tplT name ps = some t) (n bud F : Nat)
    (hk : 1 ≤ ps.headD 0) (hF : n < F ∧ ceilDiv bud (ps.headD 0) < F) :
    ∃ b, toBTop t [.iterLt n, .evalLt bud] = some b ∧
      ∀ (o : BOracle) (fuel : Nat) (prior : Lvl) (s' : BSt), brun o fuel b prior = some s' →
        s'.runs = repLog n [(1, ceilDiv bud (ps.headD 0))] ++ [(0, n)] := by
  obtain ⟨b, hb, hr⟩ := ils_counts_all_parameters name hn ps t ht (.iterLt n) (.evalLt bud) rfl rfl F n
    (ceilDiv bud (ps.headD 0))
    (budget_iterations n 1 F 0 (some 1) hF.1)
    (by simpa using budget_evaluations bud (ps.headD 0) F 0 0 hk (by simpa using hF.2))
  exact ⟨b, hb, fun o fuel prior s' hx => (hr o fuel prior s' hx).2⟩

/-! Non-vacuity: the hypotheses are met and the interpreter runs. -/
-- the point of `seeded/C16-sub4-p2`: 2 neighbours, budget 6, 5 outer iterations
example : (tplT .real_ils [2, 0]).isSome = true ∧ (1 ≤ ([2, 0] : List Nat).headD 0) ∧ ceilDiv 6 2 = 3 := by decide
example : ((tplT .real_ils [2, 0]).bind fun t => toBTop t [.iterLt 5, .evalLt 6]).bind
    (fun b => (brun ⟨fun _ => true, fun _ => false, fun _ => 0⟩ 400 b Lvl.empty).map (·.runs))
    = some [(1, 3), (1, 3), (1, 3), (1, 3), (1, 3), (0, 5)] := by decide +kernel
-- … and on a state a previous run has used
example : ((tplT .real_ils [2, 0]).bind fun t => toBTop t [.iterLt 5, .evalLt 6]).bind
    (fun b => (brun ⟨fun _ => true, fun _ => false, fun _ => 0⟩ 400 b ⟨some 5, some 6⟩).map (·.runs))
    = some [(1, 3), (1, 3), (1, 3), (1, 3), (1, 3), (0, 5)] := by decide +kernel
-- permutation_ils, 4 neighbours, budget 10: passes at 0, 4 and 8 evaluations
example : ((tplT .permutation_ils [4, 2, 0]).bind fun t => toBTop t [.iterLt 2, .evalLt 10]).bind
    (fun b => predictRun 100 b Lvl.empty) = some (⟨some 2, some 3⟩, [(1, 3), (1, 3), (0, 2)]) := by decide +kernel
-- composite conditions on both levels
example : firstStop (.and (.iterLt 9) (.evalLt 5)) 2 100 0 (some 0) = some 3 ∧
    firstStop (.or (.iterLt 2) (.evalLt 9)) 1 100 0 (some 1) = some 8 := by decide +kernel
-- a template without nesting under an evaluation budget: `real_ga`, 6 individuals, budget 40 → 6 passes after the
-- initial 6 evaluations
example : ((tplT .real_ga [6, 2]).bind fun t => toBTop t [.evalLt 40]).bind (fun b => predictRun 100 b Lvl.empty)
    = some (⟨some 6, some 42⟩, [(0, 6)]) := by decide +kernel
example : directB ownCounter = 1 ∧ evalLeaves ownCounter = 1 := by decide

end MahfModel.Props.C16.Budget
