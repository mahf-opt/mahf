/-
C01 — the state registry is a stack of typed maps with innermost-scope resolution.
The property theorems; the lemmas they rest on are in `Proofs/C01*.lean`.
-/
import MahfModel.Proofs.C01X
import MahfModel.Proofs.C01Run
import MahfModel.Proofs.C01Nodup
namespace MahfModel.Props.C01
open MahfModel.Registry MahfModel.Borrow MahfModel.RegistryX

/-- Refinement, one step, for each of the 33 operation kinds (incl. every entry combinator and value access
next to a live guard on the same type): from a
registry that has its own map and no live guard, the code-shaped model (association lists, `RefCell`
flags, `find` + index arithmetic) keeps that invariant, answers what the stack of partial maps answers,
and moves to the abstraction of the stack's next state. -/
theorem step_refines (r : Reg) (op : ROp) (h : Inv r) :
    Inv (step r op).1 ∧ (step r op).2 = (specStep (abs r) op).2 ∧
      abs (step r op).1 = (specStep (abs r) op).1 :=
  Registry.step_refines r op h

/-- Refinement, every finite history from every such registry. -/
theorem history_refines_from (r : Reg) (ops : List ROp) (h : Inv r) :
    Inv (run r ops).1 ∧ (run r ops).2 = (specRun (abs r) ops).2 ∧ abs (run r ops).1 = (specRun (abs r) ops).1 := by
  induction ops generalizing r with
  | nil => exact ⟨h, rfl, rfl⟩
  | cons op ops ih =>
    obtain ⟨h1, h2, h3⟩ := Registry.step_refines r op h
    obtain ⟨i1, i2, i3⟩ := ih (step r op).1 h1
    simp only [run, specRun]
    rw [← h3, ← h2]
    exact ⟨i1, by rw [i2], i3⟩

/-- Every finite history from `StateRegistry::new()` returns exactly what a stack of maps returns. -/
theorem history_refines (ops : List ROp) : (run new ops).2 = (specRun [PMap.empty] ops).2 :=
  (history_refines_from new ops inv_new).2.1

mutual
  /-- Refinement for the State-level scope helper too: a statement is a registry operation or
  `with_inner_state(|s| { body; ok/err })` with any nesting; whether the closure returns `Ok` or `Err` the
  scope is popped, the outer values are as the body left them and (on `Ok`) the child's map is returned. -/
  theorem stmt_refines (s : Stmt) (r : Reg) (h : Inv r) (hf : Stmt.holdFree s) :
      Inv (execStmt r s).1 ∧ (execStmt r s).2 = (specExecStmt (abs r) s).2 ∧
        abs (execStmt r s).1 = (specExecStmt (abs r) s).1 := by
    cases s with
    | op o =>
      obtain ⟨h1, h2, h3⟩ := step_refines r o h
      simp only [execStmt, specExecStmt]
      exact ⟨h1, by rw [h2], h3⟩
    | hold k d ok body => exact absurd hf (by simp only [Stmt.holdFree, not_false_eq_true])
    | inner ok body =>
      simp only [Stmt.holdFree] at hf
      obtain ⟨i1, i2, i3⟩ := prog_refines body (intoChild r) (inv_intoChild r h) hf
      rw [show abs (intoChild r) = PMap.empty :: abs r from rfl] at i2 i3
      simp only [execStmt, specExecStmt]
      rw [← i2, ← i3]
      rcases intoParent_cases _ i1 with ⟨c, s, p, hr, hip, hI⟩ | ⟨c, hr, hip⟩ <;> rw [hip, hr]
      · exact ⟨hI, rfl, rfl⟩
      · exact ⟨inv_new, rfl, rfl⟩
  theorem prog_refines (p : Prog) (r : Reg) (h : Inv r) (hf : Prog.holdFree p) :
      Inv (execProg r p).1 ∧ (execProg r p).2 = (specExecProg (abs r) p).2 ∧
        abs (execProg r p).1 = (specExecProg (abs r) p).1 := by
    cases p with
    | nil => exact ⟨h, rfl, rfl⟩
    | cons s rest =>
      simp only [Prog.holdFree] at hf
      obtain ⟨h1, h2, h3⟩ := stmt_refines s r h hf.1
      obtain ⟨i1, i2, i3⟩ := prog_refines rest _ h1 hf.2
      simp only [execProg, specExecProg]
      rw [← h3, ← h2]
      exact ⟨i1, by rw [i2], i3⟩
end

/-- … and for every finite history of such statements from `State::new()` (what the driver replays). -/
theorem history_refines_stmts (p : Prog) (hf : Prog.holdFree p) :
    (execProg new p).2 = (specExecProg [PMap.empty] p).2 :=
  (prog_refines p new inv_new hf).2.1

/-- A conflicting value access while a guard on the innermost holder is alive is refused and never
redirected to the value shadowed further out: nothing changes, in particular no outer scope. -/
theorem guarded_access_refused (r : Reg) (k : Key) (v : Nat) (i : Nat) (h : Inv r) (hf : find r k = some i) :
    step r (.gset k v) = (r, .none) ∧ step r (.gget k) = (r, .err .conflictImm) := by
  obtain ⟨c, hc⟩ := find_cell r k i hf
  exact ⟨(step_guarded_found r k i c h.2 hf hc).1 v, (step_guarded_found r k i c h.2 hf hc).2⟩

/-- Lookups, removals and in-place entry access resolve to the innermost scope holding the type: `find`
returns the first scope whose own map has it, and every accessor reads / removes / writes THAT cell. -/
theorem lookup_innermost (r : Reg) (k : Key) (i v : Nat) (h : Inv r) (hf : find r k = some i) :
    (scopeAt r i).has k = true ∧ (∀ j, j < i → (scopeAt r j).has k = false) ∧
    ∃ c, cellAt r i k = some c ∧
      step r (.find k) = (r, .depth i) ∧ step r (.tryGet k) = (r, .val c.val) ∧ step r (.get k) = (r, .val c.val) ∧
      step r (.rem k) = (modifyAt r i (·.erase k), .val c.val) ∧
      step r (.set k v) = (writeAt r i k (fun _ => v), .val c.val) ∧
      step r (.getMut k v) = (writeAt r i k (fun _ => v), .val c.val) ∧
      step r (.occGet k) = (r, .val c.val) ∧
      step r (.occIns k v) = (modifyAt r i (·.put k (fresh v)), .val c.val) ∧
      step r (.occRem k) = (modifyAt r i (·.erase k), .val c.val) ∧
      step r (.entOrIns k v) = (r, .val c.val) := by
  obtain ⟨c, hc⟩ := find_cell r k i hf
  have hl := lookup_found r k i c hf hc
  have hw := (quiet_cell r i k c h.2 hc).2
  refine ⟨find_has r k i hf, fun j hj => find_first r k i j hf hj, c, hc, ?_⟩
  simp [step, hf, tryGetValue_quiet r k h.2, hl, Out.ofRes, Out.orPanic, remove, hc,
    setValue_quiet r k v i c h.2 hf hc, Out.ofOpt, getMut_found r k i hf, entry_found r k i hf, occGet, hw,
    occInsert, occRemove, orInsert_found r i k v c h.2 hc]

/-- The operation kinds `lookup_innermost` does not list resolve to the innermost holder as well. -/
theorem lookup_innermost_rest (r : Reg) (k : Key) (i v d : Nat) (h : Inv r) (hf : find r k = some i) :
    ∃ c, cellAt r i k = some c ∧
      step r (.take k) = (modifyAt r i (·.erase k), .val c.val) ∧
      step r (.has k) = (r, .bool true) ∧ step r (.hasTop k) = (r, .bool (decide (i = 0))) ∧
      step r (.findMut k) = (r, .depth i) ∧ step r (.req k) = (r, .ok) ∧
      step r (.entOrWith k v) = (r, .val c.val) ∧ step r (.entOrDef k) = (r, .val c.val) ∧
      step r (.entMod k d) = (writeAt r i k (· + d), .bool true) ∧
      step r (.entModV k d) = (writeAt r i k (· + d), .bool true) ∧
      step r (.entModOrIns k d v) = (writeAt r i k (· + d), .val (c.val + d)) ∧
      step r (.occGetMut k v) = (writeAt r i k (fun _ => v), .val c.val) ∧
      step r (.occIntoMut k v) = (writeAt r i k (fun _ => v), .val c.val) ∧
      step r (.vacIns k v) = (r, .occupied) := by
  obtain ⟨c, hc⟩ := find_cell r k i hf
  have hq' := quiet_writeAt r i k (· + d) h.2
  have hc' := cellAt_writeAt r i k (· + d) c hc
  have htop : containsAtTop r k = decide (i = 0) := by
    cases i with
    | zero => simpa [containsAtTop] using find_has r k 0 hf
    | succ j => simpa [containsAtTop] using find_first r k (j + 1) 0 hf (Nat.succ_pos j)
  refine ⟨c, hc, ?_⟩
  simp [step, hf, Out.orPanic, remove, hc, contains, htop, entry_found r k i hf,
    orInsert_found r i k _ c h.2 hc, andModify_found r i k d c h.2 hc, orInsert_found _ i k _ _ hq' hc',
    occWrite_quiet r i k _ c h.2 hc]

/-- `insert` always writes this registry's own (innermost) map, leaves every parent alone, and reports the
previous value of THAT map — not the one the lookup would have found further out. -/
theorem insert_top_reports_top (s : Scope) (p : Reg) (k : Key) (v : Nat) :
    step (s :: p) (.ins k v) = (s.put k (fresh v) :: p, .ofOpt (s.view k)) ∧
    find (s.put k (fresh v) :: p) k = some 0 ∧
    cellAt (s.put k (fresh v) :: p) 0 k = some (fresh v) := by
  refine ⟨by simp [step, Registry.insert, Scope.view], ?_, ?_⟩
  · simp [find_cons, Scope.has, Scope.get?_put]
  · simp [cellAt, scopeAt_zero, Scope.get?_put]

/-- Removing the innermost binding touches only that scope and re-exposes whatever the scopes further out
say about the type (its shadowed value, unchanged, or absence); other types are not affected. -/
theorem remove_innermost_reexposes (r : Reg) (k : Key) (i : Nat) (h : Inv r) (hf : find r k = some i) :
    (step r (.rem k)).1 = modifyAt r i (·.erase k) ∧
    (∀ j, j ≠ i → scopeAt (step r (.rem k)).1 j = scopeAt r j) ∧
    (∀ k', k' ≠ k → ∀ j, cellAt (step r (.rem k)).1 j k' = cellAt r j k') ∧
    find (step r (.rem k)).1 k = (find (r.drop (i + 1)) k).map (· + (i + 1)) ∧
    (step (step r (.rem k)).1 (.tryGet k)).2 = (step (r.drop (i + 1)) (.tryGet k)).2 := by
  obtain ⟨c, hc⟩ := find_cell r k i hf
  have hi := find_lt r k i hf
  have hr : (step r (.rem k)).1 = modifyAt r i (·.erase k) := by simp [step, remove, hf, hc]
  rw [hr]
  refine ⟨rfl, ?_, ?_, find_after_erase r k i hf, ?_⟩
  · intro j hj; rw [scopeAt_modifyAt r i j _ hi]; simp [hj]
  · intro k' hk' j
    rw [cellAt_erase_at r i k j k' hi, if_neg fun h => hk' h.2]
  · have hq' := quiet_erase_at r i k h.2
    simp only [step, tryGetValue_quiet _ k hq', tryGetValue_quiet _ k (quiet_drop r (i + 1) h.2),
      abs_erase_found r k i hf, abs_drop]
    rw [(updFirst_none_reexposes (abs r) k i (by rw [← find_abs]; exact hf)).1]

/-- An absent type is reported as an error / `None` / `vacant` and is never invented: no non-inserting
operation changes the registry; the inserting entry combinators put the new value into the top scope. -/
theorem absent_is_error_not_invented (r : Reg) (k : Key) (v d : Nat) (hf : find r k = none) :
    step r (.get k) = (r, .panic) ∧ step r (.tryGet k) = (r, .err .notFound) ∧
    step r (.set k v) = (r, .none) ∧ step r (.getMut k v) = (r, .none) ∧
    step r (.rem k) = (r, .err .notFound) ∧ step r (.take k) = (r, .panic) ∧
    step r (.has k) = (r, .bool false) ∧ step r (.hasTop k) = (r, .bool false) ∧
    step r (.find k) = (r, .err .notFound) ∧ step r (.findMut k) = (r, .err .notFound) ∧
    step r (.req k) = (r, .err .required) ∧
    step r (.entMod k d) = (r, .bool false) ∧ step r (.entModV k d) = (r, .bool false) ∧
    step r (.occGet k) = (r, .vacant) ∧ step r (.occGetMut k v) = (r, .vacant) ∧
    step r (.occIntoMut k v) = (r, .vacant) ∧ step r (.occIns k v) = (r, .vacant) ∧
    step r (.occRem k) = (r, .vacant) ∧
    step r (.entOrIns k v) = (modifyAt r 0 (·.put k (fresh v)), .val v) ∧
    step r (.entOrDef k) = (modifyAt r 0 (·.put k (fresh 0)), .val 0) ∧
    step r (.entModOrIns k d v) = (modifyAt r 0 (·.put k (fresh v)), .val v) ∧
    step r (.vacIns k v) = (modifyAt r 0 (·.put k (fresh v)), .val v) := by
  have h0 := find_none r k hf 0
  simp [step, hf, tryGetValue, tryBorrow, setValue_absent r k v hf, getMut, remove, contains, containsAtTop, h0,
    Out.orPanic, Out.ofRes, Out.ofOpt, entry_absent r k hf, andModify_absent, orInsert_absent, vacInsert]

/-- A multi-borrow that names an absent type fails as a whole: nothing is written through the references
obtained for the members that do exist (error for the `try_` accessor, panic for the panicking one). -/
theorem multi_absent_no_partial_write (r : Reg) (ks : List Key) (d : Nat) (k : Key) (hk : k ∈ ks)
    (hf : find r k = none) :
    (step r (.multi ks d)).1 = r ∧
    ((step r (.multi ks d)).2 = .err .notFound ∨ (step r (.multi ks d)).2 = .err .multi) ∧
    step r (.multiP ks d) = (r, .panic) := by
  have hall : ¬ ∀ k ∈ ks, (find r k).isSome = true := fun h' => by simpa [hf] using h' k hk
  cases hd : distinct ks <;> simp [step, tryGetMultipleMut, hd, getAllMut_err r ks hall]

example : find [[(.ty 0, fresh 1)]] (.ty 1) = none ∧ (Key.ty 1) ∈ [Key.ty 0, .ty 1] := by decide

/-- Every operation keeps the keys of every map unique (what `HashMap` guarantees). -/
theorem nodup_preserved (r : Reg) (op : ROp) (h : nodupKeys r) : nodupKeys (step r op).1 :=
  step_nodupKeys r op h

/-- Popping a scope: for every block of operations executed between `into_child` and the matching
`into_parent` (no raw push/pop and no `parent_mut()` write inside the block), the pop hands back exactly the
child's own map and the parent chain; a type the block never names is absent from the popped map and
untouched in the parents; and a type that was shadowed throughout (bound in the child whenever the block
named it) has, in every parent scope, the value it had before the push. -/
theorem pop_yields_inserted (r : Reg) (ops : List ROp) (h : Inv r) (hl : ∀ o ∈ ops, o.isLocal = true) :
    ∃ s p, (run (intoChild r) ops).1 = s :: p ∧ p.length = r.length ∧
      step (run (intoChild r) ops).1 .pop = (p, .popped s.view) ∧
      (∀ q, (∀ o ∈ ops, q ∉ o.keys) → s.view q = none ∧ vcol p q = vcol r q) ∧
      (∀ q, shadowedThroughout q (intoChild r) ops → vcol p q = vcol r q) := by
  have hc := inv_intoChild r h
  have hflat : ∀ o ∈ ops, o.flat = true := fun o ho => ROp.flat_of_isLocal o (hl o ho)
  obtain ⟨s, s', p', hrun, hlen⟩ := run_child r ops h hflat
  refine ⟨s, s' :: p', hrun, hlen, by rw [hrun]; rfl, fun q hq => ?_, fun q hsh => ?_⟩
  · have := run_frame (intoChild r) ops q hc hflat hq
    rw [hrun] at this
    exact List.cons.inj this
  · have := run_tail_frame ops q [] r hc hl hsh
    rwa [show (run ([] :: r) ops).1 = _ from hrun] at this

example : shadowedThroughout (.ty 0) (intoChild [[(.ty 0, fresh 1)]])
    [.ins (.ty 0) 2, .set (.ty 0) 5, .ins (.ty 1) 7, .entModOrIns (.ty 0) 1 9] :=
  ⟨fun _ => .inr ⟨2, rfl⟩, fun _ => .inl (by decide), fun h => absurd h (by decide), fun _ => .inl (by decide),
    trivial⟩

/-- "Popping a scope yields exactly the entries inserted into it", insert direction: whatever else the block
between `into_child` and `into_parent` does (no raw push/pop), a type whose last mention in the block is
`insert(v)` is in the popped map with exactly that value. -/
theorem pop_yields_last_insert (r : Reg) (pre post : List ROp) (q : Key) (v : Nat) (h : Inv r)
    (hpre : ∀ o ∈ pre, o.flat = true) (hpost : ∀ o ∈ post, o.flat = true) (hq : ∀ o ∈ post, q ∉ o.keys) :
    ∃ s p, (run (intoChild r) (pre ++ .ins q v :: post)).1 = s :: p ∧ p.length = r.length ∧
      s.view q = some v ∧ step (s :: p) .pop = (p, .popped s.view) := by
  obtain ⟨s, s', p', s1, p1, hrun, hlen, _, _, hfr⟩ := run_child_after r pre post (.ins q v) q h hpre rfl hpost hq
  refine ⟨s, s' :: p', hrun, hlen, (List.cons.inj hfr).1.trans ?_, rfl⟩
  rw [Scope.view_put]; exact if_pos rfl

/-- … removal direction: an entry of the new scope that the block removes (and does not mention again) is
not in the popped map, and removing it did not touch what the parents hold for that type. -/
theorem pop_forgets_removed (r : Reg) (pre post : List ROp) (q : Key) (h : Inv r)
    (hpre : ∀ o ∈ pre, o.flat = true) (hpost : ∀ o ∈ post, o.flat = true) (hq : ∀ o ∈ post, q ∉ o.keys)
    (htop : containsAtTop (run (intoChild r) pre).1 q = true) :
    ∃ s p, (run (intoChild r) (pre ++ .rem q :: post)).1 = s :: p ∧ p.length = r.length ∧
      s.view q = none ∧ vcol p q = (vcol (run (intoChild r) pre).1 q).tail ∧
      step (s :: p) .pop = (p, .popped s.view) := by
  obtain ⟨s, s', p', s1, p1, hrun, hlen, hpre1, h1, hfr⟩ := run_child_after r pre post (.rem q) q h hpre rfl hpost hq
  rw [hpre1] at htop ⊢
  have hf : find (s1 :: p1) q = some 0 := by rw [find_cons, show s1.has q = true from htop]; rfl
  rw [(remove_innermost_reexposes _ q 0 h1 hf).1] at hfr
  obtain ⟨h2, h3⟩ := List.cons.inj hfr
  refine ⟨s, s' :: p', hrun, hlen, h2.trans ?_, h3, rfl⟩
  rw [Scope.view_erase]; exact if_pos rfl

example : containsAtTop (run (intoChild [[(.ty 0, fresh 1)]]) [.ins (.ty 0) 2, .set (.ty 0) 5]).1 (.ty 0) = true ∧
    (∀ o ∈ [ROp.ins (.ty 1) 3, .tryGet (.ty 1)], (Key.ty 0) ∉ o.keys) := by
  decide

example : Inv [[(.ty 0, fresh 1)]] := ⟨by simp, by decide⟩

/-! Non-vacuity: a registry with shadowing satisfies `Inv`, and the refinement is about a real history. -/
example : Inv [[(.ty 0, fresh 2)], [(.ty 0, fresh 1), (.ty 1, fresh 5)]] := ⟨by simp, by decide⟩

example : ((run new [.ins (.ty 0) 1, .push, .ins (.ty 0) 2, .rem (.ty 0), .tryGet (.ty 0)]).2.map
    (Out.toSexp 2 · |>.render)) = ["none", "ok", "none", "(v 2)", "(v 1)"] := by decide +kernel

example : find [[(.ty 1, fresh 2)], [(.ty 0, fresh 1)]] (.ty 0) = some 1 := by decide

example : find [[(.ty 1, fresh 2)], [(.ty 0, fresh 1)]] (.ty 2) = none := by decide

example : nodupKeys [[(.ty 1, fresh 2), (.ty 0, fresh 4)], [(.ty 0, fresh 1)]] := by
  simp [nodupKeys, Scope.nodupKeys, Scope.keys]

example : (ROp.entModOrIns (.ty 0) 1 2).isLocal = true ∧ (ROp.parIns 0 (.ty 0) 2).isLocal = true := by decide

example : Prog.holdFree (.cons (.op (.ins (.ty 0) 1)) (.cons (.inner false (.cons (.op (.gset (.ty 0) 2))
    (.cons (.inner true .nil) .nil))) .nil)) := by simp [Prog.holdFree, Stmt.holdFree]

/-! ## Extended layer: the guard-returning accessors used as lookups, and writes through the `RefMut` of an
inserting entry combinator (`Model/RegistryX.lean`) -/

/-- Refinement, one step, for the extended operation kinds: the 33 base kinds plus `borrow`, `try_borrow`,
`borrow_mut`, `try_borrow_mut`, `borrow_value`, `try_borrow_value`, `borrow_value_mut`,
`try_borrow_value_mut` (guard taken, value read / replaced, guard dropped) and `*entry().or_insert(v) = w`,
`*entry().or_default() = w`. -/
theorem xstep_refines (r : Reg) (op : XOp) (h : Inv r) :
    Inv (xstep r op).1 ∧ (xstep r op).2 = (xspecStep (abs r) op).2 ∧
      abs (xstep r op).1 = (xspecStep (abs r) op).1 :=
  RegistryX.xstep_refines r op h

mutual
  /-- … for statements (extended operations and `with_inner_state` scopes, any nesting, ok and err) from every
  registry that has its own map and no live guard … -/
  theorem xstmt_refines (s : XStmt) (r : Reg) (h : Inv r) :
      Inv (execXStmt r s).1 ∧ (execXStmt r s).2 = (specExecXStmt (abs r) s).2 ∧
        abs (execXStmt r s).1 = (specExecXStmt (abs r) s).1 := by
    cases s with
    | op o =>
      obtain ⟨h1, h2, h3⟩ := xstep_refines r o h
      simp only [execXStmt, specExecXStmt]
      exact ⟨h1, by rw [h2], h3⟩
    | inner ok body =>
      obtain ⟨i1, i2, i3⟩ := xprog_refines body (intoChild r) (inv_intoChild r h)
      rw [show abs (intoChild r) = PMap.empty :: abs r from rfl] at i2 i3
      simp only [execXStmt, specExecXStmt]
      rw [← i2, ← i3]
      rcases intoParent_cases _ i1 with ⟨c, s, p, hr, hip, hI⟩ | ⟨c, hr, hip⟩ <;> rw [hip, hr]
      · exact ⟨hI, rfl, rfl⟩
      · exact ⟨inv_new, rfl, rfl⟩
  theorem xprog_refines (p : XProg) (r : Reg) (h : Inv r) :
      Inv (execXProg r p).1 ∧ (execXProg r p).2 = (specExecXProg (abs r) p).2 ∧
        abs (execXProg r p).1 = (specExecXProg (abs r) p).1 := by
    cases p with
    | nil => exact ⟨h, rfl, rfl⟩
    | cons s rest =>
      obtain ⟨h1, h2, h3⟩ := xstmt_refines s r h
      obtain ⟨i1, i2, i3⟩ := xprog_refines rest _ h1
      simp only [execXProg, specExecXProg]
      rw [← h3, ← h2]
      exact ⟨i1, by rw [i2], i3⟩
end

/-- … and for every finite history of such statements from `State::new()` (what the driver replays). -/
theorem history_refines_xstmts (p : XProg) : (execXProg new p).2 = (specExecXProg [PMap.empty] p).2 :=
  (xprog_refines p new inv_new).2.1

/-- The guard-returning accessors resolve to the innermost scope holding the type: each of them reads, or
replaces the value of, the cell `find` points to; a write changes that one cell and no other scope. -/
theorem guard_accessors_innermost (r : Reg) (k : Key) (i v w : Nat) (h : Inv r) (hf : find r k = some i) :
    ∃ c, cellAt r i k = some c ∧
      xstep r (.bor k) = (r, .val c.val) ∧ xstep r (.tryBor k) = (r, .val c.val) ∧
      xstep r (.bval k) = (r, .val c.val) ∧ xstep r (.tryBval k) = (r, .val c.val) ∧
      xstep r (.borMut k v) = (writeAt r i k (fun _ => v), .val c.val) ∧
      xstep r (.tryBorMut k v) = (writeAt r i k (fun _ => v), .val c.val) ∧
      xstep r (.bvalMut k v) = (writeAt r i k (fun _ => v), .val c.val) ∧
      xstep r (.tryBvalMut k v) = (writeAt r i k (fun _ => v), .val c.val) ∧
      xstep r (.entOrInsW k v w) = (writeAt r i k (fun _ => w), .val c.val) ∧
      xstep r (.entOrDefW k w) = (writeAt r i k (fun _ => w), .val c.val) ∧
      cellAt (writeAt r i k (fun _ => v)) i k = some { c with val := v } ∧
      (∀ j, j ≠ i → scopeAt (writeAt r i k (fun _ => v)) j = scopeAt r j) ∧
      (∀ k', k' ≠ k → ∀ j, cellAt (writeAt r i k (fun _ => v)) j k' = cellAt r j k') := by
  obtain ⟨c, hc⟩ := find_cell r k i hf
  have hi := find_lt r k i hf
  refine ⟨c, hc, ?_⟩
  simp only [xstep, readGuard_eq, tryGetValue_quiet r k h.2, lookup_found r k i c hf hc,
    writeGuard_found r k _ i c h.2 hf hc, Out.orPanic,
    Out.ofRes, entry_found r k i hf, orInsertW_found r i k _ _ c h.2 hc, true_and]
  refine ⟨cellAt_writeAt r i k _ c hc, ?_, ?_⟩
  · intro j hj; simp only [writeAt]; rw [scopeAt_modifyAt r i j _ hi]; simp [hj]
  · intro k' hk' j
    rw [writeAt, cellAt_modify_at, if_neg fun h => hk' h.2]

/-- … and never invent an absent type: the read and write accessors report `NotFound` (or panic, for the
panicking variants) and leave the registry untouched; only the inserting entry combinators create the
type, in the top scope. -/
theorem guard_accessors_absent (r : Reg) (k : Key) (v w : Nat) (hf : find r k = none) :
    xstep r (.bor k) = (r, .panic) ∧ xstep r (.tryBor k) = (r, .err .notFound) ∧
    xstep r (.bval k) = (r, .panic) ∧ xstep r (.tryBval k) = (r, .err .notFound) ∧
    xstep r (.borMut k v) = (r, .panic) ∧ xstep r (.tryBorMut k v) = (r, .err .notFound) ∧
    xstep r (.bvalMut k v) = (r, .panic) ∧ xstep r (.tryBvalMut k v) = (r, .err .notFound) ∧
    xstep r (.entOrInsW k v w) = (modifyAt r 0 (·.put k (fresh w)), .val v) ∧
    xstep r (.entOrDefW k w) = (modifyAt r 0 (·.put k (fresh w)), .val 0) := by
  simp [xstep, readGuard_eq, tryGetValue, tryBorrow, hf, writeGuard_absent r k _ hf, Out.orPanic, Out.ofRes,
    entry_absent r k hf, orInsertW_absent]

example : find [[(.ty 1, fresh 2)], [(.ty 0, fresh 1)]] (.ty 0) = some 1 ∧
    (xstep [[(.ty 1, fresh 2)], [(.ty 0, fresh 1)]] (.bvalMut (.ty 0) 7)).1
      = [[(.ty 1, fresh 2)], [(.ty 0, fresh 7)]] := by decide +kernel

end MahfModel.Props.C01
