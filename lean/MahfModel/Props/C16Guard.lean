/-
C16 — "runs … without error or panic", for the documented SIZE PRECONDITIONS of the components.

* `guards_satisfied`: if the guard analysis answers on a tree (`guardsSafe`), then NO execution of the size
  interpreter — any oracle for conditions, seeds, other failures, any choice a component makes inside its interval,
  any fuel — ever reaches a component whose size precondition is violated: tournament size ≤ population size, enough
  individuals for a selection without repetition / a DE selection, exactly one individual for `CloneSingle` and the
  annealing acceptance, equal operands for `KeepBetterAtIndex`, DE format for `DEMutation`, two populations for every
  replacement, a current population for every selection / recombination.
* `violated_guard_is_reported`: the interpreter does report such a component (the statement is not vacuous), shown
  also on a genetic algorithm whose tournament is larger than its population (`oversized_tournament_refused`).
* `template_guards_all_parameters_partial`: for ALL parameter values that meet the size-related requirements
  (`guardValidT`), 19 of the 21 templates; *partial*: not invasive weed optimisation (invariant depends on the
  parameter values; evaluated per point below) and not chemical reaction optimisation (its double-molecule branch
  is protected by a population-size condition and its synthesis by `pc = 1`, both outside the size abstraction —
  explored on runs only).
* `<template>_v<i>_guards`: the verdict on the trees regenerated from the code in THIS run (20 templates).
What this does not cover: numeric failure modes (weights, NaN, degenerate distances — see the recorded findings),
components without a modelled precondition (swarm, firefly, black hole, ant colony), `SwapMutation`'s
`num_swap ≤ dimension` (depends on the problem instance, explored on runs).
-/
import MahfModel.Proofs.C16GuardParam
import MahfModel.Generated.TemplatesSized
namespace MahfModel.Props.C16.Guard
open MahfModel.Tpl MahfModel.Generated.Sized

/-- No execution ends at a violated size precondition. -/
theorem guards_satisfied (o : SOracle) (fuel : Nat) (t : SComp) (hs : guardsSafe t = true) :
    gexec o fuel t { stack := [], tick := 0, ok := true } ≠ .guard := by
  obtain ⟨a', ha⟩ := Option.isSome_iff_exists.1 hs
  intro hg
  have g := gexec_safe o fuel t [] a' ⟨[], 0, true⟩ ha trivial
  rwa [hg] at g

/-- … and an execution that runs to the end has its sizes inside the intervals the analysis computed. -/
theorem guards_satisfied_and_sized (o : SOracle) (fuel : Nat) (t : SComp) (a' : AbsStack) (s' : SSt)
    (ha : safeOf t [] = some a') (h : gexec o fuel t { stack := [], tick := 0, ok := true } = .ok s') :
    Conc s'.stack a' := by
  have g := gexec_safe o fuel t [] a' ⟨[], 0, true⟩ ha trivial
  rwa [h] at g

/-- The interval test decides the precondition for every concretisation. -/
theorem guard_interval_test_sound (k : LeafKind) (a b : Nat) (st : AbsStack) (s : List Nat)
    (hg : gabs k a b st = true) (hc : Conc s st) : guardC k a b s = true :=
  gabs_sound k a b st s hg hc

/-- A component reached with its precondition violated IS reported. -/
theorem violated_guard_is_reported (o : SOracle) (fuel : Nat) (k : LeafKind) (a b : Nat) (s : SSt)
    (hf : o.fails s.tick = false) (hg : guardC k a b s.stack = false) :
    gexec o (fuel + 1) (.leaf k a b) s = .guard := by
  simp [gexec, hf, hg]

/-- A genetic algorithm asked for tournaments of 3 among 2 individuals: the analysis refuses the tree and the
first pass ends at the tournament; with tournaments of 2 both are fine. -/
theorem oversized_tournament_refused :
    (tplT .real_ga [2, 3]).map guardsSafe = some false ∧
    (tplT .real_ga [2, 3]).map (fun t => match gexec ⟨fun _ => true, fun _ => false, fun _ => 0⟩ 60 t
      { stack := [], tick := 0, ok := true } with | .guard => true | _ => false) = some true ∧
    (tplT .real_ga [2, 2]).map guardsSafe = some true := by
  decide +kernel

/-- For all parameter values (19 templates). -/
theorem template_guards_all_parameters_partial (name : Tid) (ps : List Nat) (cool : Bool) (t : SComp)
    (hn1 : name ≠ .real_iwo) (hn2 : name ≠ .real_cro)
    (h : tplT name ps cool = some t) (hv : guardValidT name ps = true) : guardsSafe t = true :=
  tpl_guards_all name ps cool t hn1 hn2 h hv

/-! Non-vacuity: parameter points on the border of `guardValidT`, and a run of the interpreter. -/
example : guardValidT .real_ga [1, 1] = true ∧ guardValidT .real_de [2, 1] = true ∧ guardValidT .real_de [4, 2] = true ∧
    guardValidT .real_es [1, 0] = true ∧ guardValidT .real_ga [2, 3] = false ∧ guardValidT .real_de [3, 2] = false := by decide +kernel
example : (tplT .real_de [2, 1]).map (fun t => match gexec ⟨fun x => x < 30, fun _ => false, fun _ => 0⟩ 200 t
    { stack := [], tick := 0, ok := true } with | .ok s => s.stack | _ => []) = some [2] := by decide +kernel
example : guardC .Tournament 6 3 [2] = false ∧ guardC .Tournament 6 2 [2] = true ∧ guardC .CloneSingle 3 0 [2] = false ∧
    guardC .KeepBetterAtIndex 0 0 [3, 4] = false ∧ guardC .DEMutation 1 0 [7] = false ∧ guardC .DEMutation 1 0 [9] = true := by decide +kernel
-- chemical reaction optimisation is outside the analysis (it never answers `true` wrongly: it does not answer)
example : guardsSafe real_cro_v0 = false := by decide +kernel

/-! ### Per-template obligations on the regenerated trees -/
theorem real_ga_v0_guards : guardsSafe real_ga_v0 = true := by decide +kernel
theorem real_ga_v1_guards : guardsSafe real_ga_v1 = true := by decide +kernel
theorem real_ga_v2_guards : guardsSafe real_ga_v2 = true := by decide +kernel
theorem real_ga_v3_guards : guardsSafe real_ga_v3 = true := by decide +kernel
theorem binary_ga_v0_guards : guardsSafe binary_ga_v0 = true := by decide +kernel
theorem binary_ga_v1_guards : guardsSafe binary_ga_v1 = true := by decide +kernel
theorem binary_ga_v2_guards : guardsSafe binary_ga_v2 = true := by decide +kernel
theorem binary_ga_v3_guards : guardsSafe binary_ga_v3 = true := by decide +kernel
theorem real_es_v0_guards : guardsSafe real_es_v0 = true := by decide +kernel
theorem real_es_v1_guards : guardsSafe real_es_v1 = true := by decide +kernel
theorem real_es_v2_guards : guardsSafe real_es_v2 = true := by decide +kernel
theorem real_es_v3_guards : guardsSafe real_es_v3 = true := by decide +kernel
theorem real_de_v0_guards : guardsSafe real_de_v0 = true := by decide +kernel
theorem real_de_v1_guards : guardsSafe real_de_v1 = true := by decide +kernel
theorem real_de_v2_guards : guardsSafe real_de_v2 = true := by decide +kernel
theorem real_de_v3_guards : guardsSafe real_de_v3 = true := by decide +kernel
theorem real_pso_v0_guards : guardsSafe real_pso_v0 = true := by decide +kernel
theorem real_pso_v1_guards : guardsSafe real_pso_v1 = true := by decide +kernel
theorem real_pso_v2_guards : guardsSafe real_pso_v2 = true := by decide +kernel
theorem real_pso_v3_guards : guardsSafe real_pso_v3 = true := by decide +kernel
theorem real_sa_v0_guards : guardsSafe real_sa_v0 = true := by decide +kernel
theorem real_sa_v1_guards : guardsSafe real_sa_v1 = true := by decide +kernel
theorem real_sa_v2_guards : guardsSafe real_sa_v2 = true := by decide +kernel
theorem real_sa_v3_guards : guardsSafe real_sa_v3 = true := by decide +kernel
theorem permutation_sa_v0_guards : guardsSafe permutation_sa_v0 = true := by decide +kernel
theorem permutation_sa_v1_guards : guardsSafe permutation_sa_v1 = true := by decide +kernel
theorem permutation_sa_v2_guards : guardsSafe permutation_sa_v2 = true := by decide +kernel
theorem permutation_sa_v3_guards : guardsSafe permutation_sa_v3 = true := by decide +kernel
theorem real_ls_v0_guards : guardsSafe real_ls_v0 = true := by decide +kernel
theorem real_ls_v1_guards : guardsSafe real_ls_v1 = true := by decide +kernel
theorem real_ls_v2_guards : guardsSafe real_ls_v2 = true := by decide +kernel
theorem real_ls_v3_guards : guardsSafe real_ls_v3 = true := by decide +kernel
theorem permutation_ls_v0_guards : guardsSafe permutation_ls_v0 = true := by decide +kernel
theorem permutation_ls_v1_guards : guardsSafe permutation_ls_v1 = true := by decide +kernel
theorem permutation_ls_v2_guards : guardsSafe permutation_ls_v2 = true := by decide +kernel
theorem permutation_ls_v3_guards : guardsSafe permutation_ls_v3 = true := by decide +kernel
theorem real_ils_v0_guards : guardsSafe real_ils_v0 = true := by decide +kernel
theorem real_ils_v1_guards : guardsSafe real_ils_v1 = true := by decide +kernel
theorem real_ils_v2_guards : guardsSafe real_ils_v2 = true := by decide +kernel
theorem real_ils_v3_guards : guardsSafe real_ils_v3 = true := by decide +kernel
theorem permutation_ils_v0_guards : guardsSafe permutation_ils_v0 = true := by decide +kernel
theorem permutation_ils_v1_guards : guardsSafe permutation_ils_v1 = true := by decide +kernel
theorem permutation_ils_v2_guards : guardsSafe permutation_ils_v2 = true := by decide +kernel
theorem permutation_ils_v3_guards : guardsSafe permutation_ils_v3 = true := by decide +kernel
theorem real_rs_v0_guards : guardsSafe real_rs_v0 = true := by decide +kernel
theorem real_rs_v1_guards : guardsSafe real_rs_v1 = true := by decide +kernel
theorem real_rs_v2_guards : guardsSafe real_rs_v2 = true := by decide +kernel
theorem real_rs_v3_guards : guardsSafe real_rs_v3 = true := by decide +kernel
theorem permutation_rs_v0_guards : guardsSafe permutation_rs_v0 = true := by decide +kernel
theorem permutation_rs_v1_guards : guardsSafe permutation_rs_v1 = true := by decide +kernel
theorem permutation_rs_v2_guards : guardsSafe permutation_rs_v2 = true := by decide +kernel
theorem permutation_rs_v3_guards : guardsSafe permutation_rs_v3 = true := by decide +kernel
theorem real_rw_v0_guards : guardsSafe real_rw_v0 = true := by decide +kernel
theorem real_rw_v1_guards : guardsSafe real_rw_v1 = true := by decide +kernel
theorem real_rw_v2_guards : guardsSafe real_rw_v2 = true := by decide +kernel
theorem real_rw_v3_guards : guardsSafe real_rw_v3 = true := by decide +kernel
theorem permutation_rw_v0_guards : guardsSafe permutation_rw_v0 = true := by decide +kernel
theorem permutation_rw_v1_guards : guardsSafe permutation_rw_v1 = true := by decide +kernel
theorem permutation_rw_v2_guards : guardsSafe permutation_rw_v2 = true := by decide +kernel
theorem permutation_rw_v3_guards : guardsSafe permutation_rw_v3 = true := by decide +kernel
theorem real_iwo_v0_guards : guardsSafe real_iwo_v0 = true := by decide +kernel
theorem real_iwo_v1_guards : guardsSafe real_iwo_v1 = true := by decide +kernel
theorem real_iwo_v2_guards : guardsSafe real_iwo_v2 = true := by decide +kernel
theorem real_iwo_v3_guards : guardsSafe real_iwo_v3 = true := by decide +kernel
theorem real_fa_v0_guards : guardsSafe real_fa_v0 = true := by decide +kernel
theorem real_fa_v1_guards : guardsSafe real_fa_v1 = true := by decide +kernel
theorem real_fa_v2_guards : guardsSafe real_fa_v2 = true := by decide +kernel
theorem real_fa_v3_guards : guardsSafe real_fa_v3 = true := by decide +kernel
theorem real_bh_v0_guards : guardsSafe real_bh_v0 = true := by decide +kernel
theorem real_bh_v1_guards : guardsSafe real_bh_v1 = true := by decide +kernel
theorem real_bh_v2_guards : guardsSafe real_bh_v2 = true := by decide +kernel
theorem real_bh_v3_guards : guardsSafe real_bh_v3 = true := by decide +kernel
theorem ant_system_v0_guards : guardsSafe ant_system_v0 = true := by decide +kernel
theorem ant_system_v1_guards : guardsSafe ant_system_v1 = true := by decide +kernel
theorem ant_system_v2_guards : guardsSafe ant_system_v2 = true := by decide +kernel
theorem ant_system_v3_guards : guardsSafe ant_system_v3 = true := by decide +kernel
theorem max_min_ant_system_v0_guards : guardsSafe max_min_ant_system_v0 = true := by decide +kernel
theorem max_min_ant_system_v1_guards : guardsSafe max_min_ant_system_v1 = true := by decide +kernel
theorem max_min_ant_system_v2_guards : guardsSafe max_min_ant_system_v2 = true := by decide +kernel
theorem max_min_ant_system_v3_guards : guardsSafe max_min_ant_system_v3 = true := by decide +kernel

end MahfModel.Props.C16.Guard
