/-
C04 — Population stack is a faithful LIFO stack of populations.
The lemmas the theorems rest on are in `Proofs/C04.lean` (the stack) and `Proofs/C04Util.lean` (split, interleave).
-/
import MahfModel.Proofs.C04
import MahfModel.Proofs.C04Util
import MahfModel.Props.C04Data
namespace MahfModel.PopStack

/-! Vocabulary of the conservation theorem (`stack_conservation`). -/

/-- The plain stack operations (no edits, no utility components). -/
def stackOp : Op → Bool
  | .push _ | .pop | .tryPop | .cur | .getCur | .peek _ | .tryPeek _ | .rot _ | .cRot _ | .len | .empty => true
  | _ => false

def pushedBy : Op → List Pop
  | .push p => [p]
  | _ => []

def removedBy : Op → Out → List Pop
  | .pop, .pop p => [p]
  | .tryPop, .pop p => [p]
  | _, _ => []

def pushedAll (ops : List Op) : List Pop := ops.flatMap pushedBy

def removedAll : List Op → List Out → List Pop
  | op :: ops, o :: os => removedBy op o ++ removedAll ops os
  | _, _ => []

end MahfModel.PopStack

namespace MahfModel.Props.C04
open MahfModel.PopStack

/-- Refinement, one step: the `Vec`-with-index-arithmetic model returns what a plain stack returns. -/
theorem step_refines (s : Stk) (op : Op) :
    abs (step s op).1 = (specStep (abs s) op).1 ∧ (step s op).2 = (specStep (abs s) op).2 :=
  PopStack.step_refines s op

/-- Refinement, every finite history from every stack. -/
theorem history_refines (s : Stk) (ops : List Op) :
    abs (run s ops).1 = (specRun (abs s) ops).1 ∧ (run s ops).2 = (specRun (abs s) ops).2 := by
  rw [run_refines, abs_abs]; exact ⟨rfl, rfl⟩

/-- Every read at depth `d` returns the population a plain stack holds at that depth. -/
theorem try_peek_eq (s : Stk) (d : Nat) : tryPeek s d = (abs s)[d]? := PopStack.tryPeek_eq s d

/-- The non-panicking accessors answer `none` exactly on an empty / too shallow stack, and never panic. -/
theorem nonpanicking_none_iff (s : Stk) (d : Nat) :
    ((step s (.tryPeek d)).2 = .none ↔ s.length ≤ d) ∧
    ((step s .tryPop).2 = .none ↔ s = []) ∧
    ((step s .getCur).2 = .none ↔ s = []) ∧
    (step s (.tryPeek d)).2 ≠ .panic ∧ (step s .tryPop).2 ≠ .panic ∧ (step s .getCur).2 ≠ .panic := by
  refine ⟨?_, ?_, ?_, ?_, ?_, ?_⟩ <;> dsimp only [step]
  · rw [← tryPeek_eq_none_iff]; cases tryPeek s d <;> simp
  · rw [← vecPop_eq_none_iff]; rcases vecPop s with _ | ⟨p, s'⟩ <;> simp
  · rw [← List.getLast?_eq_none_iff]; cases s.getLast? <;> simp
  · cases tryPeek s d <;> simp
  · rcases vecPop s with _ | ⟨p, s'⟩ <;> simp
  · cases s.getLast? <;> simp

/-- The edit does not panic on the population it is applied to. -/
def editOk (e : Edit) (p : Pop) : Bool := (applyEdit e p).isSome

/-- `get_current_mut` answers `none` exactly on an empty stack; it hands out the vector, so only an edit that itself
panics (`editOk` excludes those) can fail: with any other edit the answer is `ok`. -/
theorem get_current_mut_none_iff (s : Stk) (e : Edit) :
    ((step s (.tryEdit e)).2 = .none ↔ s = []) ∧
    (∀ p, s.getLast? = some p → editOk e p = true → (step s (.tryEdit e)).2 = .ok) := by
  cases s using concat_cases with
  | nil => exact ⟨⟨fun _ => rfl, fun _ => rfl⟩, nofun⟩
  | concat r p =>
    dsimp only [step]
    simp only [vecPop_concat, List.getLast?_concat]
    refine ⟨?_, ?_⟩
    · cases applyEdit e p <;> simp
    · intro q hq hok
      obtain rfl := Option.some.inj hq
      obtain ⟨p', he⟩ := Option.isSome_iff_exists.mp hok
      rw [he]

/-- Whenever an operation answers `none` or panics, the stack is exactly what it was. -/
theorem failed_access_leaves_stack (s : Stk) (op : Op) (h : (step s op).2 = .none ∨ (step s op).2 = .panic) :
    (step s op).1 = s :=
  (step_spec s op).2.2 h

/-- The documented `# Panics` of the panicking accessors: exactly on an empty / too shallow stack. -/
theorem panics_iff (s : Stk) (d n : Nat) :
    ((step s .pop).2 = .panic ↔ s = []) ∧ ((step s .cur).2 = .panic ↔ s = []) ∧
    ((step s (.peek d)).2 = .panic ↔ s.length ≤ d) ∧ ((step s (.rot n)).2 = .panic ↔ s.length < n) ∧
    (∀ e, s = [] → (step s (.edit e)).2 = .panic) := by
  refine ⟨?_, ?_, ?_, by rw [step_rot_snd]; split <;> simp [*], by rintro e rfl; rfl⟩ <;> dsimp only [step]
  · rw [← vecPop_eq_none_iff]; rcases vecPop s with _ | ⟨p, s'⟩ <;> simp
  · rw [← List.getLast?_eq_none_iff]; cases s.getLast? <;> simp
  · rw [← tryPeek_eq_none_iff]; cases tryPeek s d <;> simp

/-- `pop` removes exactly the top population and returns it unchanged; `push` then restores the stack. -/
theorem pop_returns_top (s s' : Stk) (p : Pop) (h : step s .pop = (s', .pop p)) : s = s' ++ [p] := by
  cases s using concat_cases with
  | nil => cases h
  | concat r q =>
    dsimp only [step] at h
    simp only [vecPop_concat] at h
    cases h; rfl

/-- Push then pop returns the pushed population and the old stack (LIFO). -/
theorem push_pop (s : Stk) (p : Pop) :
    step (step s (.push p)).1 .pop = (s, .pop p) := by
  dsimp only [step]; simp only [vecPop_concat]

/-- `rotate n` shifts exactly the top `n` populations by one and leaves everything below alone. -/
theorem rotate_shifts_top_n (s : Stk) (n : Nat) (h : n ≤ s.length) :
    ∃ s', rotate s n = some s' ∧ abs s' = rotL1 ((abs s).take n) ++ (abs s).drop n :=
  rotate_eq s n h

/-- `n` rotations of the top `n` restore the original order — for every `n` up to the height. -/
theorem rotate_n_times_id (s : Stk) (n : Nat) (h : n ≤ s.length) :
    iter (fun x => (step x (.rot n)).1) n s = s := by
  apply abs_inj
  have hn : n ≤ (abs s).length := (abs_length s).symm ▸ h
  have ht : n ≤ ((abs s).take n).length := by rw [List.length_take]; omega
  rw [iter_refines, specRot_iter _ _ _ hn, rotL1_iter _ _ ht, List.drop_take_self, List.nil_append,
    List.take_take, Nat.min_self, List.take_append_drop]

/-- A rotation within the height does not panic (stated for one rotation; it keeps the height, `rotate_perm`). -/
theorem rotate_within_height_ok (s : Stk) (n : Nat) (h : n ≤ s.length) : (step s (.rot n)).2 = .ok := by
  rw [step_rot_snd, if_neg (Nat.not_lt.mpr h)]

/-- `RotatePopulations` reports an insufficient height as `Err` and never panics. -/
theorem rotate_component_guard (s : Stk) (n : Nat) :
    ((step s (.cRot n)).2 = .err ↔ s.length < n) ∧ (step s (.cRot n)).2 ≠ .panic := by
  rw [step_cRot_snd]; split <;> simp [*]

/-- `RotatePopulations(n)` executed `n` times restores the order as well, and the first execution answers `ok`
(each keeps the height, so the same holds of the others). -/
theorem rotate_component_n_times_id (s : Stk) (n : Nat) (h : n ≤ s.length) :
    iter (fun x => (step x (.cRot n)).1) n s = s ∧ (step s (.cRot n)).2 = .ok := by
  refine ⟨?_, by rw [step_cRot_snd, if_neg (Nat.not_lt.mpr h)]⟩
  rw [funext fun x => step_cRot_fst x n]
  exact rotate_n_times_id s n h

/-- Stack operations never touch the individuals of a population: rotation permutes the populations … -/
theorem rotate_perm (s s' : Stk) (n : Nat) (h : rotate s n = some s') : s'.Perm s := by
  simp only [rotate] at h
  split at h
  · cases h
  · cases h
    refine .trans ?_ (.of_eq (List.take_append_drop (s.length - n) s))
    apply List.Perm.append_left
    cases s.drop (s.length - n) using concat_cases with
    | nil => exact .refl _
    | concat seg x => rw [rotR1_concat]; exact (List.perm_append_singleton x seg).symm

/-- … and every population read back is one that is on the stack. -/
theorem read_is_member (s : Stk) (d : Nat) (p : Pop) (h : tryPeek s d = some p) : p ∈ s := by
  rw [tryPeek_eq] at h
  exact List.mem_reverse.mp (List.mem_of_getElem? h)

/-- Operations that neither add nor remove populations nor touch their contents. -/
def readOnly : Op → Bool
  | .cur | .getCur | .peek _ | .tryPeek _ | .rot _ | .cRot _ | .len | .empty => true
  | _ => false

/-- One reading / rotating operation leaves the stack a permutation of what it was: the same populations,
each with the same individuals in the same order. -/
theorem readonly_op_perm (s : Stk) (op : Op) (h : readOnly op = true) : (step s op).1.Perm s := by
  have hrot : ∀ n, (step s (.rot n)).1.Perm s := by
    intro n
    dsimp only [step]
    cases hr : rotate s n with
    | none => exact .refl _
    | some s' => exact rotate_perm s s' n hr
  cases op with
  | cur | getCur => dsimp only [step]; cases s.getLast? <;> exact .refl _
  | peek d | tryPeek d => dsimp only [step]; cases tryPeek s d <;> exact .refl _
  | len | empty => exact .refl _
  | rot n => exact hrot n
  | cRot n => rw [step_cRot_fst]; exact hrot n
  | _ => cases h

/-- … and so does every finite history of reading / rotating operations (pushes and pops: `stack_conservation`). -/
theorem stack_ops_preserve_individuals (s : Stk) (ops : List Op) (h : ∀ op ∈ ops, readOnly op = true) :
    (run s ops).1.Perm s := by
  induction ops generalizing s with
  | nil => exact List.Perm.refl _
  | cons op ops ih =>
    simp only [run]
    have h1 := readonly_op_perm s op (h op List.mem_cons_self)
    have h2 := ih (step s op).1 (fun o ho => h o (List.mem_cons_of_mem _ ho))
    exact h2.trans h1

/-! ### Conservation over histories with pushes and pops -/

theorem stack_op_conserves (s : Stk) (op : Op) (h : stackOp op = true) :
    ((step s op).1 ++ removedBy op (step s op).2).Perm (s ++ pushedBy op) := by
  cases op with
  | push p => exact .of_eq (List.append_nil _)
  | pop | tryPop =>
    cases s using concat_cases with
    | nil => exact .refl _
    | concat r q => dsimp only [step]; simp [vecPop_concat, removedBy, pushedBy]
  | cur | getCur | peek | tryPeek | rot | cRot | len | empty =>
    simp only [removedBy, pushedBy, List.append_nil]
    exact readonly_op_perm s _ rfl
  | _ => cases h

/-- Over every history of pushes, pops, reads and rotations nothing is lost, duplicated or altered: what is on the
stack at the end together with what the pops handed out is, population by population (same individuals, same order,
same objective values), what was there at the start together with what was pushed. -/
theorem stack_conservation (s : Stk) (ops : List Op) (h : ∀ op ∈ ops, stackOp op = true) :
    ((run s ops).1 ++ removedAll ops (run s ops).2).Perm (s ++ pushedAll ops) := by
  induction ops generalizing s with
  | nil => exact .refl _
  | cons op ops ih =>
    have h1 := stack_op_conserves s op (h op List.mem_cons_self)
    have h2 := ih (step s op).1 (fun o ho => h o (List.mem_cons_of_mem _ ho))
    simp only [run, removedAll, pushedAll, List.flatMap_cons] at h2 ⊢
    -- final ++ (rem ++ remAll) ~ rem ++ (final ++ remAll) ~ rem ++ (s' ++ pushedAll) = (rem ++ s') ++ pushedAll
    refine (List.perm_append_comm_assoc _ _ _).trans ((h2.append_left _).trans ?_)
    rw [← List.append_assoc, ← List.append_assoc]
    exact (List.perm_append_comm.trans h1).append_right _

/-! ### In-place edits -/

/-- An in-place edit through `current_mut` / `get_current_mut` — any edit, also one that panics half way —
changes nothing but the top population: the height and every read below the top are what they were, and the
top is the edited vector (or the old one when the edit panicked). -/
theorem edit_touches_top_only (s : Stk) (e : Edit) (d : Nat) :
    (step s (.edit e)).1.length = s.length ∧
    tryPeek (step s (.edit e)).1 (d + 1) = tryPeek s (d + 1) ∧
    (∀ p, tryPeek s 0 = some p → tryPeek (step s (.edit e)).1 0 = some ((applyEdit e p).getD p)) ∧
    (step s (.tryEdit e)).1 = (step s (.edit e)).1 := by
  cases s using concat_cases with
  | nil => exact ⟨rfl, rfl, nofun, rfl⟩
  | concat r p =>
    -- panicking or not, the edit leaves `(applyEdit e p).getD p` on top
    have h1 : ∀ op, op = Op.edit e ∨ op = Op.tryEdit e →
        (step (r ++ [p]) op).1 = r ++ [(applyEdit e p).getD p] := by
      rintro _ (rfl | rfl) <;> dsimp only [step] <;> simp only [vecPop_concat] <;> cases applyEdit e p <;> rfl
    rw [h1 _ (.inl rfl), h1 _ (.inr rfl)]
    simp only [List.length_append, List.length_singleton, tryPeek_eq, abs_concat, List.getElem?_cons_succ,
      List.getElem?_cons_zero, Option.some.injEq, forall_eq', and_self]

/-! ### Utility components -/

/-- `SplitPopulationByObjectiveValue`, whichever order the unstable sort leaves equal objective values in (`ws`):
it keeps exactly the individuals it was given, puts `⌈n/2⌉` of them on top and `⌊n/2⌋` below, everything is
evaluated, and no individual of the top half has a larger objective value than one of the lower half. -/
theorem split_spec (p lower upper : Pop) (ws : Option (Pop × Pop)) (h : splitPop p ws = some (lower, upper)) :
    (lower ++ upper).Perm p ∧ lower.length = (p.length + 1) / 2 ∧ upper.length = p.length / 2 ∧
    ∀ a ∈ lower, ∀ b ∈ upper, ∃ x y, a.obj = some x ∧ b.obj = some y ∧ x ≤ y := by
  revert h
  refine splitPop_cases p ws (fun _ => nofun) (fun l u hs hl h => ?_)
  cases h
  obtain ⟨h1, h2, h3⟩ := (splitLegal_iff p lower upper).mp hl
  refine ⟨h2, h1, ?_, fun a ha b hb => ?_⟩
  · have := h2.length_eq
    rw [List.length_append, h1] at this
    exact Nat.add_left_cancel (this.trans (half_add_half p.length).symm)
  · have hev := ((splittable_iff p).mp hs).2
    obtain ⟨x, hx⟩ := Option.isSome_iff_exists.mp (hev a (h2.subset (List.mem_append_left _ ha)))
    obtain ⟨y, hy⟩ := Option.isSome_iff_exists.mp (hev b (h2.subset (List.mem_append_right _ hb)))
    have := (List.pairwise_append.mp h3).2.2 a ha b hb
    rw [key, key, hx, hy] at this
    exact ⟨x, y, hx, hy, this⟩

/-- It panics exactly on fewer than two individuals or on an individual that is not evaluated. -/
theorem split_panics_iff (p : Pop) (ws : Option (Pop × Pop)) :
    splitPop p ws = none ↔ (p.length < 2 ∨ ∃ i ∈ p, i.obj = none) := by
  rw [splitPop_eq_none_iff, ← Bool.not_eq_true, splittable_iff, ← Nat.not_le, ← Decidable.imp_iff_not_or]
  simp

/-- The model is really nondeterministic: every legal pair of halves is accepted as it is, and the stable sort is
one of the legal outcomes (so there always is one). -/
theorem split_accepts_every_legal_outcome (p l u : Pop) (hs : splittable p = true) (hl : splitLegal p l u = true) :
    splitPop p (some (l, u)) = some (l, u) ∧ splitLegal p (splitCanon p).1 (splitCanon p).2 = true := by
  refine ⟨?_, splitCanon_legal p⟩
  unfold splitPop
  rw [if_pos hs]
  exact if_pos hl

/-- `InterleavePopulations` on `a` (top) and `b` (below): alternates `a[0], b[0], a[1], b[1], …` while both last and
appends the rest of the longer; so it holds exactly the individuals of both, each population in its own order. -/
theorem interleave_spec (a b : Pop) :
    interleave a b = (List.zip a b).flatMap (fun xy => [xy.1, xy.2]) ++ a.drop b.length ++ b.drop a.length ∧
    (interleave a b).Perm (a ++ b) ∧ a.Sublist (interleave a b) ∧ b.Sublist (interleave a b) :=
  ⟨interleave_eq a b, interleave_perm a b, interleave_sublist_left a b, interleave_sublist_right a b⟩

/-- `DuplicatePopulation`: every individual is immediately followed by its (identical, equally evaluated) duplicate. -/
theorem duplicate_spec (p : Pop) : interleave p p = p.flatMap (fun i => [i, i]) := by
  induction p with
  | nil => rfl
  | cons x xs ih => simp [interleave, ih]

/-- After a panic inside `InterleavePopulations` / `SplitPopulationByObjectiveValue` the stack is either untouched or has
lost exactly the population(s) popped so far, and the reported height is the real one — for every witness. -/
theorem component_panic_state (s : Stk) (op : Op) (h : Nat)
    (hop : (∃ w, op = .cIleave w) ∨ (∃ w ws, op = .cSplit w ws))
    (hp : (step s op).2 = .panicH h) :
    h = (step s op).1.length ∧ ((step s op).1 = s ∨ (step s op).1 = s.dropLast) := by
  rcases hop with ⟨w, rfl⟩ | ⟨w, ws, rfl⟩ <;> revert hp <;> dsimp only [step]
  · cases s using concat_cases with
    | nil => rintro ⟨⟩; exact ⟨rfl, .inl rfl⟩
    | concat r p =>
      simp only [vecPop_concat]
      cases r using concat_cases with
      | nil =>
        dsimp only [vecPop_nil]
        split <;> rintro ⟨⟩
        · exact ⟨rfl, .inl rfl⟩
        · exact ⟨rfl, .inr rfl⟩
      | concat r q => simp only [vecPop_concat]; nofun
  · cases s using concat_cases with
    | nil => rintro ⟨⟩; exact ⟨rfl, .inl rfl⟩
    | concat r p =>
      simp only [vecPop_concat]
      rcases splitPop p ws with _ | ⟨l, u⟩
      · dsimp only
        split <;> rintro ⟨⟩
        · exact ⟨rfl, .inl rfl⟩
        · exact ⟨rfl, .inr List.dropLast_concat.symm⟩
      · nofun

/-! Non-vacuity: the hypotheses are met by concrete non-trivial inputs. -/
def st4 : Stk := [[ev 1], [ev 2, ev 3], [ev 4], [ev 5]]
example : (3 : Nat) ≤ st4.length := by decide +kernel
example : ∀ op ∈ [Op.rot 2, .peek 1, .cRot 3, .len], readOnly op = true := by decide +kernel
example : ∀ op ∈ [Op.push [ev 7], .rot 2, .pop, .tryPop, .peek 1, .push [], .cRot 3], stackOp op = true := by decide +kernel
example : iter (fun x => (step x (.rot 3)).1) 3 st4 = st4 := by decide +kernel
example : (step st4 (.rot 3)).1 = [[ev 1], [ev 5], [ev 2, ev 3], [ev 4]] := by decide +kernel
/-- ties: tags 1 and 2 share the objective value 7; both orders of the pair are legal. -/
def tied : Pop := [⟨1, some 7⟩, ⟨2, some 7⟩, ⟨3, some 1⟩]
example : splittable tied = true := by decide +kernel
example : splitLegal tied [⟨3, some 1⟩, ⟨1, some 7⟩] [⟨2, some 7⟩] = true := by decide +kernel
example : splitLegal tied [⟨3, some 1⟩, ⟨2, some 7⟩] [⟨1, some 7⟩] = true := by decide +kernel
example : splitLegal tied [⟨1, some 7⟩, ⟨3, some 1⟩] [⟨2, some 7⟩] = false := by decide +kernel
example : splitPop [⟨1, some 7⟩, ⟨2, none⟩] none = none := by decide +kernel
example : splitPop tied (some ([⟨3, some 1⟩, ⟨2, some 7⟩], [⟨1, some 7⟩])) = some ([⟨3, some 1⟩, ⟨2, some 7⟩], [⟨1, some 7⟩]) := by decide +kernel
example : (splitPop tied none).isSome = true := by decide +kernel
example : (step [[ev 1]] (.peek 1)).2 = .panic ∧ (step [[ev 1]] (.tryPeek 1)).2 = .none := by decide +kernel
example : [ev 1, ev 2].getLast? = some (ev 2) ∧ editOk (.insert 1 (ev 9)) [ev 1, ev 2] = true := by decide +kernel
example : editOk (.swapRemove 0) [ev 1, ev 2] = true ∧ editOk (.swapRemove 2) [ev 1, ev 2] = false := by decide +kernel
example : (step [[ev 1]] (.cIleave (some 1))).2 = .panicH 1 ∧ (step [[ev 1]] (.cIleave none)).2 = .panicH 0 := by decide +kernel

end MahfModel.Props.C04
