/-
C19 — ant colony, second part: count and permutation clauses for every greedy tie-breaking (that the route is
greedy for every legal tie-breaking is in `Props/C19.lean`, before its code-shaped corollary), legal sampling
witnesses ("always yields"), runs ("every pheromone state the algorithm can reach") and bounds on the trails.
Property theorems only; the lemmas they rest on are in `Proofs/C19*.lean`.
-/
import MahfModel.Props.C19
import MahfModel.Proofs.C19Run
set_option linter.unusedSectionVars false
namespace MahfModel.Props.C19
open MahfModel.Aco

/-! ### Which of several equally strong trails the greedy route follows is not part of the property -/

section generation
variable {F : Type} [Add F] [Sub F] [Mul F] [Div F] [LT F] [LE F] [DecidableLT F] [DecidableLE F]
  [OfNat F 0] [OfNat F 1]

/-- Count and permutation clauses for EVERY way of breaking ties in the greedy route (`gw`), every
comparison `le`, every matrix, distance function, back-end and sampling witness. -/
theorem generation_any_greedy_witness (N : Num F) (le : F → F → Bool) (pm : PM F) (dist : Nat → Nat → F)
    (α β : F) (n numAnts : Nat) (gw : List Nat) (wits ts : List (List Nat)) (hn : 1 ≤ n)
    (h : generateW N le pm dist α β n numAnts gw wits = .tours ts) :
    ts.length = 1 + numAnts ∧ ∀ t ∈ ts, t.Perm (List.range n) ∧ t.head? = some 0 :=
  (generateW_spec h).imp_right fun hall => hall hn

/-- With all trails equal every index is a legal greedy choice: the first-maximum route `0 1 2 3` and the
code's last-maximum route `0 3 2 1` are both accepted. -/
example : generateW intNum intNum.tle (PM.new 4 1) (fun _ _ => 1) 1 1 4 1 [0, 0, 0] [[1, 0, 0]] =
      .tours [[0, 1, 2, 3], [0, 2, 1, 3]] ∧
    generateW intNum intNum.tle (PM.new 4 1) (fun _ _ => 1) 1 1 4 1 [2, 1, 0] [[1, 0, 0]] =
      .tours [[0, 3, 2, 1], [0, 2, 1, 3]] ∧
    generate intNum (PM.new 4 1) (fun _ _ => 1) 1 1 4 1 [[1, 0, 0]] = .tours [[0, 3, 2, 1], [0, 2, 1, 3]] := by
  decide +kernel

/-- A choice that is not a maximal trail is refused. -/
example : generateW intNum intNum.tle ⟨3, [0, 1, 5, 1, 0, 1, 5, 1, 0]⟩ (fun _ _ => 1) 1 1 3 0 [0, 0] [] =
    .badWitness := by decide +kernel

/-- A legal sampling witness exists for every instance size and every number of ants (always take the
first remaining city) … -/
theorem legal_witness_exists (n numAnts : Nat) :
    witsLegal n numAnts (List.replicate numAnts (List.replicate (n - 1) 0)) = true := by
  simp only [witsLegal, List.length_replicate, beq_self_eq_true, Bool.true_and, List.all_eq_true]
  intro w hw
  rw [List.eq_of_mem_replicate hw]
  exact witLegalGo_zeros (n - 1)

/-- … and the model never rejects a legal one — for every matrix, distance function, back-end: the outcome
of generation on legal draws is either a population or a panic, never "bad witness". -/
theorem legal_witness_never_rejected (N : Num F) (pm : PM F) (dist : Nat → Nat → F) (α β : F)
    (n numAnts : Nat) (wits : List (List Nat)) (hw : witsLegal n numAnts wits = true) :
    generate N pm dist α β n numAnts wits ≠ .badWitness := by
  simp only [witsLegal, Bool.and_eq_true, beq_iff_eq, List.all_eq_true] at hw
  have hs : sampleAll N pm dist α β n numAnts wits ≠ .badWitness := fun e => by
    have hall := sampleAll_cases N pm dist α β n numAnts wits
    rw [e] at hall
    obtain hl | ⟨w, hmem, hb⟩ := hall
    · exact hl hw.1
    · exact sampleGo_not_bad (by rw [remaining0_length]; exact hw.2 w hmem) hb
  unfold generate
  split
  · nofun  -- greedy route panics
  · split
    · nofun  -- a population
    · exact hs  -- the sampling outcome is passed on

example : witsLegal 4 2 [[1, 0, 0], [2, 1, 0]] = true ∧ witsLegal 4 2 [[1, 0, 0], [2, 2, 0]] = false ∧
    witsLegal 1 3 [[], [], []] = true := by decide +kernel

end generation

section greedy
variable {F : Type} [LinearOrder F] [OfNat F 0]

example : greedyTour intNum ⟨3, [0, 1, 5, 1, 0, 1, 5, 1, 0]⟩ 3 = some [0, 2, 1] ∧
    greedyTourW dle (⟨3, [0, 1, 5, 1, 0, 1, 5, 1, 0]⟩ : PM Int) 3 [1, 0] = .ok [0, 2, 1] := by decide +kernel

section
variable [Add F] [Sub F] [Mul F] [Div F] [OfNat F 1]

example : generateW intNum dle (PM.new 4 (1 : Int)) (fun _ _ => 1) 1 1 4 1 [0, 1, 0] [[1, 0, 0]] =
      .tours [[0, 1, 3, 2], [0, 2, 1, 3]] ∧
    holdsGen (PM.new 4 (1 : Int)) 4 1 [[0, 1, 3, 2], [0, 2, 1, 3]] = true := by decide +kernel

end
end greedy

section field
variable {F : Type} [Field F] [LinearOrder F] [IsStrictOrderedRing F]

/-- "Always yields": in exact arithmetic, on a well-formed non-negative matrix and positive distances between
distinct cities, generation returns a population for EVERY legal sequence of draws (and legal sequences
exist, `legal_witness_exists`) — it neither panics nor gets stuck. -/
theorem generation_total (N : Num F) (hfin : ∀ x, N.fin x = true)
    (hpow : ∀ x a, 0 ≤ x → 0 ≤ N.pow x a) (heps : 0 < N.eps) (pm : PM F) (hwf : pm.wf = true)
    (hn : 1 ≤ pm.dim) (hnn : ∀ x ∈ pm.inner, 0 ≤ x) (dist : Nat → Nat → F)
    (hd : ∀ i j, i ≠ j → 0 < dist i j) (α β : F) (numAnts : Nat) (wits : List (List Nat))
    (hw : witsLegal pm.dim numAnts wits = true) :
    ∃ ts, generate N pm dist α β pm.dim numAnts wits = .tours ts := by
  have h1 := generation_never_panics N hfin hpow heps pm hwf hn hnn dist hd α β numAnts wits
  have h2 := legal_witness_never_rejected N pm dist α β pm.dim numAnts wits hw
  cases hg : generate N pm dist α β pm.dim numAnts wits with
  | panic => exact absurd hg h1
  | badWitness => exact absurd hg h2
  | tours ts => exact ⟨ts, rfl⟩

example : ∃ ts, generate ratNum (PM.new 3 (1 / 2 : ℚ)) (fun i j => if i = j then 0 else 7) 1 5 3 2 [[1, 0], [0, 0]] =
    .tours ts :=
  generation_total ratNum (fun _ => rfl) (fun _ _ h => h) (by decide +kernel) _ rfl (by decide)
    (by decide +kernel) _ (fun i j h => by rw [if_neg h]; decide +kernel) _ _ _ _ (by decide)

/-! ### Runs -/

/-- Every pheromone state a run can reach — after any number of passes, whatever the sampler drew and however
greedy ties were broken — is a well-formed `n × n` matrix of non-negative trails. -/
theorem reachable_states_valid (N : Num F) (c : RunCfg F) (hv : RunValid N c) (pm : PM F)
    (h : Reach N dle c pm) : pm.wf = true ∧ pm.dim = c.n ∧ ∀ x ∈ pm.inner, 0 ≤ x := by
  induction h with
  | init => exact ⟨new_wf _ _, rfl, fun x hx => by rw [new_mem _ _ hx]; exact hv.init⟩
  | @pass pm pm' gw wits ts objs _ hstep ih =>
    obtain ⟨hgen, _, hupd⟩ := stepOf_ok hstep
    obtain ⟨_, _, q, hq, hvalid⟩ := pass_valid hv ih.1 ih.2.1 ih.2.2 hgen
    cases hq.symm.trans hupd
    exact hvalid

/-- In a max-min run every reachable state except the initial one lies within the configured bounds (the
initial matrix holds `default_pheromones`, which the constructor does not relate to the bounds). -/
theorem reachable_mmas_within_bounds (N : Num F) (c : RunCfg F) (hv : RunValid N c) (ρ hi lo : F)
    (hk : c.kind = .mmas ρ hi lo) (pm : PM F) (h : Reach N dle c pm) :
    pm = PM.new c.n c.τ0 ∨ ∀ x ∈ pm.inner, lo ≤ x ∧ x ≤ hi := by
  cases h with
  | init => exact Or.inl rfl
  | @pass pm0 _ gw wits ts objs hreach hstep =>
    have hk' := hv.kind
    obtain ⟨_, _, hupd⟩ := stepOf_ok hstep
    rw [hk] at hupd hk'
    exact Or.inr (mmas_within_bounds _ _ _ _ _ _ hk'.2 hupd).1

/-- On every reachable state a loop pass cannot panic — neither in generation (every weight vector handed to
`WeightedIndex::new` is legal) nor in the update — for ANY draws and ANY greedy choices, legal or not. -/
theorem pass_never_panics (N : Num F) (c : RunCfg F) (hv : RunValid N c) (pm : PM F)
    (h : Reach N dle c pm) (gw : List Nat) (wits : List (List Nat)) :
    stepW N dle c.kind pm c.dist c.α c.β c.n c.numAnts gw wits ≠ .genPanic ∧
      ∀ ts objs, stepW N dle c.kind pm c.dist c.α c.β c.n c.numAnts gw wits ≠ .updPanic ts objs := by
  obtain ⟨hwf, hdim, hnn⟩ := reachable_states_valid N c hv pm h
  refine ⟨stepOf_not_genPanic _ _ _ (generateW_no_panic dle
    (WeightsOk.of_nonneg hv.fin hv.pow hv.eps hwf hnn hv.dist c.α c.β) hwf hdim (Nat.one_le_of_lt hv.cities)),
    fun ts objs hcon => ?_⟩
  unfold stepW at hcon
  cases hg : generateW N dle pm c.dist c.α c.β c.n c.numAnts gw wits with
  | panic => rw [hg] at hcon; cases hcon
  | badWitness => rw [hg] at hcon; cases hcon
  | tours ts' =>
    obtain ⟨_, _, q, hq, _⟩ := pass_valid hv hwf hdim hnn hg
    rw [hg, stepOf_of_update hq] at hcon
    cases hcon

/-- `∀ input, holds input (model input)` for whichever update component the run uses (`update`, `holdsUpd`). -/
theorem holds_update (N : Num F) (hfin : ∀ x, N.fin x = true) (hclose : ∀ a b, N.close a b = decide (a = b))
    (k : Kind F) (hk : kindOk k) (pm : PM F) (pop : List (Ind F)) (hwf : pm.wf = true)
    (hr : routesValid pm.dim (pop.drop 1) = true) (ho : ∀ ind ∈ pop.drop 1, ∃ o, ind.obj = some o ∧ 0 < o)
    (hnn : ∀ x ∈ pm.inner, 0 ≤ x) : ∃ pm', update k pm pop = some pm' ∧ holdsUpd N k pm pop pm' = true := by
  cases k with
  | as ρ c => exact holds_as_update N hfin hclose pm ρ c pop hwf hr ⟨hk.1, hk.2.1⟩ hk.2.2 ho hnn
  | mmas ρ hi lo =>
    exact holds_mmas_update_any N hfin hclose pm ρ hi lo pop hwf hr
      (obj_isSome_of_exists ho) hk.1 hk.2

/-- Every pass from a reachable state satisfies the whole property: the population is `1 + num_ants`
permutations from city 0 with a greedy first route, its objective values are the (positive) tour lengths, and
the updated matrix satisfies every clause of the update property (entry formula, non-negative, symmetric if
it was, within the bounds for the max-min variant). -/
theorem pass_satisfies_property (N : Num F) (c : RunCfg F) (hv : RunValid N c) (pm : PM F)
    (h : Reach N dle c pm) (gw : List Nat) (wits ts : List (List Nat)) (objs : List F) (pm' : PM F)
    (hstep : stepW N dle c.kind pm c.dist c.α c.β c.n c.numAnts gw wits = .ok ts objs pm') :
    holdsGen pm c.n c.numAnts ts = true ∧ objs = ts.map (tourLen c.dist) ∧ (∀ o ∈ objs, 0 < o) ∧
      holdsUpd N c.kind pm (popOf c.dist ts) pm' = true := by
  obtain ⟨hwf, hdim, hnn⟩ := reachable_states_valid N c hv pm h
  obtain ⟨hgen, hobjs, hupd⟩ := stepOf_ok hstep
  obtain ⟨hr, ho, _⟩ := pass_valid hv hwf hdim hnn hgen
  have hr' : routesValid pm.dim ((popOf c.dist ts).drop 1) = true :=
    (routesValid_iff _ _).mpr (fun ind hi => hr ind (List.mem_of_mem_drop hi))
  have ho' : ∀ ind ∈ (popOf c.dist ts).drop 1, ∃ o, ind.obj = some o ∧ 0 < o :=
    fun ind hi => ho ind (List.mem_of_mem_drop hi)
  refine ⟨holds_generation_any_witness N pm c.dist c.α c.β c.n c.numAnts gw wits ts
    (Nat.one_le_of_lt hv.cities) hgen, hobjs, fun o hoo => ?_, ?_⟩
  · rw [hobjs] at hoo
    obtain ⟨t, ht, rfl⟩ := List.mem_map.mp hoo
    obtain ⟨o', h1, h2⟩ := ho ⟨t, some (tourLen c.dist t)⟩ (List.mem_map.mpr ⟨t, ht, rfl⟩)
    cases h1
    exact h2
  · obtain ⟨q, hq, hh⟩ := holds_update N hv.fin hv.close c.kind hv.kind pm _ hwf hr' ho' hnn
    cases hq.symm.trans hupd
    exact hh

/-- On every reachable state, for every legal sequence of draws, the code-shaped pass (greedy ties broken
as `max_by` does) completes, and the state it produces is reachable again — so runs of any length exist and
stay inside the states the theorems above speak about. -/
theorem pass_total (N : Num F) (c : RunCfg F) (hv : RunValid N c) (pm : PM F) (h : Reach N dle c pm)
    (wits : List (List Nat)) (hw : witsLegal c.n c.numAnts wits = true) :
    ∃ ts objs pm', step N c.kind pm c.dist c.α c.β c.n c.numAnts wits = .ok ts objs pm' ∧
      Reach N dle c pm' := by
  obtain ⟨hwf, hdim, hnn⟩ := reachable_states_valid N c hv pm h
  obtain ⟨ts, hts⟩ := generation_total N hv.fin hv.pow hv.eps pm hwf (hdim ▸ Nat.one_le_of_lt hv.cities) hnn
    c.dist hv.dist c.α c.β c.numAnts wits (by rw [hdim]; exact hw)
  rw [hdim] at hts
  obtain ⟨gw, hgw⟩ := generate_refines_generateW N hv.tle pm c.dist c.α c.β c.n c.numAnts wits ts hts
  obtain ⟨_, _, q, hq, _⟩ := pass_valid hv hwf hdim hnn hgw
  refine ⟨ts, ts.map (tourLen c.dist), q, ?_, Reach.pass gw wits ts (ts.map (tourLen c.dist)) h ?_⟩
  · rw [step, hts]
    exact stepOf_of_update hq
  · rw [stepW, hgw]
    exact stepOf_of_update hq

/-- The hypotheses are satisfiable: a 3-city max-min run over ℚ, and a reachable state after one pass. -/
def demoCfg : RunCfg ℚ :=
  { kind := .mmas (1 / 10) 5 1, dist := fun i j => if i = j then 0 else 7, α := 1, β := 5, n := 3, numAnts := 2,
    τ0 := 1 / 2 }

def demoNum : Num ℚ := { ratNum with close := fun a b => decide (a = b) }

example : RunValid demoNum demoCfg :=
  { fin := fun _ => rfl, close := fun _ _ => rfl, pow := fun _ _ h => h, eps := by decide +kernel,
    tle := rfl, cities := by decide, dist := fun i j h => by simp only [demoCfg, if_neg h]; decide +kernel,
    init := by decide +kernel, kind := ⟨by decide +kernel, by decide +kernel⟩ }

example : (match step demoNum demoCfg.kind (PM.new 3 (1 / 2)) demoCfg.dist 1 5 3 2 [[1, 0], [0, 0]] with
    | .ok ts _ pm' => ts == [[0, 2, 1], [0, 2, 1], [0, 1, 2]] && pm'.inner.all (fun x => decide (1 ≤ x ∧ x ≤ 5))
    | _ => false) = true := by decide +kernel

/-! ### Exactly the tour's edges; bounded trails -/

/-- "Exactly the edges between consecutive cities": a tour (no city twice) deposits on the pair `{i, j}` once
if `i` and `j` are consecutive cities of the route (in either direction) and not at all otherwise — never
twice, never on the closing edge. -/
theorem tour_deposits_exactly_its_edges (route : List Nat) (hnd : route.Nodup) (i j : Nat) :
    hits route i j = if (i, j) ∈ edges route ∨ (j, i) ∈ edges route then 1 else 0 := by
  have h1 := hits_le_one hnd i j
  have h2 := hits_pos_iff route i j
  split
  · rename_i h; have := h2.mpr h; omega
  · rename_i h
    by_contra hne
    exact h (h2.mp (Nat.pos_of_ne_zero hne))

example : hits [0, 2, 1, 3] 1 2 = 1 ∧ hits [0, 2, 1, 3] 3 0 = 0 ∧ edges [0, 2, 1, 3] = [(0, 2), (2, 1), (1, 3)] := by
  decide +kernel

/-- Closed form of the max-min entry: `clamp(min, max, (1 - ρ)·τ_ij + hits·(1 / length))` for the rewarded
tour (`hits` ∈ {0, 1} for a tour, `tour_deposits_exactly_its_edges`). -/
theorem mmas_update_closed_form (pm : PM F) (ρ hi lo : F) (best : Ind F) (o : F) (i j : Nat) :
    mmasSpecWith pm ρ hi lo (some (best, o)) i j =
      clamp lo hi ((1 - ρ) * pm.getD i j 0 + (hits best.route i j : F) * (1 / o)) := by
  simp only [mmasSpecWith, depositEdges_closed, hits]
  congr 1
  ring

/-- Trails stay bounded (the exact-arithmetic counterpart of "finite"): if no trail exceeds `B`, every sampled
route visits no city twice and is at least `L > 0` long, then after the ant-system update no trail exceeds
`(1 - ρ)·B + m·c/L`, `m` the number of sampled ants. -/
theorem as_trails_bounded (pm : PM F) (ρ c B L : F) (pop : List (Ind F)) (i j : Nat)
    (hρ : ρ ≤ 1) (hc : 0 ≤ c) (hL : 0 < L) (hx : pm.getD i j 0 ≤ B)
    (hnd : ∀ ind ∈ pop.drop 1, ind.route.Nodup)
    (ho : ∀ ind ∈ pop.drop 1, ∃ o, ind.obj = some o ∧ L ≤ o) :
    asSpec pm ρ c pop i j ≤ (1 - ρ) * B + ((pop.drop 1).length : F) * (c / L) := by
  have ho' := obj_isSome_of_exists ho
  rw [as_update_closed_form pm ρ c pop i j ho']
  refine add_le_add (mul_le_mul_of_nonneg_left hx (sub_nonneg.mpr hρ)) (sum_map_le_length_mul fun ind h => ?_)
  obtain ⟨o, hobj, hLo⟩ := ho ind h
  rw [hobj]
  -- at most one deposit (`hits ≤ 1`), each at most `c / L`
  exact (mul_le_of_le_one_left (div_nonneg hc (hL.le.trans hLo))
    (Nat.cast_le_one.mpr (hits_le_one (hnd ind h) i j))).trans (div_le_div_of_nonneg_left hc hL hLo)

/-- Hence one update keeps an entry below `B` as soon as `ρ·B ≥ m·c/L` (for `ρ > 0`: any
`B ≥ m·c/(ρ·L)`). One update, one entry: the statement is not lifted over `Reach`. -/
theorem as_trails_invariant_bound (pm : PM F) (ρ c B L : F) (pop : List (Ind F)) (i j : Nat)
    (hρ : ρ ≤ 1) (hc : 0 ≤ c) (hL : 0 < L) (hx : pm.getD i j 0 ≤ B)
    (hnd : ∀ ind ∈ pop.drop 1, ind.route.Nodup)
    (ho : ∀ ind ∈ pop.drop 1, ∃ o, ind.obj = some o ∧ L ≤ o)
    (hB : ((pop.drop 1).length : F) * (c / L) ≤ ρ * B) :
    asSpec pm ρ c pop i j ≤ B :=
  (as_trails_bounded pm ρ c B L pop i j hρ hc hL hx hnd ho).trans
    ((add_le_add le_rfl hB).trans_eq (by ring))

example : asSpec (PM.new 3 (4 : ℚ)) (1 / 2) 3 [⟨[0, 1, 2], some 4⟩, ⟨[0, 2, 1], some 6⟩, ⟨[0, 1, 2], some 3⟩] 1 2 ≤ 4 :=
  as_trails_invariant_bound _ _ _ 4 3 _ _ _ (by decide +kernel) (by decide +kernel) (by decide +kernel)
    (by decide +kernel) (by decide +kernel)
    (by
      intro ind h
      rcases List.mem_cons.mp h with rfl | h
      · exact ⟨6, rfl, by decide +kernel⟩
      · cases List.mem_singleton.mp h; exact ⟨3, rfl, by decide +kernel⟩)
    (by decide +kernel)

end field

end MahfModel.Props.C19
