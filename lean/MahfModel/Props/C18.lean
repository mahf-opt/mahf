/-
C18 — Particle swarm keeps velocities clamped and best memories consistent.
Property theorems (and the helper `Pso.velStep_coord`, which needs `DrawsCover`); the other lemmas are
in `Proofs/C18.lean`.  The carrier `F` is an arbitrary ordered field (exact arithmetic); the random draws
are universally quantified.
-/
import MahfModel.Proofs.C18
import MahfModel.Proofs.ArithField
import Mathlib.Algebra.Order.Ring.Rat
namespace MahfModel.Props.C18
open MahfModel.Pso
set_option linter.unusedSectionVars false

variable {F : Type} [Field F] [LinearOrder F] [IsStrictOrderedRing F]

/-- Enough draws for every coordinate: a pair per coordinate of every particle. -/
def DrawsCover (vs : List (List F)) (draws : List (List (F × F))) : Prop :=
  draws.length = vs.length ∧ ∀ (k : Nat) (v : List F) (r : List (F × F)), vs[k]? = some v → draws[k]? = some r → r.length = v.length

/-- Coordinate `i` of particle `k` after a successful velocity update, for every choice of draws:
the new velocity is the documented formula — with the *stored* inertia weight `sw.w` — clamped to
`[−v_max, v_max]`, and the new position is the old one plus the new velocity. -/
theorem velocity_formula (c1 c2 vmax : F) (draws : List (List (F × F))) (sw sw' : Swarm F)
    (h : velStep c1 c2 vmax draws sw = (.ok, sw'))
    (k i : Nat) (x p : Part F) (v : List F) (r : List (F × F)) (g : Part F) (a b c d r1 r2 : F)
    (hg : sw.gbest = some g)
    (hx : sw.xs[k]? = some x) (hv : sw.vs[k]? = some v) (hp : sw.pbest[k]? = some p) (hr : draws[k]? = some r)
    (hvi : v[i]? = some a) (hxi : x.pos[i]? = some b) (hpi : p.pos[i]? = some c) (hgi : g.pos[i]? = some d)
    (hri : r[i]? = some (r1, r2)) :
    ∃ v' x', sw'.vs[k]? = some v' ∧ sw'.xs[k]? = some x' ∧ x'.ev = false ∧
      v'[i]? = some (clamp (-vmax) vmax (sw.w * a + c1 * r1 * (c - b) + c2 * r2 * (d - b))) ∧
      x'.pos[i]? = some (b + clamp (-vmax) vmax (sw.w * a + c1 * r1 * (c - b) + c2 * r2 * (d - b))) := by
  obtain ⟨_, _, g', hg', _, hsw⟩ := velStep_ok c1 c2 vmax draws sw sw' h
  rw [hg] at hg'; cases hg'
  obtain ⟨h1, h2⟩ := velUpd_get sw.w c1 c2 vmax g.pos sw.xs sw.vs sw.pbest draws k x p v r hx hv hp hr
  obtain ⟨h3, h4⟩ := stepParticle_get sw.w c1 c2 vmax v x.pos p.pos g.pos r i a b c d r1 r2 hvi hxi hpi hgi hri
  subst hsw
  exact ⟨_, _, h2, h1, rfl, h3, h4⟩

/-- Conversely, every velocity coordinate `(k, i)` after a successful update with covering draws comes from a
coordinate before it, and everything the formula reads at `(k, i)` is there. -/
theorem _root_.MahfModel.Pso.velStep_coord (c1 c2 vmax : F) (draws : List (List (F × F))) (sw sw' : Swarm F)
    (h : velStep c1 c2 vmax draws sw = (.ok, sw')) (hd : DrawsCover sw.vs draws)
    (k i : Nat) (v' : List F) (hv' : sw'.vs[k]? = some v') (hi : i < v'.length) :
    ∃ x p v r g, sw.gbest = some g ∧ sw.xs[k]? = some x ∧ sw.vs[k]? = some v ∧ sw.pbest[k]? = some p ∧
      draws[k]? = some r ∧ i < v.length ∧ i < x.pos.length ∧ i < p.pos.length ∧ i < g.pos.length ∧ i < r.length := by
  obtain ⟨hl1, hl2, g, hg, hdim, rfl⟩ := velStep_ok c1 c2 vmax draws sw sw' h
  have hk : k < sw.vs.length :=
    (velUpd_length sw.w c1 c2 vmax g.pos sw.xs sw.vs sw.pbest draws).2 ▸ (List.getElem?_eq_some_iff.mp hv').1
  have hv := List.getElem?_eq_getElem hk
  have hx := List.getElem?_eq_getElem (hl1 ▸ hk)
  have hp := List.getElem?_eq_getElem (hl2.trans hl1.symm ▸ hk)
  have hr := List.getElem?_eq_getElem (hd.1 ▸ hk)
  cases hv'.symm.trans (velUpd_get sw.w c1 c2 vmax g.pos sw.xs sw.vs sw.pbest draws k _ _ _ _ hx hv hp hr).2
  rw [(stepParticle_length ..).1] at hi
  obtain ⟨d1, d2, d3⟩ := dimsOk_get g.pos sw.xs sw.vs sw.pbest hdim k _ _ _ hx hv hp
  exact ⟨_, _, _, _, g, hg, hx, hv, hp, hr, hi, hi.trans_le d1, hi.trans_le d2, hi.trans_le d3, hd.2 k _ _ hv hr ▸ hi⟩

/-- After every successful velocity update each velocity coordinate lies in `[−v_max, v_max]`. -/
theorem velocity_clamped (c1 c2 vmax : F) (draws : List (List (F × F))) (sw sw' : Swarm F)
    (h : velStep c1 c2 vmax draws sw = (.ok, sw')) (hvm : 0 ≤ vmax) (hd : DrawsCover sw.vs draws) :
    ∀ v' ∈ sw'.vs, ∀ c ∈ v', -vmax ≤ c ∧ c ≤ vmax := by
  intro v' hv' c hc
  obtain ⟨k, hk⟩ := List.getElem?_of_mem hv'
  obtain ⟨i, hi⟩ := List.getElem?_of_mem hc
  obtain ⟨x, p, v, r, g, hg, hx, hv, hp, hr, iv, ix, ip, ig, ir⟩ :=
    velStep_coord c1 c2 vmax draws sw sw' h hd k i v' hk (List.getElem?_eq_some_iff.mp hi).1
  obtain ⟨v'', -, e1, -, -, e3, -⟩ := velocity_formula c1 c2 vmax draws sw sw' h k i x p v r g _ _ _ _ _ _ hg hx hv hp hr
    (List.getElem?_eq_getElem iv) (List.getElem?_eq_getElem ix) (List.getElem?_eq_getElem ip)
    (List.getElem?_eq_getElem ig) (List.getElem?_eq_getElem ir)
  cases hk.symm.trans e1
  cases hi.symm.trans e3
  exact clamp_bounds _ _ _ (neg_le_self hvm)

/-! The hypotheses are satisfiable on a non-trivial swarm: two particles in two dimensions, a
velocity that needs clamping (`−3` with `v_max = 1`), draws covering every coordinate. -/
def exSw : Swarm Rat :=
  { xs := [⟨[1, 2], 5, true⟩, ⟨[0, -1], 1, true⟩], vs := [[1 / 2, -3], [0, 1 / 4]],
    pbest := [⟨[1, 1], 2, true⟩, ⟨[0, -1], 1, true⟩], gbest := some ⟨[0, -1], 1, true⟩, w := 9 / 10 }
def exDraws : List (List (Rat × Rat)) := [[(1 / 2, 1 / 4), (0, 1)], [(1 / 3, 1 / 3), (1 / 2, 1 / 2)]]

example : (velStep 2 2 1 exDraws exSw).1 = .ok ∧ (velStep 2 2 1 exDraws exSw).2.vs = [[-1 / 20, -1], [0, 9 / 40]] := by
  decide +kernel

example : DrawsCover exSw.vs exDraws := by
  refine ⟨rfl, ?_⟩
  intro k v r hv hr
  rcases k with _ | _ | k
  · simp only [exSw, exDraws, List.getElem?_cons_zero, Option.some.injEq] at hv hr; subst hv hr; rfl
  · simp only [exSw, exDraws, List.getElem?_cons_succ, List.getElem?_cons_zero, Option.some.injEq] at hv hr; subst hv hr; rfl
  · simp [exSw] at hv

/-- Each particle has moved by exactly its new velocity. -/
theorem moved_by_velocity (c1 c2 vmax : F) (draws : List (List (F × F))) (sw sw' : Swarm F)
    (h : velStep c1 c2 vmax draws sw = (.ok, sw')) (hd : DrawsCover sw.vs draws)
    (k i : Nat) (x x' : Part F) (v v' : List F) (b b' a' : F)
    (hx : sw.xs[k]? = some x) (hv : sw.vs[k]? = some v) (hx' : sw'.xs[k]? = some x') (hv' : sw'.vs[k]? = some v')
    (hi : i < v.length) (hb : x.pos[i]? = some b) (hb' : x'.pos[i]? = some b') (ha' : v'[i]? = some a') :
    b' = b + a' := by
  obtain ⟨x0, p, v0, r, g, hg, hx0, hv0, hp, hr, -, -, ip, ig, ir⟩ :=
    velStep_coord c1 c2 vmax draws sw sw' h hd k i v' hv' (List.getElem?_eq_some_iff.mp ha').1
  cases hx.symm.trans hx0
  cases hv.symm.trans hv0
  obtain ⟨v'', x'', e1, e2, -, e3, e4⟩ := velocity_formula c1 c2 vmax draws sw sw' h k i x p v r g _ b _ _ _ _ hg hx hv hp hr
    (List.getElem?_eq_getElem hi) hb (List.getElem?_eq_getElem ip) (List.getElem?_eq_getElem ig)
    (List.getElem?_eq_getElem ir)
  cases hv'.symm.trans e1
  cases hx'.symm.trans e2
  cases ha'.symm.trans e3
  cases hb'.symm.trans e4
  rfl

/-- The inertia-weight update stores the linear interpolation between start and end weight at the
loop's progress (`iterations / n`), touches nothing else, and that stored value is what the next
velocity update multiplies the old velocity with (`velocity_formula` reads `sw.w`). -/
theorem inertia_linear (start stop prog it n : F) (sw : Swarm F) :
    (inertiaStep start stop prog sw).w = (stop - start) * prog + start ∧
    (inertiaStep start stop prog sw).xs = sw.xs ∧ (inertiaStep start stop prog sw).vs = sw.vs ∧
    (inertiaStep start stop prog sw).pbest = sw.pbest ∧ (inertiaStep start stop prog sw).gbest = sw.gbest ∧
    progress it n = it / n ∧ linear start stop 0 = start ∧ linear start stop 1 = stop ∧
    (0 ≤ prog → prog ≤ 1 → min start stop ≤ linear start stop prog ∧ linear start stop prog ≤ max start stop) :=
  ⟨rfl, rfl, rfl, rfl, rfl, rfl, by simp [linear], by simp [linear], Arith.lerp_between start stop prog⟩

/-- A personal best never gets worse, and it is either the old one or the (strictly better)
candidate at the same index. -/
theorem pbest_monotone (bs cs : List (Part F)) (k : Nat) (b b' : Part F)
    (hb : bs[k]? = some b) (hb' : (pbestUpd bs cs)[k]? = some b') :
    b'.obj ≤ b.obj ∧ (b' = b ∨ ∃ c, cs[k]? = some c ∧ b' = c ∧ c.obj < b.obj) := by
  obtain ⟨b1, h1, hor, -⟩ := pbestUpd_step bs cs k b hb
  cases hb'.symm.trans h1
  rcases hor with rfl | ⟨hc, hlt⟩
  · exact ⟨le_refl _, .inl rfl⟩
  · exact ⟨le_of_lt hlt, .inr ⟨_, hc, rfl, hlt⟩⟩

/-- By induction over any history of evaluated populations: the personal best of particle `k` is
one of the positions that particle was evaluated at (the initial one or a later one), and no
position it was evaluated at is better. -/
theorem pbest_is_best_visited (init : List (Part F)) (hist : List (List (Part F))) (k : Nat) (b0 : Part F)
    (h0 : init[k]? = some b0) :
    ∃ b, (pbestRun init hist)[k]? = some b ∧
      (b = b0 ∨ ∃ h ∈ hist, h[k]? = some b) ∧
      b.obj ≤ b0.obj ∧ ∀ h ∈ hist, ∀ c, h[k]? = some c → b.obj ≤ c.obj := by
  induction hist generalizing init b0 with
  | nil => exact ⟨b0, h0, .inl rfl, le_refl _, fun _ hh => nomatch hh⟩
  | cons h hs ih =>
    obtain ⟨b1, h1, hor, hle1⟩ := pbestUpd_step init h k b0 h0
    obtain ⟨b, hb, hmem, hle, hall⟩ := ih (pbestUpd init h) b1 h1
    have hb1 := (pbest_monotone init h k b0 b1 h0 h1).1
    refine ⟨b, hb, ?_, hle.trans hb1, ?_⟩
    · rcases hmem with rfl | ⟨h', hh', hk'⟩
      · exact hor.imp id fun e => ⟨h, List.mem_cons_self, e.1⟩
      · exact .inr ⟨h', List.mem_cons_of_mem _ hh', hk'⟩
    · intro h' hh' c hc
      rcases List.mem_cons.mp hh' with rfl | hh'
      · exact hle.trans (hle1 c hc)
      · exact hall h' hh' c hc

/-- The global best is a personal best with the smallest objective value. -/
def GbestIsMinPbest (pbest : List (Part F)) (gbest : Option (Part F)) : Prop :=
  ∃ g, gbest = some g ∧ g ∈ pbest ∧ ∀ p ∈ pbest, g.obj ≤ p.obj

example : GbestIsMinPbest exSw.pbest exSw.gbest :=
  ⟨⟨[0, -1], 1, true⟩, rfl, List.mem_cons_of_mem _ List.mem_cons_self, by decide +kernel⟩

/-- The invariant holds after the swarm initialisation of a non-empty population and is preserved
by every `ParticleSwarmUpdate` (personal bests, then global best) on an evaluated population of
the same size. -/
theorem gbest_eq_min_pbest (witness : List (List F)) (sw : Swarm F) :
    (sw.gbest = none → sw.xs ≠ [] → GbestIsMinPbest (swarmInit witness sw).pbest (swarmInit witness sw).gbest) ∧
    (GbestIsMinPbest sw.pbest sw.gbest → sw.xs.length = sw.pbest.length →
      GbestIsMinPbest (pbestUpd sw.pbest sw.xs) (gbestUpd sw.gbest sw.xs)) := by
  constructor
  · intro hg hne
    obtain ⟨m, hm, hin, hle⟩ := minBy_of_ne_nil sw.xs hne
    simp only [swarmInit, pbestInit, velInit, hg, gbestUpd, hm]
    exact ⟨m, rfl, hin, hle⟩
  · rintro ⟨g, hg, hgin, hgle⟩ hlen
    obtain ⟨cand, hm, hcin, hcle⟩ := minBy_of_ne_nil sw.xs
      (List.ne_nil_of_length_pos (hlen ▸ List.length_pos_of_mem hgin))
    simp only [hg, gbestUpd, hm]
    -- every new personal best is an old one (no better than `g`) or a particle (no better than `cand`)
    have hall : ∀ m : Part F, m.obj ≤ g.obj → m.obj ≤ cand.obj → ∀ p ∈ pbestUpd sw.pbest sw.xs, m.obj ≤ p.obj :=
      fun m h1 h2 p hp => (pbestUpd_mem _ _ p hp).elim (fun hb => h1.trans (hgle p hb)) fun hc => h2.trans (hcle p hc)
    by_cases hlt : cand.obj < g.obj
    · rw [if_pos hlt]
      exact ⟨cand, rfl, pbestUpd_mem_right _ _ cand hcin hlen.le fun b hb => lt_of_lt_of_le hlt (hgle b hb),
        hall cand (le_of_lt hlt) (le_refl _)⟩
    · rw [if_neg hlt]
      exact ⟨g, rfl, pbestUpd_mem_left _ _ g hgin fun c hc => not_lt.mpr ((not_lt.mp hlt).trans (hcle c hc)),
        hall g (le_refl _) (not_lt.mp hlt)⟩

/-- The three collections have one entry per particle: after the initialisation (legal witness),
after every successful velocity update and after every best update; a size mismatch makes the
velocity update return `Err` (it never panics on it). -/
theorem swarm_lengths (c1 c2 vmax : F) (dim : Nat) (witness : List (List F)) (draws : List (List (F × F))) (sw : Swarm F) :
    (velInitLegal vmax dim witness sw = true →
      (swarmInit witness sw).vs.length = (swarmInit witness sw).xs.length ∧
      (swarmInit witness sw).pbest.length = (swarmInit witness sw).xs.length ∧
      (swarmInit witness sw).xs = sw.xs) ∧
    (∀ sw', velStep c1 c2 vmax draws sw = (.ok, sw') →
      sw'.xs.length = sw.xs.length ∧ sw'.vs.length = sw'.xs.length ∧ sw'.pbest.length = sw'.xs.length) ∧
    ((sw.vs.length ≠ sw.xs.length ∨ sw.pbest.length ≠ sw.xs.length) →
      (velStep c1 c2 vmax draws sw).1 = .err ∧ (velStep c1 c2 vmax draws sw).2.vs = sw.vs ∧
      (velStep c1 c2 vmax draws sw).2.pbest = sw.pbest) ∧
    (pbestUpd sw.pbest sw.xs).length = sw.pbest.length := by
  refine ⟨?_, ?_, ?_, pbestUpd_length _ _⟩
  · intro hl
    simp only [velInitLegal, Bool.and_eq_true, beq_iff_eq] at hl
    simp [swarmInit, pbestInit, velInit, hl.1]
  · intro sw' h
    obtain ⟨hl1, hl2, g, _, _, hsw⟩ := velStep_ok c1 c2 vmax draws sw sw' h
    subst hsw
    obtain ⟨e1, e2⟩ := velUpd_length sw.w c1 c2 vmax g.pos sw.xs sw.vs sw.pbest draws
    simp only [e1, e2, hl1, hl2, and_self]
  · intro hne
    unfold velStep
    rcases hne with h | h
    · simp [h]
    · by_cases h1 : sw.vs.length = sw.xs.length
      · simp [h1, h]
      · simp [h1]

end MahfModel.Props.C18
