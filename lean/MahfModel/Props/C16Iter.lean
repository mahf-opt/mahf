/-
C16 — "performs exactly the requested number of iterations".

* `iters_exact_sound`: if every scope level of a configuration contains at most one loop (`itersExact`), then in
  EVERY terminating execution (all oracles for the non-iteration conditions, branches and failures, any fuel)
  every loop execution made a number of passes its condition allows: a loop bounded by
  `LessThanN::iterations(n)` exactly `n`, by `iterations(n) & c` at most `n`, by `iterations(n) | c` at least `n`;
  and the counter of the top level is the only one left.
* `loop_exactly_n`: the local statement with the numbers: such a loop ends with `Iterations = n` after exactly `n`
  passes (pass log), whatever its body does, provided the body has no loop of the same level.
* `unscoped_nest_violates`, `sequential_loops_violate`: without that proviso the claim is false — an inner loop
  that is not wrapped in a `Scope` (what `ils()` would be without `.scope_`), or a second loop of the same level,
  shares the counter; the check refuses both shapes.
* `<template>_v<i>_iters`: the check, evaluated by the kernel on the loops (with their conditions) of the tree
  the real constructor built in THIS run (`Generated/TemplatesLoops.lean`, regenerated on every check).
-/
import MahfModel.Proofs.C16Iter
import MahfModel.Generated.TemplatesLoops
namespace MahfModel.Props.C16.Iter
open MahfModel.Tpl MahfModel.Generated.Loops

/-- Every loop execution of every terminating run made an allowed number of passes; only the top level's
counter remains. -/
theorem iters_exact_sound (o : LOracle) (fuel : Nat) (c : LComp) (s' : LSt)
    (hc : itersExact c = true) (h : lexec o fuel 0 c (LSt.init c) = some s') :
    s'.exact = true ∧ ∃ x, s'.ctrs = [x] :=
  itersExact_sound o fuel c s' hc h

/-- The numbers: a loop bounded by the iteration counter, entered with a fresh counter, whose body contains
no loop of the same level (loops below a `Scope` are fine), ends with the counter at `n` after exactly `n`
passes — for every oracle and any body. -/
theorem loop_exactly_n (o : LOracle) (fuel d n : Nat) (b : LComp) (s s' : LSt) (r : List Nat)
    (hd : directLoops b = 0) (hs : scopesOk b = true) (hc : s.ctrs = 0 :: r)
    (h : lexec o fuel d (.loop (.iterLt n) b) s = some s') :
    s'.ctrs = n :: r ∧ passesAt d s' = passesAt d s + n := by
  cases fuel with
  | zero => simp [lexec] at h
  | succ fuel =>
    obtain ⟨q, e1, e2, e3, _⟩ := lloop_exact o fuel d (.iterLt n) b 0 s s' r hd hs hc (Nat.zero_le n) (lexec_loop .. ▸ h)
    obtain rfl : 0 + q = n := by simpa [LCond.okCount] using e3
    exact ⟨e1, by rw [e2, Nat.zero_add]⟩

/-- A body without a loop of this level cannot touch any counter (so `Iterations` is advanced by the loop
alone), and scoped loops inside it do not disturb the flag. -/
theorem body_keeps_counters (o : LOracle) (fuel d : Nat) (b : LComp) (s s' : LSt)
    (hd : directLoops b = 0) (hs : scopesOk b = true) (h : lexec o fuel d b s = some s') :
    s'.ctrs = s.ctrs :=
  ((((lexec_sound o fuel).1 d b s s' h).2 (hd ▸ Nat.zero_le 1) hs).1 hd).1

/-- The flag is never set again once cleared: `exact = true` at the end means no loop execution of the whole
run ended with a wrong count. -/
theorem flag_never_reset (o : LOracle) (fuel d : Nat) (c : LComp) (s s' : LSt)
    (h : lexec o fuel d c s = some s') (hk : s'.exact = true) : s.exact = true :=
  ((lexec_sound o fuel).1 d c s s' h).1.1 hk

/-- … and a loop execution that ends with a count its condition does not allow clears it. -/
theorem wrong_count_is_flagged (o : LOracle) (fuel d : Nat) (c : LCond) (b : LComp) (p ctr : Nat) (r : List Nat)
    (s : LSt) (hs : s.ctrs = ctr :: r) (he : c.eval ctr (o.cond s.tick) = false) (hp : c.okCount p = false) :
    (lloop o (fuel + 1) d c b p s).map (·.exact) = some false := by
  simp [lloop, hs, he, hp]

/-- An inner loop that is NOT wrapped in a scope shares the counter of the loop around it: the outer loop,
asked for 3 iterations, makes 1 pass (the inner loop's two passes have advanced the counter as well), the
inner loop, asked for 2, makes 2.  The check refuses the shape. -/
def unscopedNest : LComp := .loop (.iterLt 3) (.loop (.iterLt 2) (.leaf false))
theorem unscoped_nest_violates :
    itersExact unscopedNest = false ∧
    (lexec ⟨fun _ => true, fun _ => false⟩ 50 0 unscopedNest (LSt.init unscopedNest)).map
      (fun s => (s.exact, passesAt 0 s, passesAt 1 s, s.ctrs)) = some (false, 1, 2, [3]) := by
  decide +kernel

/-- The same nest with the inner loop scoped: 3 outer passes, 2 inner passes per outer pass. -/
def scopedNest : LComp := .loop (.iterLt 3) (.scope (.loop (.iterLt 2) (.leaf false)))
theorem scoped_nest_exact :
    itersExact scopedNest = true ∧
    (lexec ⟨fun _ => true, fun _ => false⟩ 50 0 scopedNest (LSt.init scopedNest)).map
      (fun s => (s.exact, passesAt 0 s, passesAt 1 s, s.ctrs)) = some (true, 3, 6, [3]) := by
  decide +kernel

/-- Two loops of the same level: the second finds the counter where the first left it and does not run. -/
def twoLoops : LComp := .seq (.cons (.loop (.iterLt 2) (.leaf false)) (.cons (.loop (.iterLt 2) (.leaf false)) .nil))
theorem sequential_loops_violate :
    itersExact twoLoops = false ∧
    (lexec ⟨fun _ => true, fun _ => false⟩ 50 0 twoLoops (LSt.init twoLoops)).map
      (fun s => (s.exact, passesAt 0 s)) = some (false, 2) := by
  decide +kernel

/-- KNOWN FINDING (`p:real_pso`, `p:real_iwo` [err@…:no-iteration-bound]).  `real_pso` schedules the inertia weight,
`real_iwo` the mutation deviation, over `Progress<ValueOf<Iterations>>`, which only a `LessThanN::iterations`
condition inserts.  Given any termination condition WITHOUT an iteration bound — e.g. the evaluation budget
`LessThanN::evaluations(n)` — the first pass fails with "Progress<…> does not exist in the state".  Shown on the
loops of the regenerated `real_pso` tree with the bound replaced by an opaque condition: the progress check
refuses the tree and the execution (condition true, no other failure) ends in an error, while with the iteration
bound both are fine. -/
theorem pso_without_iteration_bound_violates :
    progOkTop real_pso_v0 = true ∧ progOkTop (real_pso_v0.withCond .other) = false ∧
    lexec ⟨fun _ => true, fun _ => false⟩ 100 0 (real_pso_v0.withCond .other) (LSt.init (real_pso_v0.withCond .other)) = none ∧
    (lexec ⟨fun _ => true, fun _ => false⟩ 100 0 real_pso_v0 (LSt.init real_pso_v0)).map
      (fun s => (s.exact, passesAt 0 s)) = some (true, 3) := by
  refine ⟨by decide +kernel, by decide +kernel, by decide +kernel, by decide +kernel⟩

theorem iwo_without_iteration_bound_violates :
    progOkTop real_iwo_v0 = true ∧ progOkTop (real_iwo_v0.withCond .other) = false ∧
    lexec ⟨fun _ => true, fun _ => false⟩ 100 0 (real_iwo_v0.withCond .other) (LSt.init (real_iwo_v0.withCond .other)) = none := by
  refine ⟨by decide +kernel, by decide +kernel, by decide +kernel⟩

/-! Non-vacuity: the hypotheses hold for, and the interpreter runs, a tree regenerated from the code — iterated
local search (outer bound 3, scoped inner bound 2): 3 outer and 6 inner passes under an oracle that takes every
branch, and under one that fails nowhere and takes none. -/
example : itersExact real_ils_v0 = true := by decide
example : (lexec ⟨fun _ => true, fun _ => false⟩ 400 0 real_ils_v0 (LSt.init real_ils_v0)).map
    (fun s => (s.exact, passesAt 0 s, passesAt 1 s, s.ctrs)) = some (true, 3, 6, [3]) := by decide +kernel
example : (lexec ⟨fun _ => false, fun _ => false⟩ 400 0 real_cro_v0 (LSt.init real_cro_v0)).map
    (fun s => (s.exact, passesAt 0 s, s.ctrs)) = some (true, 3, [3]) := by decide +kernel
example : directLoops (.scope (.loop (.iterLt 2) (.leaf false))) = 0 ∧ scopesOk (.scope (.loop (.iterLt 2) (.leaf false))) = true := by decide
-- composite conditions: `iterations(3) & c` stops at the first of the two, `iterations(3) | c` at the last
example : (lexec ⟨fun t => t < 2, fun _ => false⟩ 50 0 (.loop (.both 3) (.leaf false)) (LSt.init (.leaf false))).map
    (fun s => (s.exact, passesAt 0 s)) = some (true, 1) := by decide +kernel
example : (lexec ⟨fun t => t < 12, fun _ => false⟩ 50 0 (.loop (.either 3) (.leaf false)) (LSt.init (.leaf false))).map
    (fun s => (s.exact, passesAt 0 s)) = some (true, 6) := by decide +kernel

/-! ### Per-template obligations on the regenerated trees -/
theorem real_ga_v0_iters : itersExact real_ga_v0 = true := by decide +kernel
theorem real_ga_v1_iters : itersExact real_ga_v1 = true := by decide +kernel
theorem real_ga_v2_iters : itersExact real_ga_v2 = true := by decide +kernel
theorem real_ga_v3_iters : itersExact real_ga_v3 = true := by decide +kernel
theorem binary_ga_v0_iters : itersExact binary_ga_v0 = true := by decide +kernel
theorem binary_ga_v1_iters : itersExact binary_ga_v1 = true := by decide +kernel
theorem binary_ga_v2_iters : itersExact binary_ga_v2 = true := by decide +kernel
theorem binary_ga_v3_iters : itersExact binary_ga_v3 = true := by decide +kernel
theorem real_es_v0_iters : itersExact real_es_v0 = true := by decide +kernel
theorem real_es_v1_iters : itersExact real_es_v1 = true := by decide +kernel
theorem real_es_v2_iters : itersExact real_es_v2 = true := by decide +kernel
theorem real_es_v3_iters : itersExact real_es_v3 = true := by decide +kernel
theorem real_de_v0_iters : itersExact real_de_v0 = true := by decide +kernel
theorem real_de_v1_iters : itersExact real_de_v1 = true := by decide +kernel
theorem real_de_v2_iters : itersExact real_de_v2 = true := by decide +kernel
theorem real_de_v3_iters : itersExact real_de_v3 = true := by decide +kernel
theorem real_pso_v0_iters : itersExact real_pso_v0 = true := by decide +kernel
theorem real_pso_v1_iters : itersExact real_pso_v1 = true := by decide +kernel
theorem real_pso_v2_iters : itersExact real_pso_v2 = true := by decide +kernel
theorem real_pso_v3_iters : itersExact real_pso_v3 = true := by decide +kernel
theorem real_sa_v0_iters : itersExact real_sa_v0 = true := by decide +kernel
theorem real_sa_v1_iters : itersExact real_sa_v1 = true := by decide +kernel
theorem real_sa_v2_iters : itersExact real_sa_v2 = true := by decide +kernel
theorem real_sa_v3_iters : itersExact real_sa_v3 = true := by decide +kernel
theorem permutation_sa_v0_iters : itersExact permutation_sa_v0 = true := by decide +kernel
theorem permutation_sa_v1_iters : itersExact permutation_sa_v1 = true := by decide +kernel
theorem permutation_sa_v2_iters : itersExact permutation_sa_v2 = true := by decide +kernel
theorem permutation_sa_v3_iters : itersExact permutation_sa_v3 = true := by decide +kernel
theorem real_ls_v0_iters : itersExact real_ls_v0 = true := by decide +kernel
theorem real_ls_v1_iters : itersExact real_ls_v1 = true := by decide +kernel
theorem real_ls_v2_iters : itersExact real_ls_v2 = true := by decide +kernel
theorem real_ls_v3_iters : itersExact real_ls_v3 = true := by decide +kernel
theorem permutation_ls_v0_iters : itersExact permutation_ls_v0 = true := by decide +kernel
theorem permutation_ls_v1_iters : itersExact permutation_ls_v1 = true := by decide +kernel
theorem permutation_ls_v2_iters : itersExact permutation_ls_v2 = true := by decide +kernel
theorem permutation_ls_v3_iters : itersExact permutation_ls_v3 = true := by decide +kernel
theorem real_ils_v0_iters : itersExact real_ils_v0 = true := by decide +kernel
theorem real_ils_v1_iters : itersExact real_ils_v1 = true := by decide +kernel
theorem real_ils_v2_iters : itersExact real_ils_v2 = true := by decide +kernel
theorem real_ils_v3_iters : itersExact real_ils_v3 = true := by decide +kernel
theorem permutation_ils_v0_iters : itersExact permutation_ils_v0 = true := by decide +kernel
theorem permutation_ils_v1_iters : itersExact permutation_ils_v1 = true := by decide +kernel
theorem permutation_ils_v2_iters : itersExact permutation_ils_v2 = true := by decide +kernel
theorem permutation_ils_v3_iters : itersExact permutation_ils_v3 = true := by decide +kernel
theorem real_rs_v0_iters : itersExact real_rs_v0 = true := by decide +kernel
theorem real_rs_v1_iters : itersExact real_rs_v1 = true := by decide +kernel
theorem real_rs_v2_iters : itersExact real_rs_v2 = true := by decide +kernel
theorem real_rs_v3_iters : itersExact real_rs_v3 = true := by decide +kernel
theorem permutation_rs_v0_iters : itersExact permutation_rs_v0 = true := by decide +kernel
theorem permutation_rs_v1_iters : itersExact permutation_rs_v1 = true := by decide +kernel
theorem permutation_rs_v2_iters : itersExact permutation_rs_v2 = true := by decide +kernel
theorem permutation_rs_v3_iters : itersExact permutation_rs_v3 = true := by decide +kernel
theorem real_rw_v0_iters : itersExact real_rw_v0 = true := by decide +kernel
theorem real_rw_v1_iters : itersExact real_rw_v1 = true := by decide +kernel
theorem real_rw_v2_iters : itersExact real_rw_v2 = true := by decide +kernel
theorem real_rw_v3_iters : itersExact real_rw_v3 = true := by decide +kernel
theorem permutation_rw_v0_iters : itersExact permutation_rw_v0 = true := by decide +kernel
theorem permutation_rw_v1_iters : itersExact permutation_rw_v1 = true := by decide +kernel
theorem permutation_rw_v2_iters : itersExact permutation_rw_v2 = true := by decide +kernel
theorem permutation_rw_v3_iters : itersExact permutation_rw_v3 = true := by decide +kernel
theorem real_iwo_v0_iters : itersExact real_iwo_v0 = true := by decide +kernel
theorem real_iwo_v1_iters : itersExact real_iwo_v1 = true := by decide +kernel
theorem real_iwo_v2_iters : itersExact real_iwo_v2 = true := by decide +kernel
theorem real_iwo_v3_iters : itersExact real_iwo_v3 = true := by decide +kernel
theorem real_fa_v0_iters : itersExact real_fa_v0 = true := by decide +kernel
theorem real_fa_v1_iters : itersExact real_fa_v1 = true := by decide +kernel
theorem real_fa_v2_iters : itersExact real_fa_v2 = true := by decide +kernel
theorem real_fa_v3_iters : itersExact real_fa_v3 = true := by decide +kernel
theorem real_bh_v0_iters : itersExact real_bh_v0 = true := by decide +kernel
theorem real_bh_v1_iters : itersExact real_bh_v1 = true := by decide +kernel
theorem real_bh_v2_iters : itersExact real_bh_v2 = true := by decide +kernel
theorem real_bh_v3_iters : itersExact real_bh_v3 = true := by decide +kernel
theorem real_cro_v0_iters : itersExact real_cro_v0 = true := by decide +kernel
theorem real_cro_v1_iters : itersExact real_cro_v1 = true := by decide +kernel
theorem real_cro_v2_iters : itersExact real_cro_v2 = true := by decide +kernel
theorem real_cro_v3_iters : itersExact real_cro_v3 = true := by decide +kernel
theorem ant_system_v0_iters : itersExact ant_system_v0 = true := by decide +kernel
theorem ant_system_v1_iters : itersExact ant_system_v1 = true := by decide +kernel
theorem ant_system_v2_iters : itersExact ant_system_v2 = true := by decide +kernel
theorem ant_system_v3_iters : itersExact ant_system_v3 = true := by decide +kernel
theorem max_min_ant_system_v0_iters : itersExact max_min_ant_system_v0 = true := by decide +kernel
theorem max_min_ant_system_v1_iters : itersExact max_min_ant_system_v1 = true := by decide +kernel
theorem max_min_ant_system_v2_iters : itersExact max_min_ant_system_v2 = true := by decide +kernel
theorem max_min_ant_system_v3_iters : itersExact max_min_ant_system_v3 = true := by decide +kernel

end MahfModel.Props.C16.Iter
