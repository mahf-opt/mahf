/- C13 — parameter guards: which parameter values every constructor / `execute` of the mutation components accepts. -/
import MahfModel.Model.Variation
import Mathlib.Algebra.Order.Field.Basic
namespace MahfModel.Props.C13
open MahfModel.Variation

variable {α : Type}

/-! The guards are functions of the parameter VALUE (`Param F`: a finite number, `±∞` or NaN); the driver
calls the same definitions on the `f64` the harness passed to the real component. -/

section GuardTheorems
variable {F : Type} [Field F] [LinearOrder F] [IsStrictOrderedRing F] {β : Type}

/-- A mutation rate is accepted exactly when it is a finite number in `[0, 1]`. -/
theorem rate_guard_exact (p : Param F) :
    rateGuard p = true ↔ ∃ x, p = .fin x ∧ 0 ≤ x ∧ x ≤ 1 := by
  cases p <;> simp [rateGuard]

/-- `NormalMutation::execute` never panics on its parameters; it succeeds exactly for a finite
standard deviation (negative ones included — the sampler mirrors them) and an accepted rate; in
particular every documented value (`σ ≥ 0` finite, rate in `[0,1]`) is accepted. -/
theorem normal_mutation_guards (σ rm : Param F) (r : β) :
    (normalExec σ rm r = .ok r ↔ (∃ s, σ = .fin s) ∧ rateGuard rm = true) ∧
    normalExec σ rm r ≠ .panic ∧
    (∀ s x : F, 0 ≤ s → 0 ≤ x → x ≤ 1 → normalExec (.fin s) (.fin x) r = .ok r) := by
  refine ⟨?_, ?_, fun s x _ h0 h1 => by simp [normalExec, normalStrengthGuard, rateGuard, h0, h1]⟩ <;>
    cases σ <;> cases h : rateGuard rm <;> simp [normalExec, normalStrengthGuard, h]

/-- `UniformMutation::execute` succeeds exactly for a finite bound `≥ 0` (zero included) and an
accepted rate; the only panic is the infinite bound, which passes `bound >= 0` and fails inside
`Uniform::new_inclusive` (outside the documented domain). -/
theorem uniform_mutation_guards (b rm : Param F) (r : β) :
    (uniformExec b rm r = .ok r ↔ (∃ x, b = .fin x ∧ 0 ≤ x) ∧ rateGuard rm = true) ∧
    (uniformExec b rm r = .panic ↔ b = .posInf) := by
  cases b with
  | fin x => by_cases hx : 0 ≤ x <;> cases h : rateGuard rm <;> simp [uniformExec, uniformBoundGuard, hx, h]
  | _ => simp [uniformExec, uniformBoundGuard]

/-- The components that guard only their rate accept exactly the accepted rates. -/
theorem rate_only_guards (rm : Param F) (r : β) :
    (rateExec rm r = .ok r ↔ rateGuard rm = true) ∧ rateExec rm r ≠ .panic := by
  cases h : rateGuard rm <;> simp [rateExec, h]

/-- `DEMutation::from_params` accepts exactly `y ∈ {1, 2}` with a finite `f ∈ [0, 2]` (the documented
`(0, 2]` plus `f = 0`). -/
theorem de_ctor_guard_exact (y : Nat) (f : Param F) :
    deCtorGuard y f = true ↔ (y = 1 ∨ y = 2) ∧ ∃ x, f = .fin x ∧ 0 ≤ x ∧ x ≤ 2 := by
  cases f <;> simp [deCtorGuard, and_assoc]
end GuardTheorems

/-- `SwapMutation`: the constructor accepts exactly `num_swap ≥ 2`, `execute` errs exactly when
`num_swap` exceeds the solution length (and then never panics first). -/
theorem swap_guards_exact (k : Nat) (sol : List α) (w : List Nat) :
    (swapCtorGuard k = true ↔ 2 ≤ k) ∧ (swapMutation k sol w = .err ↔ sol.length < k) := by
  refine ⟨by simp [swapCtorGuard], ?_⟩
  unfold swapMutation
  by_cases h : sol.length < k
  · simp [h]
  · simp only [h, if_false, iff_false]
    cases circularSwap sol w <;> simp

/-! The guards on concrete values. -/
example : rateGuard (Param.fin (1 : Int)) = true ∧ rateGuard (Param.nan : Param Int) = false ∧
    uniformBoundGuard (Param.posInf : Param Int) = .panic ∧ normalStrengthGuard (Param.fin (-3 : Int)) = true := by decide +kernel

end MahfModel.Props.C13
