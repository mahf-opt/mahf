/-
C11 — the whole range of objective values.

`Props/C11.lean` states the property over an ordered FIELD (exact arithmetic, every value finite; an
"infinite" value exists there only as the abstract flag `O.fin x = false`).  The operators below never
do arithmetic on objective values — they only COMPARE them (`Tournament`, `LinearRank`, `DEBest`,
`DECurrentToBest`, and the helper `f::best` the two DE selections use).  For them the property is stated
here over an arbitrary carrier `G` that is merely a TOTAL PREORDER with decidable comparisons:
* no arithmetic law is assumed (the `Add`/`Sub`/`Mul`/`Div`/`0`/`1` instances the model's signature asks
  for are arbitrary), no value is "finite" or "infinite": `G` may have a greatest element (`+inf`, the
  objective of an infeasible solution), values of any magnitude (`±f64::MAX`), and — a preorder, not a
  partial order — distinct elements that compare equal (`-0.0` and `+0.0`);
* `f64` without NaN (`SingleObjective`) with its `<` / `<=` is such a carrier.

So: a population whose members ALL have the objective `+inf` (or are all equal, or hold one finite value
among `+inf`, …) is an ordinary input of these operators — `Err` is returned on the documented inputs
(too few individuals) and on nothing else, `best` is found, every block has the documented content.
-/
import MahfModel.Proofs.C11Range
import Mathlib.Data.Int.Order.Basic
import Mathlib.Order.WithBot
namespace MahfModel.Props.C11
open MahfModel.Selection
set_option linter.unusedSectionVars false

variable {G : Type} [Preorder G] [Std.Total (α := G) (· ≤ ·)] [DecidableLT G] [DecidableLE G]
  [Add G] [Sub G] [Mul G] [Div G] [OfNat G 0] [OfNat G 1]

/-- every member carries an objective value (over any carrier) -/
def EvaluatedR (pop : Pop G) : Prop := ∀ x ∈ pop, x.obj.isSome

/-- the fitness-based operators that only compare objective values -/
def ComparisonOnly (op : Op G) : Prop :=
  match op with
  | .tournament _ _ | .linearRank _ | .deBest _ | .deCurrentToBest _ => True
  | _ => False

/-- the documented unusable inputs of these operators: too few individuals (an empty tournament included) -/
def RangeErrCond (op : Op G) (pop : Pop G) : Prop :=
  match op with
  | .tournament n size => pop.length < size ∨ (size = 0 ∧ n ≠ 0)
  | .linearRank _ => pop = []
  | .deBest y => pop.length < 2 * y ∨ pop = []
  | .deCurrentToBest y => pop = [] ∨ ∃ ind ∈ pop, (pop.filter (fun j => !sameInd j ind)).length < 2 * y - 1
  | _ => False

/-- `f::best` (used by `DEBest` / `DECurrentToBest`) on an evaluated population, whatever the objective
values are: it never panics, it answers `None` ("population is empty") EXACTLY on the empty population,
and what it returns is a member of the population whose objective is minimal.  In particular a
population in which every member has the greatest objective value (`+inf`) has a best member. -/
theorem best_any_range (pop : Pop G) (hev : EvaluatedR pop) :
    best pop ≠ .error .panic ∧ (best pop = .ok none ↔ pop = []) ∧
    ∀ b, best pop = .ok (some b) →
      b ∈ pop ∧ ∃ a, b.obj = some a ∧ ∀ x ∈ pop, ∀ c, x.obj = some c → a ≤ c := by
  obtain ⟨r, hr, hnone⟩ := best_of_evaluated hev
  refine ⟨by rw [hr]; simp, by rw [hr]; simpa using hnone, fun b hb => ⟨mem_of_best_eq hb, ?_⟩⟩
  obtain ⟨a, ha, hmin, _⟩ := best_spec hb
  exact ⟨a, ha, le_of_forall_exists_le hmin⟩

/-- The code's own choice is a legal witness position over any carrier (so the theorems over all legal
witnesses below cover the code). -/
theorem code_best_is_legal_any_range (pop : Pop G) (b : Ind G) (h : best pop = .ok (some b)) :
    ∃ i, pop[i]? = some b ∧ BestIdx pop i ∧ bestAt pop i = best pop := by
  obtain ⟨a, ha, hmin, pre, post, hpp, _⟩ := best_spec h
  have hget : pop[pre.length]? = some b := by rw [hpp]; simp
  refine ⟨pre.length, hget, Or.inr ⟨b, a, hget, ha, le_of_forall_exists_le hmin⟩, ?_⟩
  obtain ⟨ks, _, hk, _, _⟩ := best_eq_some h
  rw [h]; simp only [bestAt, hk, hget]

/-- On a plateau — no member strictly better than another one: all `+inf`, all equal, `-0.0` next to
`+0.0` — EVERY member is a legal "best". -/
theorem plateau_every_member_is_best (pop : Pop G) (hev : EvaluatedR pop)
    (heq : ∀ x ∈ pop, ∀ y ∈ pop, ∀ a b, x.obj = some a → y.obj = some b → a ≤ b) :
    ∀ i, i < pop.length → BestIdx pop i := by
  intro i hi
  have hx : pop[i]? = some pop[i] := List.getElem?_eq_getElem hi
  have hmem : pop[i] ∈ pop := List.getElem_mem hi
  obtain ⟨a, ha⟩ := Option.isSome_iff_exists.mp (hev _ hmem)
  exact Or.inr ⟨pop[i], a, hx, ha, fun y hy b hb => heq _ hmem y hy a b ha hb⟩

/-- The documented-error clause, exactly, over the whole range of objective values: on an evaluated
population and for every legal witness, `Tournament`, `LinearRank`, `DEBest` and `DECurrentToBest` never
panic and return `Err` on the inputs of `RangeErrCond` (too few individuals) and on NO other input —
whatever the objective values are (greatest element / huge / equal / equivalent-but-distinct values) and
whatever the carrier's arithmetic does. -/
theorem documented_errors_any_range (O : Ops G) (op : Op G) (w : Witness G) (pop : Pop G)
    (hop : ComparisonOnly op) (hev : EvaluatedR pop) (hl : Legal op pop w) :
    (select O op w pop = .error .exec ↔ RangeErrCond op pop) ∧ select O op w pop ≠ .error .panic := by
  cases op <;> try exact hop.elim
  case tournament n size =>
    cases w <;> try exact hl.elim
    exact tournament_outcome O n size _ pop hev hl
  case linearRank n =>
    cases w <;> try exact hl.elim
    exact linearRank_outcome O n _ pop hev
  case deBest y =>
    cases w <;> try exact hl.elim
    exact deBest_outcome O y _ _ pop hev hl.2
  case deCurrentToBest y =>
    cases w <;> try exact hl.elim
    exact deCurrentToBest_outcome O y _ _ pop hev hl.2

/-- `DEBest` over the whole range: every block is `[best, 2y members at pairwise distinct positions]`, `best` a
member of minimal objective (any of them). -/
theorem de_best_blocks_any_range (O : Ops G) (y bi : Nat) (ss : List (List Nat)) (pop sel : Pop G)
    (hl : Legal (.deBest y) pop (.setsBest bi ss)) (h : select O (.deBest y) (.setsBest bi ss) pop = .ok sel) :
    ∃ b a, pop[bi]? = some b ∧ b.obj = some a ∧ (∀ x ∈ pop, ∀ c, x.obj = some c → a ≤ c) ∧
      sel = (ss.map fun s => b :: pick pop s).flatten ∧ ss.length = pop.length ∧
      ∀ s ∈ ss, s.length = 2 * y ∧ s.Nodup ∧ inRange pop.length s := by
  rw [select_deBest] at h
  split_ifs at h with hlt
  split at h
  · cases h
  · cases h
  · next b hb =>
    cases h
    have hbi := bestAt_some hb
    obtain ⟨a, ha, hmin⟩ := bestIdx_spec hl.2 hbi
    refine ⟨b, a, hbi, ha, hmin, by rw [List.flatMap_def], hl.1.1, fun s hs => ?_⟩
    obtain ⟨h1, h2, h3⟩ := hl.1.2 s hs
    exact ⟨by rw [h1]; omega, h2, h3⟩

/-- `DECurrentToBest` over the whole range: the block of a member is `[that member, best, 2y-1 members at
pairwise distinct positions among those that differ from it]`. -/
theorem de_current_to_best_blocks_any_range (O : Ops G) (y bi : Nat) (ss : List (List Nat)) (pop sel : Pop G)
    (hl : Legal (.deCurrentToBest y) pop (.setsBest bi ss))
    (h : select O (.deCurrentToBest y) (.setsBest bi ss) pop = .ok sel) :
    ∃ b a, pop[bi]? = some b ∧ b.obj = some a ∧ (∀ x ∈ pop, ∀ c, x.obj = some c → a ≤ c) ∧
      sel = ((pop.zip ss).map fun (p : Ind G × List Nat) =>
        p.1 :: b :: pick (pop.filter (fun j => !sameInd j p.1)) p.2).flatten ∧ ss.length = pop.length ∧
      ∀ p ∈ pop.zip ss, p.2.length = 2 * y - 1 ∧ p.2.Nodup ∧
        inRange (pop.filter (fun j => !sameInd j p.1)).length p.2 := by
  rw [select_deCurrentToBest] at h
  split at h
  · cases h
  · cases h
  · next b hb =>
    split_ifs at h with hany
    cases h
    have hbi := bestAt_some hb
    obtain ⟨a, ha, hmin⟩ := bestIdx_spec hl.2 hbi
    refine ⟨b, a, hbi, ha, hmin, by rw [List.flatMap_def], hl.1.1, fun p hp => ?_⟩
    obtain ⟨h1, h2, h3⟩ := hl.1.2 p hp
    refine ⟨?_, h2, h3⟩
    have hbig : ¬ (pop.filter (fun j => !sameInd j p.1)).length < 2 * y - 1 := by
      intro hc
      apply hany
      rw [List.any_eq_true]
      exact ⟨p.1, (List.of_mem_zip hp).1, by simpa using hc⟩
    rw [h1]; omega

/-- A tournament over the whole population returns a member of minimal objective, over the whole range. -/
theorem tournament_whole_population_is_best_any_range (O : Ops G) (n : Nat) (ss : List (List Nat)) (pop sel : Pop G)
    (hl : Legal (.tournament n pop.length) pop (.sets ss))
    (h : select O (.tournament n pop.length) (.sets ss) pop = .ok sel) :
    ∀ win ∈ sel, ∃ a, win.obj = some a ∧ ∀ x ∈ pop, ∃ b, x.obj = some b ∧ a ≤ b := by
  have hw := tournament_winners O n pop.length ss pop sel h
  intro win hwin
  obtain ⟨c, hc, a, ha, hmin, _⟩ := forall₂_exists_left hw hwin
  obtain ⟨h1, h2, h3⟩ := hl.2 c hc
  have hperm := pick_perm_of_full pop c (by simpa using h1) h2 h3
  exact ⟨a, ha, fun x hx => hmin x (hperm.mem_iff.mpr hx)⟩

/-! ## Non-vacuity: a carrier with a greatest element and a signed zero -/

/-- an extended integer (`⊤` = `+inf`) with a sign bit the order does not see (`-0.0` vs `+0.0`) -/
structure XObj where
  v : WithTop Int
  neg : Bool
  deriving DecidableEq

instance : Preorder XObj := Preorder.lift XObj.v
instance : Std.Total (α := XObj) (· ≤ ·) := ⟨fun a b => le_total a.v b.v⟩
instance : DecidableLE XObj := fun a b => inferInstanceAs (Decidable (a.v ≤ b.v))
instance : DecidableLT XObj := fun a b => inferInstanceAs (Decidable (a.v < b.v))
-- arithmetic the comparison-only operators never use (the theorems hold for ANY such instances)
instance : Add XObj := ⟨fun a _ => a⟩
instance : Sub XObj := ⟨fun a _ => a⟩
instance : Mul XObj := ⟨fun a _ => a⟩
instance : Div XObj := ⟨fun a _ => a⟩
instance : OfNat XObj 0 := ⟨⟨((0 : Int) : WithTop Int), false⟩⟩
instance : OfNat XObj 1 := ⟨⟨((1 : Int) : WithTop Int), false⟩⟩

def xinf : XObj := ⟨⊤, false⟩
def xOps : Ops XObj := ⟨fun x => x.v ≠ ⊤, fun _ => 0, fun _ => 0, fun b _ => b, fun _ => false⟩
/-- every member has the objective `+inf` -/
def exAllInf : Pop XObj := [⟨1, some xinf⟩, ⟨2, some xinf⟩, ⟨3, some xinf⟩, ⟨4, some xinf⟩]
/-- a single finite value among `+inf`, and `-0` next to `+0` -/
def exMixed : Pop XObj := [⟨1, some xinf⟩, ⟨2, some ⟨((0 : Int) : WithTop Int), true⟩⟩, ⟨3, some ⟨((0 : Int) : WithTop Int), false⟩⟩, ⟨4, some xinf⟩]

example : EvaluatedR exAllInf := by
  intro x hx; simp [exAllInf] at hx; rcases hx with h | h | h | h <;> subst h <;> rfl
-- the code's `best` on the all-`+inf` population: the first member, not `None`
example : best exAllInf = .ok (some ⟨1, some xinf⟩) := by decide
example : best exMixed = .ok (some ⟨2, some ⟨((0 : Int) : WithTop Int), true⟩⟩) := by decide
-- the plateau hypothesis holds for the all-`+inf` population
example : ∀ x ∈ exAllInf, ∀ y ∈ exAllInf, ∀ a b, x.obj = some a → y.obj = some b → a ≤ b := by
  intro x hx y hy a b ha hb
  simp [exAllInf] at hx hy
  rcases hx with h | h | h | h <;> subst h <;> rcases hy with h | h | h | h <;> subst h <;>
    simp at ha hb <;> subst ha <;> subst hb <;> exact le_refl _
-- a legal witness of `DEBest` with y = 1 on it (best slot: position 2), and what the model returns
example : ComparisonOnly (.deBest 1 : Op XObj) ∧
    Legal (.deBest 1 : Op XObj) exAllInf (.setsBest 2 [[0, 1], [3, 2], [1, 0], [2, 3]]) := by
  refine ⟨trivial, ⟨rfl, ?_⟩, Or.inr ⟨⟨3, some xinf⟩, xinf, rfl, rfl, ?_⟩⟩
  · unfold ChooseMultiple inRange; decide +kernel
  · unfold exAllInf; decide +kernel
example : ¬ RangeErrCond (.deBest 1 : Op XObj) exAllInf := by unfold RangeErrCond; decide +kernel
example : ∃ sel, select xOps (.deBest 1) (.setsBest 2 [[0, 1], [3, 2], [1, 0], [2, 3]]) exAllInf = .ok sel ∧
    sel.length = 12 := ⟨_, rfl, rfl⟩
example : Legal (.tournament 2 4 : Op XObj) exMixed (.sets [[3, 1, 0, 2], [0, 2, 3, 1]]) := by
  unfold Legal ChooseMultiple inRange; decide +kernel

end MahfModel.Props.C11
