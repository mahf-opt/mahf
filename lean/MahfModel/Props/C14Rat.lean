/- C14: the example whose statement needs the floor of the rationals (`FloorRing ℚ`). -/
import MahfModel.Props.C14
import Mathlib.Data.Rat.Floor
namespace MahfModel.Props.C14

/-- the fuel hypothesis of `mirror_stepwise_returns` is met by a concrete coordinate -/
example : ⌈|(7 : Rat) - (-1)| / (1 - (-1))⌉₊ ≤ 4 := by
  rw [Nat.ceil_le]; norm_num

end MahfModel.Props.C14
