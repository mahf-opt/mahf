/-
C09 — "single objectives are totally ordered exactly like their numeric values, so sorting,
minimum and maximum never fail": the part of the clause that is about the *users* of the order and
about bit patterns (signed zeros, `total_cmp`).  Property theorems only; the lemmas they rest on: comparison programs
`Proofs/C09Ord.lean`, bit patterns `Proofs/C09Total.lean`. The tie rules and the stability of the model's own sort, minimum
and maximum (same namespace): `Props/C09Sort.lean`.
-/
import MahfModel.Proofs.C09Ord
import MahfModel.Proofs.C09Total
namespace MahfModel.Props.C09Ord
open MahfModel.Objective MahfModel.Objective.CmpProg

/-- **Every** algorithm whose only access to the elements is `Ord::cmp`, `partial_cmp` (hence `<`,
`<=`, `>`, `>=`) and `==` — a `CmpProg` is an arbitrary decision tree over these three questions —
behaves on a collection of objective values (an element type all of whose keys are legal, which is the
invariant of `SingleObjective`) exactly as it would if the questions were answered by the numeric
order of the values, and it never panics inside a comparison: if the algorithm has no panic of its
own it returns. -/
theorem comparison_program_safe {α β : Type} (key : α → F64) (hkey : ∀ a, legal (key a) = true)
    (p : CmpProg α β) :
    p.run key = p.runSpec key ∧ (p.NoFail → ∃ b, p.run key = .ok b) := by
  induction p with
  | ret b => exact ⟨rfl, fun _ => ⟨b, rfl⟩⟩
  | fail => exact ⟨rfl, False.elim⟩
  | ask x y k ih =>
    -- on legal values both executions get the same, definite answer
    rw [run, runSpec, ← objPartialCmp_eq_valueCmp _ _ (hkey x) (hkey y), objPartialCmp_of_legal _ _ (hkey x) (hkey y),
      objCmp_of_legal _ _ (hkey x) (hkey y)]
    exact ⟨(ih _).1, fun hp => (ih _).2 (hp _)⟩
  | askP x y k ih =>
    rw [run, runSpec, objPartialCmp_eq_valueCmp _ _ (hkey x) (hkey y)]
    exact ⟨(ih _).1, fun hp => (ih _).2 (hp _)⟩
  | askEq x y k ih =>
    rw [run, runSpec, objEq_eq_valueCmp _ _ (hkey x) (hkey y)]
    exact ⟨(ih _).1, fun hp => (ih _).2 (hp _)⟩

/-- The hypothesis is the type invariant: the subtype of legal values. -/
example : ∀ a : {x : F64 // legal x = true}, legal (Subtype.val a) = true := fun a => a.2
example : (pSort false [(⟨.fin 3, rfl⟩ : {x : F64 // legal x = true}), ⟨.pinf, rfl⟩, ⟨.fin (-1), rfl⟩]).run
    Subtype.val = .ok [⟨.fin (-1), rfl⟩, ⟨.fin 3, rfl⟩, ⟨.pinf, rfl⟩] := by decide +kernel

/-- Without the invariant the conclusion fails: a NaN makes `cmp` panic. -/
theorem comparison_program_unsafe_with_nan :
    (pMin [F64.fin 0, .nan]).run id = .panic ∧ (pMin [F64.fin 0, .nan]).NoFail := by
  exact ⟨by decide, pMin_noFail _⟩

/-- The documented std algorithms written as comparison programs are the functions
`sort_min_max_safe` (Props/C09.lean) speaks about. -/
theorem std_programs_are_the_model {α : Type} (key : α → F64) (l : List α) :
    (pMin l).run key = minObjs key l ∧ (pMax l).run key = maxObjs key l ∧
    (pSort false l).run key = sortObjs key l := by
  refine and_assoc.mp ⟨?_, ?_⟩
  · cases l with
    | nil => exact ⟨rfl, rfl⟩
    | cons x xs =>
      simp only [pMin, pMax, run_bind, pMinMaxGo_run, minObjs, maxObjs]
      cases minGo key x xs <;> cases maxGo key x xs <;> exact ⟨rfl, rfl⟩
  · induction l with
    | nil => rfl
    | cons x xs ih =>
      simp only [pSort, run_bind, ih, sortObjs]
      cases sortObjs key xs with
      | panic => rfl
      | ok r => exact pInsert_run key x r

/-- Consequently none of the documented std algorithms can fail on a collection of objective values
(whatever their concrete implementation in std is, as long as it only compares): first-minimum,
last-maximum, stable sort ascending and under `Reverse`, `Ord::min`/`max`, lexicographic `cmp` /
`partial_cmp` / `==` of slices, insertion of a sequence into a `BTreeSet` / `BTreeMap`, `dedup`. -/
theorem std_algorithms_never_fail {α : Type} (key : α → F64) (hkey : ∀ a, legal (key a) = true)
    (l l' : List α) (a b : α) (rev : Bool) :
    (∃ r, (pMin l).run key = .ok r) ∧ (∃ r, (pMax l).run key = .ok r) ∧
    (∃ r, (pSort rev l).run key = .ok r) ∧
    (∃ r, (pOrdMin a b).run key = .ok r) ∧ (∃ r, (pOrdMax a b).run key = .ok r) ∧
    (∃ r, (pLex l l').run key = .ok r) ∧ (∃ r, (pLexP l l').run key = .ok r) ∧
    (∃ r, (pSliceEq l l').run key = .ok r) ∧
    (∃ r, (pSet l).run key = .ok r) ∧ (∃ r, (pMap l).run key = .ok r) ∧
    (∃ r, (pDedup l).run key = .ok r) := by
  have ok : ∀ {β : Type} (p : CmpProg α β), p.NoFail → ∃ r, p.run key = .ok r :=
    fun p hp => (comparison_program_safe key hkey p).2 hp
  exact ⟨ok _ (pMin_noFail l), ok _ (pMax_noFail l), ok _ (pSort_noFail rev l),
    ok _ (pOrdMin_noFail a b), ok _ (pOrdMax_noFail a b),
    ok _ (pLex_noFail l l'), ok _ (pLexP_noFail l l'), ok _ (pSliceEq_noFail l l'),
    ok _ (pSetGo_noFail [] [] l), ok _ (pMapGo_noFail [] l), ok _ (pDedup_noFail l)⟩

/-- `Ord::min` / `Ord::max` (provided methods) on legal values: the result is one of the two
arguments, bounds both, and on a tie `min` is the first, `max` the second argument. -/
theorem ord_min_max_spec {α : Type} (key : α → F64) (a b : α)
    (ha : legal (key a) = true) (hb : legal (key b) = true) :
    (∃ r, (pOrdMin a b).run key = .ok r ∧ (r = a ∨ r = b) ∧
        objLe (key r) (key a) = true ∧ objLe (key r) (key b) = true ∧
        (lt (key b) (key a) = false → r = a)) ∧
    (∃ r, (pOrdMax a b).run key = .ok r ∧ (r = a ∨ r = b) ∧
        objLe (key a) (key r) = true ∧ objLe (key b) (key r) = true ∧
        (lt (key b) (key a) = false → r = b)) := by
  obtain ⟨h1, h2⟩ := pOrdMinMax_run key a b ha hb
  rcases Bool.eq_false_or_eq_true (lt (key b) (key a)) with h | h <;> rw [h] at h1 h2
  · have hle := objLe_of_lt _ _ h
    exact ⟨⟨b, h1, .inr rfl, hle, objLe_refl _ hb, fun h' => by rw [h] at h'; cases h'⟩,
      ⟨a, h2, .inl rfl, objLe_refl _ ha, hle, fun h' => by rw [h] at h'; cases h'⟩⟩
  · have hle := (objLe_iff_not_gt _ _ ha hb).mpr h
    exact ⟨⟨a, h1, .inl rfl, objLe_refl _ ha, hle, fun _ => rfl⟩,
      ⟨b, h2, .inr rfl, hle, objLe_refl _ hb, fun _ => rfl⟩⟩

example : legal (F64.fin 0) = true ∧ (pOrdMin (F64.fin 1) (F64.fin 0)).run id = .ok (.fin 0) ∧
    (pOrdMax (F64.fin 1) F64.pinf).run id = .ok .pinf := by decide +kernel

/-- `Ord::clamp` on legal values panics exactly when `min > max` (its documented precondition);
otherwise the result lies between the bounds and is `self` whenever `self` does. -/
theorem ord_clamp_spec {α : Type} (key : α → F64) (a lo hi : α)
    (ha : legal (key a) = true) (hl : legal (key lo) = true) (hh : legal (key hi) = true) :
    ((pClamp a lo hi).run key = .panic ↔ lt (key hi) (key lo) = true) ∧
    (lt (key hi) (key lo) = false → ∃ r, (pClamp a lo hi).run key = .ok r ∧
        objLe (key lo) (key r) = true ∧ objLe (key r) (key hi) = true ∧
        (lt (key a) (key lo) = false → lt (key hi) (key a) = false → r = a)) := by
  have hrun := pClamp_run key a lo hi ha hl hh
  rcases Bool.eq_false_or_eq_true (lt (key hi) (key lo)) with h1 | h1 <;> rw [h1] at hrun ⊢
  · exact ⟨⟨fun _ => rfl, fun _ => hrun⟩, nofun⟩
  · have hlohi := (objLe_iff_not_gt _ _ hl hh).mpr h1
    rcases Bool.eq_false_or_eq_true (lt (key a) (key lo)) with h2 | h2 <;> rw [h2] at hrun ⊢
    · exact ⟨⟨fun h => (nomatch hrun.symm.trans h), nofun⟩,
        fun _ => ⟨lo, hrun, objLe_refl _ hl, hlohi, nofun⟩⟩
    · have hloa := (objLe_iff_not_gt _ _ hl ha).mpr h2
      rcases Bool.eq_false_or_eq_true (lt (key hi) (key a)) with h3 | h3 <;> rw [h3] at hrun ⊢
      · exact ⟨⟨fun h => (nomatch hrun.symm.trans h), nofun⟩,
          fun _ => ⟨hi, hrun, hlohi, objLe_refl _ hh, nofun⟩⟩
      · exact ⟨⟨fun h => (nomatch hrun.symm.trans h), nofun⟩,
          fun _ => ⟨a, hrun, hloa, (objLe_iff_not_gt _ _ ha hh).mpr h3, fun _ _ => rfl⟩⟩

example : (pClamp (F64.fin 5) (F64.fin 0) (F64.fin 3)).run id = .ok (.fin 3) ∧
    (pClamp (F64.fin 5) (F64.fin 3) (F64.fin 0)).run id = .panic ∧
    lt (F64.fin 3) (F64.fin 0) = false := by decide +kernel

/-- `BTreeSet::insert` of a legal value into a strictly ascending set of legal values: never fails,
keeps the set strictly ascending, adds nothing but `x`, loses nothing, afterwards a member equal to
`x` is present, the returned flag says whether no equal member was there before, and if one was
the set is unchanged (the entry is not updated). -/
theorem btree_insert_spec {α : Type} (key : α → F64) (x : α) (s : List α)
    (hx : legal (key x) = true) (hs : ∀ y ∈ s, legal (key y) = true)
    (hst : s.Pairwise (fun a b => lt (key a) (key b) = true)) :
    ∃ r fl, (pSetInsert x s).run key = .ok (r, fl) ∧
      r.Pairwise (fun a b => lt (key a) (key b) = true) ∧
      (∀ z, z ∈ r → z = x ∨ z ∈ s) ∧ (∀ z ∈ s, z ∈ r) ∧
      (∃ z ∈ r, eq (key z) (key x) = true) ∧
      (fl = true ↔ ∀ z ∈ s, eq (key z) (key x) = false) ∧
      (fl = true → x ∈ r) ∧ (fl = false → r = s) := by
  obtain ⟨r, fl, hr, hsr, ⟨rfl, hp, hne⟩ | ⟨rfl, rfl, z, hz, hze⟩⟩ := pSetInsert_run key x s hx hs hst
  · exact ⟨r, true, hr, hsr, fun z hz => List.mem_cons.mp (hp.mem_iff.mp hz),
      fun z hz => hp.mem_iff.mpr (List.mem_cons_of_mem _ hz),
      ⟨x, hp.mem_iff.mpr (List.mem_cons_self ..), eq_self _ (legal_not_nan _ hx)⟩,
      ⟨fun _ => hne, fun _ => rfl⟩, fun _ => hp.mem_iff.mpr (List.mem_cons_self ..), nofun⟩
  · exact ⟨r, false, hr, hsr, fun z hz => .inr hz, fun z hz => hz, ⟨z, hz, hze⟩,
      ⟨nofun, fun h => by rw [h z hz] at hze; cases hze⟩, nofun, fun _ => rfl⟩

example : [F64.fin 1, .fin 4].Pairwise (fun a b => lt (id a) (id b) = true) ∧
    (pSetInsert (F64.fin 4) [F64.fin 1, .fin 4]).run id = .ok ([.fin 1, .fin 4], false) ∧
    (pSetInsert (F64.fin 2) [F64.fin 1, .fin 4]).run id = .ok ([.fin 1, .fin 2, .fin 4], true) := by
  decide +kernel

/-! ### bit patterns: signed zeros and `total_cmp` -/

/-- The witness the harness must (and does) contain. -/
theorem total_cmp_signed_zero_witness :
    totalCmp (2 ^ 63) 0 = .lt ∧ totalCmp 0 (2 ^ 63) = .gt ∧
    objCmp (ofNatBits (2 ^ 63)) (ofNatBits 0) = .ok .eq ∧ objCmp (ofNatBits 0) (ofNatBits (2 ^ 63)) = .ok .eq ∧
    legal (ofNatBits (2 ^ 63)) = true ∧ legal (ofNatBits 0) = true := by decide +kernel

/-- Two legal bit patterns compare `Equal` exactly when they are the same pattern or both are a
zero (`0x0000…` and `0x8000…`): −0.0 and +0.0 are the *only* distinct patterns the order must
identify. -/
theorem cmp_eq_iff_bits (m n : Nat) (hm : m < 2 ^ 64) (hn : n < 2 ^ 64)
    (lm : legal (ofNatBits m) = true) (ln : legal (ofNatBits n) = true) :
    objCmp (ofNatBits m) (ofNatBits n) = .ok .eq ↔ (m = n ∨ (m % 2 ^ 63 = 0 ∧ n % 2 ^ 63 = 0)) := by
  by_cases hz : (m = 2 ^ 63 ∧ n = 0) ∨ (m = 0 ∧ n = 2 ^ 63)
  · rcases hz with ⟨rfl, rfl⟩ | ⟨rfl, rfl⟩
    · exact ⟨fun _ => .inr ⟨Nat.mod_self _, Nat.zero_mod _⟩, fun _ => total_cmp_signed_zero_witness.2.2.1⟩
    · exact ⟨fun _ => .inr ⟨Nat.zero_mod _, Nat.mod_self _⟩, fun _ => total_cmp_signed_zero_witness.2.2.2.1⟩
  · rw [objCmp_eq_totalCmp m n hm hn lm ln hz]
    constructor
    · intro h
      injection h with h
      exact .inl (totalKey_inj m n (Int.compare_eq_eq.mp h))
    · intro h
      obtain rfl : m = n := by
        rcases h with h | ⟨h1, h2⟩
        · exact h
        · rcases zero_pattern m hm h1 with rfl | rfl <;> rcases zero_pattern n hn h2 with rfl | rfl
          · rfl
          · exact absurd (.inr ⟨rfl, rfl⟩) hz
          · exact absurd (.inl ⟨rfl, rfl⟩) hz
          · rfl
      rw [totalCmp, Int.compare_eq_eq.mpr rfl]

example : legal (ofNatBits 0) = true ∧ legal (ofNatBits (2 ^ 63)) = true ∧ (2 : Nat) ^ 63 % 2 ^ 63 = 0 := by
  decide +kernel

/-- `f64::total_cmp` (as core computes it on the bits) orders legal values exactly like the numeric
order **except** on the two pairs (−0.0, +0.0) and (+0.0, −0.0), where it answers `Less` /
`Greater` and the numeric order `Equal`.  So an `Ord::cmp` implemented by `total_cmp` is not the
order of the numeric values, and the signed zeros are the only inputs that show it. -/
theorem total_cmp_differs_exactly_on_zeros (m n : Nat) (hm : m < 2 ^ 64) (hn : n < 2 ^ 64)
    (lm : legal (ofNatBits m) = true) (ln : legal (ofNatBits n) = true) :
    objCmp (ofNatBits m) (ofNatBits n) = .ok (totalCmp m n) ↔
      ¬ ((m = 2 ^ 63 ∧ n = 0) ∨ (m = 0 ∧ n = 2 ^ 63)) := by
  constructor
  · intro h hz
    rcases hz with ⟨rfl, rfl⟩ | ⟨rfl, rfl⟩ <;> revert h <;> decide
  · exact objCmp_eq_totalCmp m n hm hn lm ln

example : legal (ofNatBits 0x3ff0000000000000) = true ∧ legal (ofNatBits 0xbff0000000000000) = true ∧
    totalCmp 0xbff0000000000000 0x3ff0000000000000 = .lt := by decide +kernel

end MahfModel.Props.C09Ord
