/-
C05 — Objective values are never stale: evaluated individuals carry f(solution).
Property theorems and the predicates they are stated with (`Honest`, `inPlace`, `HonestRun`); `Valid`, `AllValid`,
`AllValidPM` and the lemmas they rest on are in `Proofs/C05.lean`.
-/
import MahfModel.Proofs.C05
import Mathlib.Data.Nat.Basic
namespace MahfModel.Props.C05
open MahfModel.PopMachine

variable {O : Type}

/-! ### Individual level -/

/-- Every access that can change the solution leaves the individual unevaluated — also when nothing is
written through the reference. -/
theorem solution_mut_unevaluates (i : Ind O) (w : Option Nat) :
    (i.solutionMut w).obj = none ∧ (i.solutionMut w).sol = w.getD i.sol := ⟨rfl, rfl⟩

/-- `as_solutions_mut` un-evaluates EVERY member, whatever is (not) written afterwards. -/
theorem as_solutions_mut_unevaluates_all (p : List (Ind O)) (ws : List (Option Nat)) :
    (asSolutionsMut p ws).length = p.length ∧ ∀ i ∈ asSolutionsMut p ws, i.obj = none :=
  ⟨asSolutionsMut_length p ws, asSolutionsMut_unevaluated p ws⟩

/-- The non-raw part of the `Individual` API maps valid individuals to valid individuals. -/
theorem individual_api_preserves_valid (f : Nat → O) (i : Ind O) (s : Nat) (w : Option Nat) (h : Valid f i) :
    Valid f (Ind.newUnevaluated s : Ind O) ∧ Valid f (i.evaluateWith f) ∧ Valid f (i.solutionMut w) ∧ Valid f i.clone :=
  ⟨valid_of_unevaluated f _ rfl, valid_evaluateWith f i, valid_solutionMut f i w, valid_clone f i h⟩

/-- The raw writers are the stated exceptions: they produce a valid individual iff they are called with
`f sol`. -/
theorem raw_writers_valid_iff (f g : Nat → O) (i : Ind O) (s : Nat) (o : O) :
    (Valid f (Ind.new s o) ↔ o = f s) ∧ (Valid f (i.setObjective o).1 ↔ o = f i.sol) ∧
    (Valid f (i.evaluateWith g) ↔ g i.sol = f i.sol) := by
  exact ⟨valid_mk_iff f s o, valid_mk_iff f i.sol o, valid_mk_iff f i.sol (g i.sol)⟩

/-- `clone_from` is assignment: afterwards the target IS the source (solution and objective together),
whatever the target held before — in particular an unevaluated source leaves an unevaluated target.
The same holds element-wise for `Vec::clone_from`. -/
theorem clone_from_is_assignment (tgt src : Ind O) (p q : List (Ind O)) :
    tgt.cloneFrom src = src ∧ vecCloneFrom p q = q :=
  ⟨Ind.cloneFrom_eq tgt src, vecCloneFrom_eq p q⟩

/-- The methods that are neither `solution_mut` nor `clone_from` keep the solution (`clone_from` replaces solution
and value together, see `clone_from_is_assignment`). -/
theorem only_solution_mut_changes_sol (g : Nat → O) (i : Ind O) (o : O) :
    (i.evaluateWith g).sol = i.sol ∧ (i.setObjective o).1.sol = i.sol ∧ i.clone.sol = i.sol ∧
    (i.solutionMut none).sol = i.sol ∧ i.solution = i.sol ∧ i.intoSolution = i.sol :=
  ⟨rfl, rfl, rfl, rfl, rfl, rfl⟩

section Order
variable [LinearOrder O]

/-- Raw writers are called with `f sol`, `clone_from` of a whole `Vec` with a valid source (vacuous for every other
operation). -/
def Honest (f : Nat → O) (p : List (Ind O)) : ApiOp O → Prop
  | .new s o => o = f s
  | .evalW i o => ∀ x, p[i]? = some x → o = f x.sol
  | .setObj i o => ∀ x, p[i]? = some x → o = f x.sol
  | .vecCloneFrom src => AllValid f src
  | .sliceCloneFrom src => AllValid f src
  | _ => True

/-- Every API operation (individual methods and collection helpers) maps valid inputs to valid outputs;
the raw writers are valid iff called with `f sol`. -/
theorem api_preserves_valid (f : Nat → O) (p : List (Ind O)) (op : ApiOp O)
    (hp : AllValid f p) (hh : Honest f p op) : AllValid f (apiStep f p op).1 := by
  revert hh
  fun_cases apiStep f p op <;> intro hh
  -- the branches that return `p` itself
  any_goals exact hp
  · -- `new`
    exact (allValid_append f p _).mpr ⟨hp, List.forall_mem_singleton.mpr ((valid_mk_iff f _ _).mpr hh)⟩
  · -- `newU`
    exact (allValid_append f p _).mpr ⟨hp, List.forall_mem_singleton.mpr (valid_of_unevaluated f _ rfl)⟩
  · -- `eval`
    exact forall_mem_set hp (valid_evaluateWith f _)
  · -- `evalW`
    rename_i i o x hx
    exact forall_mem_set hp ((valid_mk_iff f x.sol o).mpr (hh x hx))
  · -- `setObj`
    rename_i i o x hx
    exact forall_mem_set hp ((valid_mk_iff f x.sol o).mpr (hh x hx))
  · -- `solMut`
    exact forall_mem_set hp (valid_solutionMut f _ _)
  · -- `intoSol`
    exact fun i hi => hp i (List.mem_of_mem_eraseIdx hi)
  · -- `clone`
    rename_i i x hx
    exact (allValid_append f p _).mpr ⟨hp, List.forall_mem_singleton.mpr (valid_clone f x (hp x (List.mem_of_getElem? hx)))⟩
  · -- `cloneFrom`
    rename_i x y _ _
    exact forall_mem_set hp ((Ind.cloneFrom_eq x y).symm ▸ hp y (List.mem_of_getElem? ‹_›))
  · -- `vecCloneFrom`
    exact (vecCloneFrom_eq p _).symm ▸ hh
  · -- `sliceCloneFrom`
    exact fun i hi => hh i (List.mem_of_mem_take (zipWith_cloneFrom p _ ▸ hi))
  · -- `asSolsMut`
    exact fun i hi => valid_of_unevaluated f i (asSolutionsMut_unevaluated p _ i hi)
  · -- `intoSols`
    exact fun i hi => nomatch hi
  · -- `intoInds`
    exact (allValid_append f p _).mpr ⟨hp, fun i hi => valid_of_unevaluated f i (intoIndividuals_unevaluated _ i hi)⟩

/-- Individuals handed out by the collection helpers (`into_single(_ref)`, `best_individual`) are
members of the collection, hence valid. -/
theorem api_outputs_valid (f : Nat → O) (p : List (Ind O)) (op : ApiOp O) (i : Ind O)
    (hp : AllValid f p) (ho : (apiStep f p op).2 = .ind (some i)) : i ∈ p ∧ Valid f i := by
  have key : i ∈ p → i ∈ p ∧ Valid f i := fun h => ⟨h, hp i h⟩
  revert ho
  -- every outcome is a constructor (for `objective`: a `match`); left: `single`, `singleRef`, `best`
  fun_cases apiStep f p op <;> intro ho <;> first | cases ho | (split at ho <;> cases ho)
  · -- `single`
    exact key (intoSingle_mem p i ‹_›)
  · -- `singleRef`
    exact key (intoSingle_mem p i ‹_›)
  · -- `best`
    exact key (bestIndividual_mem p i ‹_›)

/-- Operations that neither take `&mut solution` nor add / remove members. -/
def inPlace : ApiOp O → Bool
  | .eval _ | .evalW _ _ | .setObj _ _ | .sol _ | .solMut _ none | .isEval _ | .getObj _ | .objective _
  | .eq _ _ | .asSols | .single | .singleRef | .best => true
  | _ => false

/-- …keep every member's solution: only `solution_mut` (and `as_solutions_mut`) writes solutions. -/
theorem inplace_ops_keep_solutions (f : Nat → O) (p : List (Ind O)) (op : ApiOp O) (h : inPlace op = true) :
    (apiStep f p op).1.map (·.sol) = p.map (·.sol) := by
  have hset : ∀ (k : Nat) (x y : Ind O), p[k]? = some x → y.sol = x.sol → (p.set k y).map (·.sol) = p.map (·.sol) := by
    intro k x y hx hy
    obtain ⟨hk, rfl⟩ := List.getElem?_eq_some_iff.mp hx
    have hk' : k < (p.map Ind.sol).length := by rwa [List.length_map]
    have : (p.map Ind.sol)[k] = p[k].sol := List.getElem_map Ind.sol
    rw [List.map_set, hy, ← this]
    exact List.set_getElem_self hk'
  revert h
  fun_cases apiStep f p op <;> intro h
  -- the branches that return `p` itself
  any_goals rfl
  -- the operations that are not in place
  any_goals cases h
  · -- `eval`
    rename_i hx; exact hset _ _ _ hx rfl
  · -- `evalW`
    rename_i hx; exact hset _ _ _ hx rfl
  · -- `setObj`
    rename_i hx; exact hset _ _ _ hx rfl
  · -- `solMut`
    rename_i w x hx
    cases w with
    | none => exact hset _ _ _ hx rfl
    | some s => cases h

/-- Honest histories: every raw write along the history uses `f sol` of the member it writes. -/
def HonestRun (f : Nat → O) : List (Ind O) → List (ApiOp O) → Prop
  | _, [] => True
  | p, op :: ops => Honest f p op ∧ HonestRun f (apiStep f p op).1 ops

/-- Lifted to every finite history by induction: all members are valid after every operation. -/
theorem api_run_preserves_valid (f : Nat → O) (ops : List (ApiOp O)) (p : List (Ind O))
    (hp : AllValid f p) (hh : HonestRun f p ops) :
    AllValid f (apiRun f p ops).1 ∧ ∀ st ∈ (apiRun f p ops).2, AllValid f st.1 := by
  induction ops generalizing p with
  | nil => exact ⟨hp, by simp [apiRun]⟩
  | cons op ops ih =>
    obtain ⟨h1, h2⟩ := hh
    have hv := api_preserves_valid f p op hp h1
    obtain ⟨ih1, ih2⟩ := ih (apiStep f p op).1 hv h2
    exact ⟨ih1, List.forall_mem_cons.mpr ⟨hv, ih2⟩⟩

/-! ### Component level -/

/-- Every modelled component step (initialisers, selections/copies, everything going through
`as_solutions_mut`, recombination, self-evaluating moves, the evaluator, best update, archive update and
re-insertion, replacements, pop) keeps every individual anywhere in the state valid. -/
theorem step_preserves_valid (f : Nat → O) (pm pm' : PM O) (op : PMOp)
    (hv : AllValidPM f pm) (hs : pmStep f pm op = some pm') : AllValidPM f pm' := by
  exact pmStep_all f (closed_valid f) pm pm' op hv hs

/-- Hence after every step of every sequence of modelled component executions each evaluated
individual anywhere in the state carries exactly `f` of its solution. -/
theorem run_preserves_valid (f : Nat → O) (ops : List PMOp) (pm pm' : PM O)
    (hv : AllValidPM f pm) (hr : pmRun f pm ops = some pm') : AllValidPM f pm' := by
  exact pmRun_inv (step_preserves_valid f) ops pm pm' hv hr

end Order

/-- The empty machine is valid, so every run from scratch is covered. -/
theorem empty_valid (f : Nat → O) : AllValidPM f ({} : PM O) :=
  ⟨fun _ h => (nomatch h), fun _ h => (nomatch h), fun _ h => (nomatch h)⟩

/-! Non-vacuity. -/
example : HonestRun (fun s => s * s) ([] : List (Ind Nat))
    [.new 3 9, .newU 2, .eval 1, .clone 0, .cloneFrom 0 1, .solMut 0 (some 5), .setObj 0 25, .asSolsMut [none, some 1], .best] := by
  exact ⟨rfl, trivial, trivial, trivial, trivial, trivial, fun x hx => Option.some.inj hx ▸ rfl, trivial, trivial, trivial⟩
example : ¬ Valid (fun s => s * s) (Ind.new 3 10 : Ind Nat) := by
  intro h; exact absurd (h 10 rfl) (by decide)

end MahfModel.Props.C05
