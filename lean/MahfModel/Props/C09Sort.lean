/-
C09 — "sorting, minimum and maximum never fail": the model's own sort and folds on legal values — which of several equal
minima / maxima is returned, stability of the sort, and that stability pins the result down. Property theorems only
(namespace `MahfModel.Props.C09Ord`, continuing `Props/C09Ord.lean`); the lemmas they rest on are in `Proofs/C09Sort.lean`
(with `Proofs/Pick.lean`). `Props/C09.lean` reads `sort_min_max_safe` off them.
-/
import MahfModel.Proofs.C09Sort
namespace MahfModel.Props.C09Ord
open MahfModel.Objective

/-- The tie rules std documents, for the model's algorithms on legal values: the minimum is the *first*
of the equal minima (everything before it is strictly greater), the maximum the *last* of the equal
maxima (everything after it is strictly less). -/
theorem min_first_max_last {α : Type} (key : α → F64) (x : α) (xs : List α)
    (hl : ∀ y ∈ x :: xs, legal (key y) = true) :
    (∃ r pre post, minObjs key (x :: xs) = .ok (some r) ∧ x :: xs = pre ++ r :: post ∧
      (∀ y ∈ pre, lt (key r) (key y) = true) ∧ (∀ y ∈ post, objLe (key r) (key y) = true)) ∧
    (∃ r pre post, maxObjs key (x :: xs) = .ok (some r) ∧ x :: xs = pre ++ r :: post ∧
      (∀ y ∈ pre, objLe (key y) (key r) = true) ∧ (∀ y ∈ post, lt (key y) (key r) = true)) := by
  obtain ⟨hx, hxs⟩ := List.forall_mem_cons.mp hl
  obtain ⟨e1, e2⟩ := minmaxGo_eq_pick key x xs hx hxs
  constructor
  · -- `min` replaces on `y < m`: what is before the result is strictly greater, what is after is not less
    obtain ⟨pre, post, hs, hpre, hpost⟩ := Pick.foldPick_first (fun y m => lt (key y) (key m) = true)
      (fun x => legal (key x) = true) (fun r x => lt (key r) (key x) = true)
      (fun r x => objLe (key r) (key x) = true)
      (fun y m _ _ h => ⟨h, fun x hx => lt_trans' _ _ _ h hx, fun x hx => lt_objLe_trans _ _ _ h hx⟩)
      (fun y m hy hm h => (objLe_iff_not_gt _ _ hm hy).mpr (Bool.eq_false_iff.mpr h))
      x xs hl
    exact ⟨_, pre, post, by simp [minObjs, e1], hs, hpre, hpost⟩
  · -- `max` replaces unless `y < m`
    obtain ⟨pre, post, hs, hpre, hpost⟩ := Pick.foldPick_first (fun y m => lt (key y) (key m) = false)
      (fun x => legal (key x) = true) (fun r x => objLe (key x) (key r) = true)
      (fun r x => lt (key x) (key r) = true)
      (fun y m hy hm h => by
        have hmy : objLe (key m) (key y) = true := (objLe_iff_not_gt _ _ hm hy).mpr h
        exact ⟨hmy, fun x hx => objLe_trans _ _ _ hx hmy,
          fun x hx => objLe_of_lt _ _ (lt_objLe_trans _ _ _ hx hmy)⟩)
      (fun y m _ _ h => by simpa using h)
      x xs hl
    exact ⟨_, pre, post, by simp [maxObjs, e2], hs, hpre, hpost⟩

example : minObjs id [F64.fin 1, .fin 0, .fin 0] = .ok (some (.fin 0)) ∧
    [F64.fin 1, .fin 0, .fin 0] = [.fin 1] ++ F64.fin 0 :: [.fin 0] := by decide +kernel

/-- The sort is *stable*: besides being an ascending permutation (`sort_min_max_safe`), the elements
of every class of equal values appear in their original order. -/
theorem sort_is_stable {α : Type} (key : α → F64) (l : List α) (hl : ∀ y ∈ l, legal (key y) = true) :
    ∃ r, sortObjs key l = .ok r ∧ r.Perm l ∧
      r.Pairwise (fun a b => objLe (key a) (key b) = true) ∧
      ∀ v : F64, r.filter (fun a => eq (key a) v) = l.filter (fun a => eq (key a) v) := by
  induction l with
  | nil => exact ⟨[], rfl, .refl _, .nil, fun _ => rfl⟩
  | cons x xs ih =>
    obtain ⟨hx, hxs⟩ := List.forall_mem_cons.mp hl
    obtain ⟨r, hr, hp, hs, hf⟩ := ih hxs
    obtain ⟨r', hr', hp', hs', hf'⟩ := insertSorted_stable key x r hx (fun y hy => hxs y (hp.mem_iff.mp hy)) hs
    exact ⟨r', by simp [sortObjs, hr, hr'], hp'.trans (hp.cons x), hs', fun v => by
      rw [hf', List.filter_cons, List.filter_cons, hf]⟩

example : sortObjs Prod.fst [(F64.fin 1, 0), (.fin 0, 1), (.fin 1, 2), (.fin 0, 3)] =
    .ok [(.fin 0, 1), (.fin 0, 3), (.fin 1, 0), (.fin 1, 2)] := by decide +kernel

/-- … and these three facts pin the result down: any ascending permutation of `l` that keeps every
class of equal values in its original order *is* the model's output. This is the predicate the
driver evaluates on what std's real `sort`, `sort_by`, `sort_by_key`, `sort_by_cached_key` return. -/
theorem stable_sort_unique {α : Type} (key : α → F64) (l r : List α) (hl : ∀ y ∈ l, legal (key y) = true)
    (hp : r.Perm l) (hs : r.Pairwise (fun a b => objLe (key a) (key b) = true))
    (hf : ∀ v : F64, r.filter (fun a => eq (key a) v) = l.filter (fun a => eq (key a) v)) :
    sortObjs key l = .ok r := by
  obtain ⟨r', hr', hp', hs', hf'⟩ := sort_is_stable key l hl
  have : r = r' := sorted_perm_classes_eq key r r' (hp.trans hp'.symm) hs hs'
    (fun y hy => hl y (hp.mem_iff.mp hy)) (fun v => (hf v).trans (hf' v).symm)
  rw [this]; exact hr'

example : [F64.fin 0, .fin 1].Perm [F64.fin 1, .fin 0] := by decide +kernel

end MahfModel.Props.C09Ord
