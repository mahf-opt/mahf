/-
C17 — "geometric cooling multiplies the temperature by its factor exactly once per execution",
for the component *inside programs* (`Model/SaCool.lean`): on states with and without an
`Iterations` counter, several executions while the counter is unchanged, several cooling
components in one loop body, other lens targets, nested scoped loops.
Property theorems only; helper lemmas are in `Proofs/C17Cool.lean`.
-/
import MahfModel.Proofs.C17Cool
namespace MahfModel.Props.C17
open MahfModel.Sa

variable {F : Type} [Field F]

/-- **One execution = one multiplication, and nothing else.**  For every state — whatever the
`Iterations` counters of the open scopes are (absent, 0, anything), whatever the other cells hold,
whatever was executed before — one execution of a cooling component whose lens target holds `v`
succeeds, leaves `v·alpha` there, leaves every other cell and every counter as it was, and is logged
once. -/
theorem cooling_execution_exact (fuel id c : Nat) (alpha v : F) (s : CState F)
    (hv : s.cells[c]? = some (some v)) :
    ∃ s', cexec (fuel + 1) (.cool id c alpha) s = (.ok, s') ∧
      s'.cells[c]? = some (some (v * alpha)) ∧
      (∀ c', c' ≠ c → s'.cells[c']? = s.cells[c']?) ∧
      s'.iters = s.iters ∧
      s'.trace = ⟨id, c, alpha, v * alpha⟩ :: s.trace := by
  refine ⟨{ s with cells := s.cells.set c (some (v * alpha)), trace := ⟨id, c, alpha, v * alpha⟩ :: s.trace },
    by rw [cexec, hv], ?_, fun c' hc => List.getElem?_set_ne hc.symm, rfl, rfl⟩
  rw [List.getElem?_set_self', hv]; rfl

example : (⟨[some 3, none], [some (8 : Rat), some 5], []⟩ : CState Rat).cells[0]? = some (some 8) := rfl

/-- A cooling component whose lens target is not in the state fails (`Err`) and changes nothing. -/
theorem cooling_absent_target (fuel id c : Nat) (alpha : F) (s : CState F)
    (hv : ∀ v, s.cells[c]? ≠ some (some v)) :
    cexec (fuel + 1) (.cool id c alpha) s = (.err, s) := by
  rw [cexec]
  split
  · next v h => exact absurd h (hv v)
  · rfl

example : ∀ v, (⟨[], [some (8 : Rat), none], []⟩ : CState Rat).cells[1]? ≠ some (some v) := by
  intro v h; simp at h

/-- **Every program** (blocks, loops bounded by `Iterations`, scopes with their own counters,
components that overwrite the counter), every step budget, every outcome: each cell ends as its
initial value times the product of the factors of exactly those cooling executions that were
logged for it during the run — every execution counts once, nothing else touches a cell. -/
theorem cooling_program_effect (fuel : Nat) (p : CProg F) (s s' : CState F) (st : CStatus)
    (h : cexec fuel p s = (st, s')) :
    ∃ new : List (CEntry F), s'.trace = new ++ s.trace ∧
      ∀ c, s'.cells[c]? = (s.cells[c]?).map (Option.map (· * factor c new)) := by
  show Effect s s'
  fun_induction cexec fuel p s generalizing st s' with
  | case2 fuel id c a s v hv =>  -- cool, target present
    cases h
    refine ⟨[⟨id, c, a, v * a⟩], rfl, fun c' => ?_⟩
    rw [scaleCell_set s.cells c c' v a hv, factor, factor]
    split
    · rw [one_mul]
    · rfl
  -- seq, first part ok
  | case6 fuel a b s s1 h1 iha ihb => exact (iha _ _ h1).trans (ihb _ _ h)
  -- seq, first part fails
  | case7 fuel a b s _ iha => exact iha _ _ h
  -- loop: pass ok, counter bumped, go on
  | case9 fuel n body s i _ _ s1 h1 it _ ihb ihl => exact (ihb _ _ h1).trans (ihl _ _ h)
  -- loop: pass ok, no counter to bump
  | case10 fuel n body s i _ _ s1 h1 _ ihb => cases h; exact ihb _ _ h1
  -- loop: pass fails
  | case11 fuel n body s i _ _ _ ihb => exact ihb _ _ h
  -- scope
  | case13 fuel body s st1 s1 h1 ih => cases h; exact (ih _ _ h1 :)
  -- no fuel, cool without target, setIter, skip, loop without counter, loop done: cells and log untouched
  | case1 | case3 | case4 | case5 | case8 | case12 => cases h; exact Effect.refl _

/-- **Several executions while `Iterations` is unchanged.**  `k` executions of the same cooling
component in a row — on any state, in particular one whose `Iterations` counter exists and does
not move — end `ok`, leave `v·alpha^k` in the cell and do not touch any counter. -/
theorem cooling_repeated_same_iteration (fuel id c k : Nat) (alpha v : F) (s : CState F)
    (hf : k + 2 ≤ fuel) (hv : s.cells[c]? = some (some v)) :
    ∃ s', cexec fuel (blockOf (List.replicate k (id, c, alpha))) s = (.ok, s') ∧
      s'.cells[c]? = some (some (v * alpha ^ k)) ∧
      s'.iters = s.iters ∧
      s'.trace.length = s.trace.length + k := by
  obtain ⟨s', h⟩ := cexec_block_returns (List.replicate k (id, c, alpha)) fuel s (by simpa using hf)
    (fun e he => by rw [(List.mem_replicate.mp he).2]; exact ⟨v, hv⟩)
  obtain ⟨hi, ht, hc⟩ := cexec_block _ fuel s s' h
  refine ⟨s', h, ?_, hi, by simpa using ht⟩
  rw [hc c, blockFactor_replicate, scaleCell, hv]; rfl

/-- A block of cooling components does the same to the cells, with the same outcome, whatever
the `Iterations` counters are: the component cannot tell in which iteration it runs. -/
theorem cooling_ignores_iterations (it1 it2 : List (Option Nat)) (cs : List (Nat × Nat × F))
    (fuel : Nat) (s : CState F) :
    (cexec fuel (blockOf cs) { s with iters := it1 }).1 = (cexec fuel (blockOf cs) { s with iters := it2 }).1 ∧
    (cexec fuel (blockOf cs) { s with iters := it1 }).2.cells =
      (cexec fuel (blockOf cs) { s with iters := it2 }).2.cells := by
  induction cs generalizing fuel s with
  | nil => cases fuel <;> exact ⟨rfl, rfl⟩
  | cons e r ih =>
    obtain ⟨id, c0, a⟩ := e
    match fuel with
    | 0 => exact ⟨rfl, rfl⟩
    | 1 => exact ⟨rfl, rfl⟩
    | fuel + 2 =>
      rw [cexec_block_cons, cexec_block_cons]
      rcases hv : s.cells[c0]? with _ | _ | v
      · exact ⟨rfl, rfl⟩
      · exact ⟨rfl, rfl⟩
      · exact ih (fuel + 1)
          { s with cells := s.cells.set c0 (some (v * a)), trace := ⟨id, c0, a, v * a⟩ :: s.trace }

/-- **Several cooling components in one loop body.**  A `Loop` bounded by
`LessThanN::iterations(n)` whose body is a block of cooling components (any labels, lens targets
and factors — e.g. two schedules on the temperature), entered with `Iterations = i ≤ n` and
running to completion: every pass applies every component once — each cell ends multiplied by
`(product of the factors aimed at it in the body) ^ (n − i)`, `body length · (n − i)` executions
are logged, and the counter ends at `n`. -/
theorem cooling_loop_power (cs : List (Nat × Nat × F)) (n fuel i : Nat) (s s' : CState F)
    (hi : itersGet s.iters = some i) (hle : i ≤ n)
    (h : cexec fuel (.loop n (blockOf cs)) s = (.ok, s')) :
    itersGet s'.iters = some n ∧
    s'.trace.length = s.trace.length + cs.length * (n - i) ∧
    ∀ c, s'.cells[c]? = (s.cells[c]?).map (Option.map (· * blockFactor c cs ^ (n - i))) := by
  show _ ∧ _ ∧ ∀ c, s'.cells[c]? = scaleCell s.cells c (blockFactor c cs ^ (n - i))
  induction fuel generalizing s i with
  | zero => cases h
  | succ fuel ih =>
    simp only [cexec, hi] at h
    split at h
    · next hlt =>
      -- one more pass: `n - i = (n - (i + 1)) + 1`
      obtain ⟨k, hk⟩ : ∃ k, n - i = k + 1 ∧ n - (i + 1) = k := ⟨n - (i + 1), by omega, rfl⟩
      split at h
      · next s1 h1 =>
        obtain ⟨hit, htr, hcl⟩ := cexec_block cs fuel s s1 h1
        split at h
        · next it hb =>
          obtain ⟨g2, t2, c2⟩ := ih (i + 1) { s1 with iters := it } (itersGet_bump hi (hit ▸ hb)) hlt h
          rw [hk.2] at t2 c2
          rw [hk.1]
          refine ⟨g2, ?_, fun c => ?_⟩
          · rw [t2, htr, Nat.mul_succ, Nat.add_assoc, Nat.add_comm cs.length]
          · rw [c2 c, scaleCell_scale s.cells s1.cells _ _ c (hcl c), pow_succ']
        · cases h
      · next hne => exact absurd h (hne s')
    · next hge =>
      cases h
      obtain rfl : i = n := Nat.le_antisymm hle (Nat.not_lt.mp hge)
      exact ⟨hi, by rw [Nat.sub_self, Nat.mul_zero]; rfl, fun c => by
        rw [Nat.sub_self, pow_zero, scaleCell_one]⟩

/-- The hypotheses of `cooling_loop_power` are satisfiable: two schedules (×1/2 and ×1/4) on the
temperature and one on a second cell, three passes, ends `ok` with `T = 64·(1/8)³ = 1/8`. -/
example :
    let s : CState Rat := ⟨[some 0], [some 64, some 3], []⟩
    let r := cexec 40 (.loop 3 (blockOf [(0, 0, 1 / 2), (1, 0, 1 / 4), (2, 1, 2)])) s
    r.1 = .ok ∧ r.2.cells = [some (1 / 8), some 24] ∧ itersGet r.2.iters = some 3 := by
  decide +kernel

/-- Scoped nested loops (the shape `Scope(Loop(Scope(Loop(cool))))` gives each loop its own
counter): 2 outer × 3 inner passes cool six times. -/
example :
    let s : CState Rat := ⟨[none], [some 64], []⟩
    let r := cexec 60 (.scope (.loop 2 (.scope (.loop 3 (.cool 0 0 (1 / 2)))))) s
    r.1 = .ok ∧ r.2.cells = [some 1] ∧ r.2.iters = [none] ∧ r.2.trace.length = 6 := by
  decide +kernel

end MahfModel.Props.C17
