/-
C05 — third part: a `State` that is used again. `Configuration::run(problem, state)` is public ("the caller
is responsible for initializing `state` properly"): a state that an earlier run — or any number of earlier
runs, on any instances of the problem — has filled may be handed in again for ANOTHER INSTANCE, i.e. another
objective function `g`. Everything the earlier runs left in the state (best-so-far, archive, swarm and
molecule memories) is then still there unless the caller or a component's `init` replaces it, and it carries
values of the OLD objective function.

Model: `Model/PopMachineMem.lean` (`MemOp.init…`, `callerReset`, `configRun`, `reruns`); definitions
(`OwnedOrValid`, `StackGbestValid`) and helper lemmas: `Proofs/C05Rerun.lean`; `MemOp.writesGbest`: `Proofs/C05Mem.lean`.
Property theorems only.

Excluded region (`_partial`, a finding in the unchanged code, `rerun_gbest_violates`): the PSO global best.
`GlobalBestParticleUpdate::init` is `entry().or_insert(..)` and KEEPS a `BestParticle` that is already in the
state; all other memories are replaced by their component's `init`.
-/
import MahfModel.Props.C05Mem
import MahfModel.Proofs.C05Rerun
namespace MahfModel.Props.C05
open MahfModel.PopMachine

variable {O : Type}

section Rerun
variable [LinearOrder O]

/-- Re-initialisation: the `init`s of a configuration never fail, and afterwards EVERY individual the state
holds carries `g` of its solution — whatever the memories held before (values of any other objective
function) — provided each memory is owned by the configuration (its `init` is among the `init`s) or was
valid for `g` anyway, the population stack the caller supplies is valid for `g`, and (excluded region) the
PSO global best is valid for `g`. -/
theorem reinit_valid_partial (g : Nat → O) (inits : List MemOp) (x : PMX O)
    (hi : ∀ op ∈ inits, op.isInit = true) (hs : StackGbestValid g x) (ho : OwnedOrValid g inits x) :
    ∃ x', memRun g x inits = .ok x' ∧ AllValidX g x' := by
  induction inits generalizing x with
  | nil =>
    obtain ⟨o1, o2, o3, o4⟩ := ho
    have own : ∀ {op : MemOp} {P : Prop}, (op ∈ ([] : List MemOp) ∨ P) → P := fun h => h.resolve_left (List.not_mem_nil)
    exact ⟨x, rfl, ⟨hs.1, own o1, own o2⟩, own o3, hs.2, own o4⟩
  | cons op rest ih =>
    obtain ⟨hop, hrest⟩ := List.forall_mem_cons.mp hi
    obtain ⟨x1, h1, hs1, ho1⟩ := init_step g op rest x hop hs ho
    obtain ⟨x', hx', hv⟩ := ih x1 hrest hs1 ho1
    exact ⟨x', by rw [memRun, h1]; exact hx', hv⟩

/-- A run on a used state. Let `x1` be ANY state (what any earlier runs with any objective functions left
behind; nothing is assumed about the values it holds), `g` the objective function of this run. If every
memory is owned by the configuration or valid for `g`, and the PSO global best in `x1` is absent or valid for
`g`, then after the caller's reset, the `init`s and ANY sequence of component steps — completed or stopped by
an `Err` — every individual anywhere in the state carries `g` of its solution. (Every prefix of `ops` is
such a sequence: this is the state after every component execution of the run.) -/
theorem rerun_valid_partial (g : Nat → O) (inits ops : List MemOp) (x1 x2 : PMX O)
    (hi : ∀ op ∈ inits, op.isInit = true) (ho : OwnedOrValid g inits x1)
    (hg : ∀ gb, x1.gbest = some gb → Valid g gb)
    (hr : (configRun g inits ops x1).state? = some x2) : AllValidX g x2 := by
  have hs : StackGbestValid g (callerReset x1) := ⟨by simp [callerReset, PMX.withStack], hg⟩
  obtain ⟨x', hx', hv⟩ := reinit_valid_partial g inits (callerReset x1) hi hs ho
  simp only [configRun, memRun_append, hx'] at hr
  exact memrun_preserves_valid g ops x' x2 hv hr

/-- What the earlier runs must satisfy is only that they never write a PSO global best; `init`s and ownership of the
memories matter for the last run alone (which may write a global best: it is then one of its own). -/
theorem reruns_valid (runs : List ((Nat → O) × List MemOp × List MemOp)) (x0 xn : PMX O)
    (last : (Nat → O) × List MemOp × List MemOp) (h0 : x0.gbest = none)
    (hw : ∀ r ∈ runs, ∀ op ∈ r.2.1 ++ r.2.2, op.writesGbest = false)
    (hi : ∀ op ∈ last.2.1, op.isInit = true)
    (ho : MemOp.initBest ∈ last.2.1 ∧ MemOp.initArchive ∈ last.2.1 ∧ MemOp.initPbest ∈ last.2.1 ∧ MemOp.initMols ∈ last.2.1)
    (hr : (reruns x0 (runs ++ [last])).state? = some xn) : AllValidX last.1 xn := by
  induction runs generalizing x0 with
  | nil =>
    obtain ⟨x', h1, h2⟩ := reruns_cons_state hr
    cases h2
    exact rerun_valid_partial last.1 last.2.1 last.2.2 x0 xn hi ⟨Or.inl ho.1, Or.inl ho.2.1, Or.inl ho.2.2.1, Or.inl ho.2.2.2⟩
      (fun gb h => by rw [h0] at h; cases h) h1
  | cons r runs ih =>
    obtain ⟨hwr, hws⟩ := List.forall_mem_cons.mp hw
    obtain ⟨x', h1, h2⟩ := reruns_cons_state hr
    exact ih x' ((memRun_gbest r.1 (r.2.1 ++ r.2.2) (callerReset x0) x' hwr h1).trans h0) hws h2

/-- Consecutive runs on one state, each with its own objective function, by configurations that own the four
memories and never write a PSO global best, starting from a state without one: however each run ends
(completed, or stopped by an `Err`), after the last one every individual anywhere in the state carries the
value the LAST objective function assigns to its solution. -/
theorem reruns_valid_partial : ∀ (runs : List ((Nat → O) × List MemOp × List MemOp)) (x0 xn : PMX O)
    (last : (Nat → O) × List MemOp × List MemOp),
    x0.gbest = none →
    (∀ r ∈ runs ++ [last], (∀ op ∈ r.2.1, op.isInit = true) ∧
        (MemOp.initBest ∈ r.2.1 ∧ MemOp.initArchive ∈ r.2.1 ∧ MemOp.initPbest ∈ r.2.1 ∧ MemOp.initMols ∈ r.2.1) ∧
        (∀ op ∈ r.2.1 ++ r.2.2, op.writesGbest = false)) →
    (reruns x0 (runs ++ [last])).state? = some xn → AllValidX last.1 xn := by
  intro runs x0 xn last h0 hc hr
  obtain ⟨hi, ho, _⟩ := hc last (List.mem_append_right _ (List.mem_singleton_self _))
  exact reruns_valid runs x0 xn last h0 (fun r hr' => (hc r (List.mem_append_left _ hr')).2.2) hi ho hr

end Rerun

/-! ### The excluded region is real: the PSO global best survives `init` -/

/-- `init`s of the PSO template (the ones that concern C05). -/
def psoInits : List MemOp := [.initEvals, .initBest, .initPbest, .initGbest]

/-- Counterexample (unchanged code): a PSO-like run with objective `s ↦ s²`, then a second run of the same
configuration on the same state with objective `s ↦ s² + 5`. Already after the `init`s and the initialiser of
the second run the state holds an evaluated individual (the global best `(1, 1)` of the first run) whose
value is not the one the objective function of the run assigns to its solution (`6`). -/
theorem rerun_gbest_violates :
    (reruns ({} : PMX Nat)
      [(fun s => s * s, psoInits, [.base (.init [3, 1, 2]), .base .eval, .pbestInit, .gbestUpdate]),
       (fun s => s * s + 5, psoInits, [.base (.init [4, 6])])]).state?.map
      (fun x => (x.gbest, allValidB (fun s => s * s + 5) (allInds x))) = some (some ⟨1, some 1⟩, false) := by
  decide +kernel

/-- The same two runs by a configuration WITHOUT a global best but with a best-so-far, personal bests, an
archive and molecules (all owned): the second run is clean. -/
example :
    (reruns ({} : PMX Nat)
      [(fun s => s * s, [.initEvals, .initBest, .initArchive, .initPbest, .initMols],
          [.base (.init [3, 1, 2]), .base .eval, .base .bestUpdate, .base (.archiveUpdate 2), .pbestInit, .croInit]),
       (fun s => s * s + 5, [.initEvals, .initBest, .initArchive, .initPbest, .initMols],
          [.base (.init [4, 6])])]).state?.map
      (fun x => (x.pm.best, x.pbest, allValidB (fun s => s * s + 5) (allInds x))) = some (none, [], true) := by
  decide +kernel

/-- Hypotheses of `rerun_valid_partial` are satisfiable with a STALE memory: the best-so-far of the used
state carries a value of the old objective function, the configuration owns it. -/
example : OwnedOrValid (fun s => s * s + 5) [.initEvals, .initBest]
    ({ pm := { best := some ⟨3, some 9⟩, stack := [[⟨3, some 9⟩]] } } : PMX Nat) := by
  refine ⟨Or.inl (by simp), Or.inr ?_, Or.inr ?_, Or.inr ?_⟩ <;> simp [AllValid]

example : (configRun (fun s => s * s + 5) [.initEvals, .initBest] [.base (.init [2]), .base .eval, .base .bestUpdate]
    ({ pm := { best := some ⟨3, some 9⟩, stack := [[⟨3, some 9⟩]] } } : PMX Nat)).state?.map (·.pm.best) = some (some ⟨2, some 9⟩) := by
  decide +kernel

end MahfModel.Props.C05
