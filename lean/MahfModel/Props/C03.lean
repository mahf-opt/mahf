/-
C03 — configurations execute with structured-program semantics and a fixed lifecycle.
Property theorems; the lemmas they rest on are in `Proofs/C03.lean` and the modules it imports.

`run / initC / reqC / exec` is the method-by-method model of `Configuration::run`, `Block`, `Loop`,
`Branch`, `Scope`, `And`/`Or`/`Not` and `State::with_inner_state` (Model/Config.lean); `s` is the
script (condition values and fault injections), `fuel` the bound on the passes of one loop execution,
`σ = (registry, trace)` the caller's state. The theorems are quantified over every tree, script, bound and state;
side conditions on the tree are stated per theorem.
-/
import MahfModel.Proofs.C03
namespace MahfModel.Props.C03
open MahfModel.Config

/-- Running a configuration is running the structured program
`init-everything-outside-scopes ; check-all-requirements ; execute` over
`atomic | seq | while | if | { scoped }` into which the tree compiles node by node — same trace,
same result, same registry. (`prog` is a compilation of the same tree, so this is a change of
presentation — three traversals with `?` become one program in a six-construct language — not a
comparison with an independently written oracle; the properties themselves are the theorems below,
all of which are proved on the small language and transported through this equation.) -/
theorem run_is_structured_program (s : Script) (fuel : Nat) (c : Comp) (σ : St) :
    run s fuel c σ = srun s fuel (prog c) σ :=
  run_eq s fuel c σ

/-- Lifecycle. One of three things happens:
(a) some `init` fails: the trace is a proper-or-full prefix of the pre-order list of everything
    outside scopes, and that is all;
(b) every node outside a scope was initialised exactly once, in pre-order; some `require` fails:
    only `require` events follow, nothing executes, and the registry is the one `init` left;
(c) all inits, then all requires (which cannot change the registry), then execution. -/
theorem lifecycle (s : Script) (fuel : Nat) (c : Comp) (σ : St) :
    (∃ k ph id, (run s fuel c σ).1.trace = σ.trace ++ (initEvents c).take k ∧
        (run s fuel c σ).2 = .err ph id) ∨
    (∃ σ1 k ph id, initC s c σ = (σ1, .ok) ∧ σ1.trace = σ.trace ++ initEvents c ∧
        (run s fuel c σ).1.trace = σ1.trace ++ (reqEvents c).take k ∧
        (run s fuel c σ).1.reg = σ1.reg ∧ (run s fuel c σ).2 = .err ph id) ∨
    (∃ σ1 σ2, initC s c σ = (σ1, .ok) ∧ reqC s c σ1 = (σ2, .ok) ∧ σ2.reg = σ1.reg ∧
        σ2.trace = σ.trace ++ initEvents c ++ reqEvents c ∧
        run s fuel c σ = exec s fuel c σ2 ∧ σ2.trace <+: (run s fuel c σ).1.trace) := by
  rw [run]
  rcases hi : initC s c σ with ⟨σ1, r1⟩
  rcases hi ▸ initC_out s c σ with ⟨rfl, ht1⟩ | ⟨pre, ph, id, hp, rfl, ht1⟩
  · rcases hq : reqC s c σ1 with ⟨σ2, r2⟩
    have hreg : σ2.reg = σ1.reg := by have := reqC_reg s c σ1; rwa [hq] at this
    rcases hq ▸ reqC_out s c σ1 with ⟨rfl, ht2⟩ | ⟨pre, ph, id, hp, rfl, ht2⟩
    · refine Or.inr (Or.inr ⟨σ1, σ2, rfl, hq, hreg, by rw [ht2, ht1], by rw [andThen, hq]; rfl, ?_⟩)
      rw [andThen, hq, andThen, exec_eq]
      exact List.reverse_prefix.mpr (srun_trace s fuel (execProg c) σ2)
    · exact Or.inr (Or.inl ⟨σ1, pre.length, ph, id, rfl, ht1, by rw [andThen, hq]; exact ⟨List.prefix_iff_eq_take.mp hp ▸ ht2, hreg, rfl⟩⟩)
  · exact Or.inl ⟨pre.length, ph, id, List.prefix_iff_eq_take.mp hp ▸ ht1, rfl⟩

/-- The `init` pass only produces `init`/`cinit` events and the `require` pass only
`req`/`creq` events — so in cases (a) and (b) of `lifecycle` no `exec` event exists. -/
theorem init_and_require_events (c : Comp) (e : Ev) :
    (e ∈ initEvents c → e.1 = .init ∨ e.1 = .cinit) ∧ (e ∈ reqEvents c → e.1 = .req ∨ e.1 = .creq) :=
  ⟨phaseEvents_phase .init .cinit c e, phaseEvents_phase .req .creq c e⟩

/-- Block order, in each of the three phases: a block split anywhere runs its first part
completely and in order, and its second part only if the first part succeeded. -/
theorem block_order (s : Script) (fuel : Nat) (cs ds : Comps) (σ : St) :
    initC s (.block (cs.append ds)) σ = andThen (initC s (.block cs) σ) (initC s (.block ds)) ∧
    reqC s (.block (cs.append ds)) σ = andThen (reqC s (.block cs) σ) (reqC s (.block ds)) ∧
    exec s fuel (.block (cs.append ds)) σ = andThen (exec s fuel (.block cs) σ) (exec s fuel (.block ds)) := by
  refine ⟨?_, ?_, ?_⟩
  · simp only [initC]; rw [initCs_append]
  · simp only [reqC]; rw [reqCs_append]
  · simp only [exec]; rw [execs_append]

/-- The first error stops everything after it and is returned: compared with the same run without
fault injections, the run with faults is either identical or stops with an error at a point the
fault-free run passes through (its trace is a prefix); and whenever the result is an error, the
failing event is the last event of the trace. -/
theorem first_error_stops (s : Script) (fuel : Nat) (c : Comp) (σ : St) :
    (run s fuel c σ).1.trace <+: (run s.noFaults fuel c σ).1.trace ∧
    (run s fuel c σ = run s.noFaults fuel c σ ∨ ∃ ph id, (run s fuel c σ).2 = .err ph id) ∧
    (∀ ph id, (run s fuel c σ).2 = .err ph id → (run s fuel c σ).1.trace.getLast? = some (ph, id)) := by
  rw [run_eq, run_eq]
  refine ⟨?_, ?_, fun ph id h => ?_⟩
  · rcases srun_sim2 s fuel (prog c) σ with h | ⟨_, h⟩
    · rw [h]; exact List.prefix_refl _
    · exact List.reverse_prefix.mpr h
  · exact (srun_sim2 s fuel (prog c) σ).imp id fun ⟨⟨_, _, he, _⟩, _⟩ => ⟨_, _, res_err_of he⟩
  · simpa [St.trace, List.getLast?_reverse] using srun_err_head s fuel (prog c) σ ph id h

/-- The first reached fault IS the result, for every kind of event (leaf `init` / `require` /
`execute`, condition `init` / `require` / `evaluate`, with or without effects). Let `T` be the trace
of the same run without fault injections.
(1) If `e` is the first event of `T` (after the caller's prefix) at whose occurrence the script
    injects a fault, the run returns exactly that error and its trace is `T` cut right after `e`.
(2) If the script injects no fault at any event of `T`, the run is the fault-free run.
So `run … = err (phase, id)` with a scripted fault iff the first reached fault is `(phase, id)`;
an `Err` can neither be swallowed nor replaced by a later one. -/
theorem fault_is_returned (s : Script) (fuel : Nat) (c : Comp) (σ : St) :
    (∀ pre e post, (run s.noFaults fuel c σ).1.trace = pre ++ e :: post → σ.trace <+: pre →
        s.quietAfter σ.trace pre → s.faulty e (pre.count e) = true →
        (run s fuel c σ).2 = .err e.1 e.2 ∧ (run s fuel c σ).1.trace = pre ++ [e]) ∧
    (s.quietAfter σ.trace (run s.noFaults fuel c σ).1.trace → run s fuel c σ = run s.noFaults fuel c σ) := by
  rw [run_eq, run_eq]
  obtain ⟨h1, h2⟩ := srun_fault_returned s fuel (prog c) σ
  constructor
  · intro pre e post hT hb hq hf
    have hT' : (srun s.noFaults fuel (prog c) σ).1.tr = post.reverse ++ e :: pre.reverse := by
      have := congrArg List.reverse hT
      simpa [St.trace] using this
    have hb' : σ.tr <:+ pre.reverse := by
      have := List.reverse_suffix.mpr hb
      simpa [St.trace] using this
    have hc : Clean s σ.tr pre.reverse := by
      rw [clean_iff_quietAfter]; simpa [St.trace] using hq
    obtain ⟨r1, r2⟩ := h1 post.reverse e pre.reverse hT' hb' hc (by simpa using hf)
    exact ⟨r1, by simp [St.trace, r2]⟩
  · intro hq
    exact h2 (by rw [clean_iff_quietAfter]; simpa [St.trace] using hq)

/-- Loop: a loop execution ends normally iff its condition is re-initialised (once, on entry) and
then, for some `n` below the bound, `n` times in a row the condition is evaluated to `true`, the
body completes and the counter is incremented, after which the condition is evaluated once more
and is `false` — `n` passes, `n + 1` tests. -/
theorem loop_passes (s : Script) (fuel : Nat) (c : Cond) (b : Comp) (σ σ' : St) :
    exec s fuel (.loop c b) σ = (σ', .ok) ↔
    ∃ σ1 n, condPhase s .cinit c σ = (σ1, .ok) ∧ n < fuel ∧
      Passes (condEval s c) (fun x => andThen (exec s fuel b x) bump) n σ1 σ' := by
  have hw := loopN_eq_whileN (condEval s c) (exec s fuel b) (fun x => andThen (exec s fuel b x) bump) (fun _ => rfl) fuel
  constructor
  · intro h
    obtain ⟨σ1, h1, h2⟩ := andThen_ok h
    rw [hw, whileN_ok_iff] at h2
    obtain ⟨n, h2⟩ := h2
    exact ⟨σ1, n, h1, h2⟩
  · rintro ⟨σ1, n, h1, h2⟩
    rw [exec, h1]
    exact (hw σ1).trans ((whileN_ok_iff _ _ fuel σ1 σ').mpr ⟨n, h2⟩)

/-- Counter: if the body contains no further loop outside a scope (loops inside scopes are fine:
they count on their own counter) and none of its leaves touches `Iterations`, the counter visible
after the loop is the counter visible before plus the number of completed passes. -/
theorem loop_counter (s : Script) (fuel : Nat) (c : Cond) (b : Comp)
    (hb : b.sat Act.offCounter (fun _ => true) true = true) (hl : b.hasLoop = false) (σ σ' : St)
    (h : exec s fuel (.loop c b) σ = (σ', .ok)) :
    ∃ n, n < fuel ∧ Passes (condEval s c) (fun x => andThen (exec s fuel b x) bump) n
        (condPhase s .cinit c σ).1 σ' ∧
      σ'.reg.get? 0 = (σ.reg.get? 0).map (· + n) := by
  obtain ⟨σ1, n, h1, hn, hp⟩ := (loop_passes s fuel c b σ σ').mp h
  refine ⟨n, hn, by rw [h1]; exact hp, ?_⟩
  have hreg : σ1.reg = σ.reg := by have := condPhase_reg s .cinit c σ; rw [h1] at this; exact this
  rw [← hreg]
  refine passes_counter (fun x => condEval_reg s c x) (fun x y hxy => ?_) hp
  have := exec_counter_same_of_noTopLoop s fuel b hb hl x
  rw [hxy] at this; exact this

/-- A scope never changes the counters its caller sees, at any depth and for every outcome, as long
as no leaf writes `Iterations`: every loop inside the scope counts on a counter of the scope's own
child state (the documented way to nest loops). -/
theorem scope_keeps_counters (s : Script) (fuel : Nat) (b : Comp)
    (hb : b.sat Act.offCounter (fun _ => true) true = true) (σ : St) :
    (exec s fuel (.scope b) σ).1.reg.map (fun m => Scope.get? m 0) = σ.reg.map (fun m => Scope.get? m 0) ∧
    (exec s fuel (.scope b) σ).1.reg.get? 0 = σ.reg.get? 0 :=
  ⟨scope_profile s fuel b hb σ, get0_of_profile _ _ (scope_profile s fuel b hb σ)⟩

/-- Pass count: for a loop over a single scripted condition that occurs nowhere in its body, the
number of passes is read off the script — the values consumed are `true` once per pass and `false`
for the final test; the condition is evaluated exactly `passes + 1` times. -/
theorem loop_pass_count (s : Script) (fuel : Nat) (cid : Nat) (b : Comp)
    (hb : b.sat (fun _ => true) (Cond.avoids cid) true = true) (σ σ' : St)
    (h : exec s fuel (.loop (.leaf cid) b) σ = (σ', .ok)) :
    ∃ n, n < fuel ∧
      (∀ i, i < n → s.value cid (σ.tr.count (Phase.ceval, cid) + i) = true) ∧
      s.value cid (σ.tr.count (Phase.ceval, cid) + n) = false ∧
      σ'.tr.count (Phase.ceval, cid) = σ.tr.count (Phase.ceval, cid) + n + 1 := by
  obtain ⟨σ1, n, h1, hn, hp⟩ := (loop_passes s fuel (.leaf cid) b σ σ').mp h
  refine ⟨n, hn, ?_⟩
  have htr : σ1.tr.count (Phase.ceval, cid) = σ.tr.count (Phase.ceval, cid) := by
    have := step_count (e := (Phase.ceval, cid)) (ev := (Phase.cinit, cid)) (fun h => nomatch h) s some σ
    rwa [show step s (Phase.cinit, cid) some σ = (σ1, .ok) from h1] at this
  rw [← htr]
  simp only [condEval] at hp
  refine passes_script s cid (fun x y hxy => ?_) hp
  obtain ⟨m, hm, hbump⟩ := andThen_ok hxy
  have := exec_count_same s fuel cid b hb x
  rw [hm] at this
  rw [(bump_ok hbump).2]; exact this

/-- Branch: the condition is evaluated once; `true` runs the if-body, `false` runs the else-body
if there is one and otherwise nothing; an evaluation error is returned and nothing runs. -/
theorem branch_sem (s : Script) (fuel : Nat) (c : Cond) (t e : Comp) (he : Bool) (σ : St) :
    (∀ σ1, condEval s c σ = (σ1, .val true) → exec s fuel (.branch c t e he) σ = exec s fuel t σ1) ∧
    (∀ σ1, condEval s c σ = (σ1, .val false) → he = true →
        exec s fuel (.branch c t e he) σ = exec s fuel e σ1) ∧
    (∀ σ1, condEval s c σ = (σ1, .val false) → he = false →
        exec s fuel (.branch c t e he) σ = (σ1, .ok)) ∧
    (∀ σ1 ph id, condEval s c σ = (σ1, .err ph id) →
        exec s fuel (.branch c t e he) σ = (σ1, .err ph id)) := by
  rw [exec_branch]
  refine ⟨fun σ1 h => ?_, fun σ1 h hhe => ?_, fun σ1 h hhe => ?_, fun σ1 ph id h => ?_⟩ <;> rw [h]
  · rfl
  · subst hhe; rfl
  · subst hhe; rfl
  · rfl

/-- Scope: every execution of a scope node runs the complete lifecycle (`init`, `require`,
`execute`) of its body against a fresh, empty child scope, and closes that scope afterwards. -/
theorem scope_fresh_each_entry (s : Script) (fuel : Nat) (b : Comp) (σ : St) :
    exec s fuel (.scope b) σ = (pop (run s fuel b (push σ)).1, (run s fuel b (push σ)).2) ∧
    (push σ).reg = [] :: σ.reg ∧ (push σ).tr = σ.tr := by
  refine ⟨?_, rfl, rfl⟩
  rw [exec_scope, run_eq]

/-- Scope discipline: whatever happens (success, error in any phase at any depth, missing counter,
exhausted bound) the scope depth after the run is the scope depth before it. -/
theorem scope_discipline (s : Script) (fuel : Nat) (c : Comp) (σ : St) :
    (run s fuel c σ).1.reg.length = σ.reg.length ∧ (exec s fuel c σ).1.reg.length = σ.reg.length := by
  rw [run_eq, exec_eq]
  exact ⟨srun_depth s fuel _ σ, srun_depth s fuel _ σ⟩

/-- Nothing else is removed from the caller's state: a state that is present before the run and
that no leaf `remove`s is present afterwards — also when the run ends in an error. -/
theorem caller_state_kept (s : Script) (fuel : Nat) (c : Comp) (k : Nat)
    (hc : c.sat (Act.keeps k) (fun _ => true) true = true) (σ : St)
    (h : (σ.reg.get? k).isSome = true) : ((run s fuel c σ).1.reg.get? k).isSome = true :=
  run_frame s fuel (stable_present k true) c hc σ h

/-- Nothing else is removed, scope by scope: every scope of the caller's state (also a lower one whose
entry is shadowed) that holds a `k` before the run holds a `k` after it, if no leaf `remove`s `k` —
whatever is inserted, set, counted, and however the run ends. -/
theorem caller_scopes_kept (s : Script) (fuel : Nat) (c : Comp) (k : Nat)
    (hc : c.sat (Act.keeps k) (fun _ => true) true = true) (σ : St) (i : Nat) (m : Scope)
    (hi : σ.reg[i]? = some m) (h : m.has k = true) :
    ∃ m', (run s fuel c σ).1.reg[i]? = some m' ∧ m'.has k = true :=
  hasAt_kept (scope_discipline s fuel c σ).1
    (run_frame s fuel (stable_hasAt k (σ.reg.map fun m => m.has k) true) c hc σ (hasAt_self k σ.reg)) hi h

/-- State created inside a scope is gone afterwards: a state type absent from the caller's state
before a scope node is absent after it, whatever the body inserts and however it ends — provided no
hooked scope nested in the body has a merge hook that exports state (`noExports`; trivially true
for trees built from `Scope::new` / `scope_` only; for the hooked scope itself see
`hooked_scope_locals_gone`). -/
theorem scope_locals_gone (s : Script) (fuel : Nat) (b : Comp) (k : Nat) (hb : b.noExports = true) (σ : St)
    (h : σ.reg.get? k = none) : (exec s fuel (.scope b) σ).1.reg.get? k = none :=
  scope_frame s fuel (stable_absent k true) b hb σ h

/-- Outer state that a scope shadows is restored: inserting `k` inside the scope (any number of
times, at any depth) never disturbs the caller's `k`; as long as no leaf of the body `set`s or
`remove`s `k`, its value after the scope is its value before. -/
theorem shadow_restored (s : Script) (fuel : Nat) (b : Comp) (k v : Nat) (hk : k ≠ 0)
    (hb : b.sat (Act.spares k) (fun _ => true) true = true) (σ : St)
    (h : σ.reg.get? k = some v) : (exec s fuel (.scope b) σ).1.reg.get? k = some v :=
  scope_frame s fuel (stable_value k v hk true) b hb σ h

/-- Changes to non-shadowed outer state persist — for every body (loops, inserts of other state,
nested scopes, any outcome): a state type `k` that no leaf of the body inserts (for `Iterations`:
and the body has no loop) is found by the caller after the scope exactly as the body's own final
state resolved it, i.e. with whatever the last executed `set_value` / `remove` made of it. -/
theorem outer_writes_persist (s : Script) (fuel : Nat) (b : Comp) (k : Nat)
    (hb : b.sat (Act.noInsOf k) (fun _ => true) (k != 0) = true) (σ : St) :
    (exec s fuel (.scope b) σ).1.reg.get? k = (run s fuel b (push σ)).1.reg.get? k := by
  rw [run_eq, exec_scope]
  exact (srun_frame s fuel (stable_headLacks k) (prog b) (prog_all _ _ _ b hb) (push σ) rfl).get

/-- A state type that no leaf inserts, sets or removes keeps its value through any run and any
execution, whatever else happens and however it ends. With `block_order` this pins the value after
a block to the last executed write. -/
theorem untouched_state_unchanged (s : Script) (fuel : Nat) (c : Comp) (k : Nat)
    (hc : c.sat (Act.leaves k) (fun _ => true) (k != 0) = true) (σ : St) :
    (run s fuel c σ).1.reg.get? k = σ.reg.get? k ∧ (exec s fuel c σ).1.reg.get? k = σ.reg.get? k :=
  ⟨run_frame s fuel (stable_lookup k _) c hc σ rfl, exec_frame s fuel (stable_lookup k _) c hc σ rfl⟩

/-- The last write wins: after a leaf that executes `set_value::<K>(v)` on a visible `K`, followed
by any components that leave `K` alone (however they end), `K` holds `v`. -/
theorem last_write_wins (s : Script) (fuel : Nat) (id k v : Nat) (ds : Comps)
    (hd : ds.sat (Act.leaves k) (fun _ => true) (k != 0) = true) (σ : St)
    (hvis : (σ.reg.get? k).isSome = true)
    (hleaf : (exec s fuel (.leaf id [.set .exec k v]) σ).2 = .ok) :
    (exec s fuel (.block (.cons (.leaf id [.set .exec k v]) ds)) σ).1.reg.get? k = some v := by
  rcases step_cases s (Phase.exec, id) (leafEff .exec [.set .exec k v]) σ with h | ⟨r, hr, h⟩
  · rw [show exec s fuel (.leaf id [.set .exec k v]) σ = _ from h] at hleaf; cases hleaf
  · obtain rfl : σ.reg.setv k v = r := Option.some.inj hr
    show (andThen (step s (.exec, id) (leafEff .exec [.set .exec k v]) σ) (execs s fuel ds)).1.reg.get? k = _
    rw [h]
    exact exec_frame s fuel (stable_lookup k (some v)) (.block ds) hd ⟨_, (Phase.exec, id) :: σ.tr⟩
      (by rw [Reg.get_setv_same, hvis]; rfl)

/-- Once shadowed, out of reach: if the body's `init` has put a `k` into the scope's child state and
no leaf removes `k`, then whatever the body sets afterwards, the caller finds after the scope what
`init` left outside the child. (Without the first premise the clause is false for `set_value`
executed *before* the shadowing insert — that write goes to the caller's state by design; see the
example below.) -/
theorem shadow_holds_once_established (s : Script) (fuel : Nat) (b : Comp) (k : Nat)
    (hb : b.sat (Act.keeps k) (fun _ => true) true = true) (σ σ1 : St) (m : Scope) (t : Reg)
    (hi : initC s b (push σ) = (σ1, .ok)) (hr : σ1.reg = m :: t) (hm : m.has k = true) :
    (exec s fuel (.scope b) σ).1.reg.get? k = Reg.get? t k := by
  rw [exec_scope]
  have hsplit : srun s fuel (prog b) (push σ) = srun s fuel (.seq (reqProg b) (execProg b)) σ1 := by
    show andThen (srun s fuel (initProg b) (push σ)) (srun s fuel (.seq (reqProg b) (execProg b))) = _
    rw [← initC_eq s fuel b, hi]; rfl
  rw [hsplit]
  exact (srun_frame s fuel (stable_shadowed k (Reg.get? t k)) _
    (Stmt.all_seq (reqProg_all _ _ _ b hb) (execProg_all _ _ _ b hb)) σ1 (hr ▸ Shadowed.of_cons t hm)).tail

/-- A scope whose body inserts nothing at all (no `insert` action and no loop) is transparent — same
trace, same result and the same final registry as running the body's lifecycle in place. -/
theorem scope_without_locals_is_transparent (s : Script) (fuel : Nat) (b : Comp)
    (hb : b.sat Act.noIns (fun _ => true) false = true) (σ : St) :
    exec s fuel (.scope b) σ = run s fuel b σ := by
  rw [exec_scope, run_eq, srun_push s fuel (prog b) (prog_all _ _ false b hb) σ]; rfl

/-! ### Hooked scopes: `Scope::new_with(state_init, body, states_merge)` -/

/-- Lifecycle of a hooked scope. `state_init` runs first, on the fresh child state; if it fails the
body is not even initialised, the scope is closed and the caller's registry is untouched. Otherwise
the body's complete lifecycle runs on the child state `state_init` prepared; if that fails, the scope
is closed, the error is returned and the merge hook is NOT called. Only if it succeeds is the merge
hook called — once, after the caller's registry has been restored, with the child's own final map —
and its failure is returned (the scope is closed in either case). -/
theorem hooked_scope_lifecycle (s : Script) (fuel : Nat) (id : Nat) (si : List Act) (mg : List (Nat × Nat))
    (b : Comp) (σ : St) :
    (s.faulty (.init, id) (σ.tr.count (.init, id)) = true →
      exec s fuel (.scopeW id si mg b) σ = (⟨σ.reg, (.init, id) :: σ.tr⟩, .err .init id)) ∧
    (s.faulty (.init, id) (σ.tr.count (.init, id)) = false →
      ∀ σ2 r, run s fuel b ⟨applyActs .init si ([] :: σ.reg), (.init, id) :: σ.tr⟩ = (σ2, r) →
        (r ≠ .ok → exec s fuel (.scopeW id si mg b) σ = (pop σ2, r)) ∧
        (r = .ok → s.faulty (.exec, id) (σ2.tr.count (.exec, id)) = true →
          exec s fuel (.scopeW id si mg b) σ = (⟨σ2.reg.tail, (.exec, id) :: σ2.tr⟩, .err .exec id)) ∧
        (r = .ok → s.faulty (.exec, id) (σ2.tr.count (.exec, id)) = false →
          exec s fuel (.scopeW id si mg b) σ =
            (⟨exportKeys (σ2.reg.headD []) mg σ2.reg.tail, (.exec, id) :: σ2.tr⟩, .ok))) := by
  refine ⟨fun hf => ?_, fun hf σ2 r hr => ?_⟩
  · rw [exec_scopeW, step_faulty (σ := push σ) hf]; rfl
  · rw [exec_scopeW, step_ok (σ := push σ) (eff := leafEff .init si) hf rfl, andThen]
    change run s fuel b ⟨applyActs .init si (push σ).reg, (.init, id) :: (push σ).tr⟩ = (σ2, r) at hr
    rw [hr]
    refine ⟨fun hne => ?_, fun hok hf2 => ?_, fun hok hf2 => ?_⟩
    · cases r <;> first | exact absurd rfl hne | rfl
    · subst hok; exact step_faulty (σ := pop σ2) hf2 fun p => some (exportKeys (σ2.reg.headD []) mg p)
    · subst hok; exact step_ok (σ := pop σ2) (eff := fun p => some (exportKeys (σ2.reg.headD []) mg p)) hf2 rfl

/-- What the merge hook delivers: after a hooked scope that ends normally, the caller's registry is
the restored registry `t` (as the body left the caller's scopes) with, for every `(a, b)` of the
hook in order, `Kb := v` inserted into its top scope if the child's own map holds `Ka = v`; so under
every key the caller finds the last such export, and what the body left there otherwise. -/
theorem merge_exports (s : Script) (fuel : Nat) (id : Nat) (si : List Act) (mg : List (Nat × Nat))
    (b : Comp) (σ σ' : St) (hne : σ.reg ≠ [])
    (h : exec s fuel (.scopeW id si mg b) σ = (σ', .ok)) :
    ∃ σ2 m t, andThen (step s (.init, id) (leafEff .init si) (push σ)) (run s fuel b) = (σ2, .ok) ∧
      σ2.reg = m :: t ∧ t.length = σ.reg.length ∧ σ'.reg = exportKeys m mg t ∧
      ∀ k, σ'.reg.get? k = exportedValue m mg k (Reg.get? t k) := by
  rw [exec_scopeW] at h
  obtain ⟨m, t, hr, ht⟩ := srun_child_shape s fuel (hookBody id si b) σ
  rw [← hookBody_eq] at hr
  rcases closeMerge_cases s id mg (andThen (step s (.init, id) (leafEff .init si) (push σ)) (run s fuel b)) with h1 | ⟨hok, h1⟩
  · exact absurd (congrArg (·.2) h) h1.2
  · rw [h1, hr] at h; cases h
    exact ⟨_, m, t, Prod.ext rfl hok, hr, ht, rfl, fun k => exportKeys_get m mg k t (ne_nil_of_len ht hne)⟩

/-- State created inside a hooked scope — by `state_init` or by the body — is gone afterwards unless
the merge hook exports it: a state type absent from the caller's state before, and not a target of
the merge hook, is absent after, however the scope ends. -/
theorem hooked_scope_locals_gone (s : Script) (fuel : Nat) (id : Nat) (si : List Act) (mg : List (Nat × Nat))
    (b : Comp) (k : Nat) (hb : b.noExports = true) (hk : k ∉ mg.map (·.2)) (σ : St)
    (h : σ.reg.get? k = none) : (exec s fuel (.scopeW id si mg b) σ).1.reg.get? k = none := by
  refine scopeW_frame s fuel (stable_absent k true) id si mg b (by simp) hb (fun k' v p hk' hq => ?_) σ h
  rw [Reg.get_insert_ne p k' v k fun e => hk (e ▸ hk')]; exact hq

/-- Outer state shadowed inside a hooked scope is restored: if neither `state_init` nor a leaf of the
body `set`s or `remove`s `k` and the merge hook does not export into `k`, the caller's `k` has the
same value after the scope as before — whatever was inserted under `k` inside. -/
theorem hooked_shadow_restored (s : Script) (fuel : Nat) (id : Nat) (si : List Act) (mg : List (Nat × Nat))
    (b : Comp) (k v : Nat) (hk0 : k ≠ 0) (hs : si.all (Act.spares k) = true)
    (hb : b.sat (Act.spares k) (fun _ => true) true = true) (hk : k ∉ mg.map (·.2)) (σ : St)
    (h : σ.reg.get? k = some v) : (exec s fuel (.scopeW id si mg b) σ).1.reg.get? k = some v := by
  refine scopeW_frame s fuel (stable_value k v hk0 true) id si mg b hs hb (fun k' v' p hk' hq => ?_) σ h
  rw [Reg.get_insert_ne p k' v' k fun e => hk (e ▸ hk')]; exact hq

/-- Counting from zero: a configuration that is one loop (no further loop outside scopes in its body,
leaves leave `Iterations` alone) ends normally only with `Iterations = n` visible, `n` being the number
of completed passes — whatever counter the caller's state held before (`Loop::init` inserts a fresh
`Iterations(0)` into the scope that is current at `init` time). -/
theorem run_loop_counts_from_zero (s : Script) (fuel : Nat) (c : Cond) (b : Comp)
    (hb : b.sat Act.offCounter (fun _ => true) true = true) (hl : b.hasLoop = false) (σ σ' : St)
    (hne : σ.reg ≠ []) (h : run s fuel (.loop c b) σ = (σ', .ok)) :
    ∃ σ2 n, n < fuel ∧ reqC s (.loop c b) (initC s (.loop c b) σ).1 = (σ2, .ok) ∧
      Passes (condEval s c) (fun x => andThen (exec s fuel b x) bump) n (condPhase s .cinit c σ2).1 σ' ∧
      σ'.reg.get? 0 = some n := by
  simp only [run] at h
  obtain ⟨σ1, h1, h⟩ := andThen_ok h
  obtain ⟨σ2, h2, h⟩ := andThen_ok h
  obtain ⟨n, hn, hp, hc⟩ := loop_counter s fuel c b hb hl σ2 σ' h
  refine ⟨σ2, n, hn, by rw [h1]; exact h2, hp, ?_⟩
  rw [hc]
  have hr2 : σ2.reg = σ1.reg := by have := reqC_reg s (.loop c b) σ1; rw [h2] at this; exact this
  have h0 := initC_loop_counter s c b hb hl hne
  rw [h1] at h0
  rw [hr2, h0]; simp

/-! Non-vacuity: concrete trees and states satisfying the hypotheses, and the conclusions
evaluated on them. -/

-- hypotheses of `caller_state_kept` / `caller_scopes_kept`, `shadow_restored`
example : exBody.sat (Act.keeps 1) (fun _ => true) true = true := by decide +kernel
example : exBody.sat (Act.spares 1) (fun _ => true) true = true := by decide +kernel
example : (exState.reg.get? 1).isSome = true := by decide +kernel
-- a shadowed lower entry of the caller survives a run that inserts, sets and loops above it
example : ([[(2, 1)], [(1, 100), (2, 200)]] : Reg)[1]? = some [(1, 100), (2, 200)] ∧
    Scope.has [(1, 100), (2, 200)] 2 = true ∧
    ((run exScript 5 exBody ⟨[[(2, 1)], [(1, 100), (2, 200)]], []⟩).1.reg[1]?.map (fun m => m.has 2)) = some true := by decide +kernel
-- `scope_locals_gone`, `scope_keeps_counters`, `loop_counter`, `loop_pass_count`: hypotheses and conclusions
example : (exec exScript 5 (.scope exBody) exState).1.reg = [[(2, 9), (1, 100)]] := by decide +kernel
example : (exec exScript 5 (.scope exBody) exState).1.reg.get? 0 = none := by decide +kernel
example : (Comp.scope exBody).sat Act.offCounter (fun _ => true) true = true ∧ (Comp.scope exBody).hasLoop = false := by decide +kernel
example : exBody.sat Act.offCounter (fun _ => true) true = true := by decide +kernel
example : (Comp.leaf 2 [.set .exec 2 9]).sat (fun _ => true) (Cond.avoids 101) true = true := by decide +kernel
example : (exec exScript 5 (.loop (.leaf 101) (.leaf 2 [.set .exec 2 9])) { exState with reg := [[(0, 0)]] }).2 = .ok := by
  decide +kernel
example : (exec exScript 5 (.loop (.leaf 101) (.leaf 2 [.set .exec 2 9])) { exState with reg := [[(0, 0)]] }).1.reg.get? 0
    = some 2 := by decide +kernel
-- hypothesis of `scope_without_locals_is_transparent`; `scope_discipline` on an error run
example : (Comp.leaf 2 [.set .exec 2 9]).sat Act.noIns (fun _ => true) false = true := by decide +kernel
example : (run { exScript with fails := [(.exec, 2, 1)] } 5 (.scope exBody) exState).2 = .err .exec 2 := by decide +kernel
example : (run { exScript with fails := [(.exec, 2, 1)] } 5 (.scope exBody) exState).1.reg.length = 1 := by decide +kernel

-- `outer_writes_persist`: per-key persistence with a loop and an insert of another key in the body
example : exBody.sat (Act.noInsOf 2) (fun _ => true) (2 != 0) = true := by decide +kernel
example : (exec exScript 5 (.scope exBody) exState).1.reg.get? 2 = some 9 := by decide +kernel
-- a `set_value` executed before the shadowing insert reaches the caller's state (so "restored for all bodies" is false)
example : (exec exScript 5 (.scope (.block (.cons (.leaf 1 [.set .exec 1 5]) (.cons (.leaf 2 [.ins .exec 1 7]) .nil))))
    exState).1.reg.get? 1 = some 5 := by decide +kernel
-- `shadow_holds_once_established`: shadow established by `init`, later sets stay inside
example : (exec exScript 5 (.scope (.leaf 1 [.ins .init 1 7, .set .exec 1 8])) exState).1.reg.get? 1 = some 100 := by decide +kernel
-- the counter is NOT reset on loop entry: 7 before, two passes, 9 after
example : (exec exScript 5 (.loop (.leaf 101) (.leaf 2 [.set .exec 2 9])) { exState with reg := [[(0, 7)]] }).1.reg.get? 0
    = some 9 := by decide +kernel
-- `lifecycle` (a), `first_error_stops`: an init error stops the init pass, later siblings are not initialised
example : (run { exScript with fails := [(.init, 1, 0)] } 5 exBody exState).1.trace = [(.init, 1)] := by decide +kernel
example : exScript.faulty (.exec, 2) 0 = false ∧ ({ exScript with fails := [(.cinit, 101, 1)] } : Script).faulty (.cinit, 101) 1 = true := by decide +kernel
example : (run { exScript with fails := [(.cinit, 101, 1)] } 5 exBody exState).2 = .err .cinit 101 := by decide +kernel

-- `hooked_scope_lifecycle`, `merge_exports`: `state_init` inserts K3 = 5 into the child, the body inserts K1 = 7 there and sets the
-- child's K3 to 6, the merge hook exports K3 as K2 and K1 as K1; the child's own K3 is gone afterwards
example : (exec exScript 5 exHook exState).1.reg = [[(1, 7), (2, 6)]] ∧ (exec exScript 5 exHook exState).2 = .ok := by
  decide +kernel
example : (exec exScript 5 exHook exState).1.trace = [(.init, 900), (.init, 1), (.req, 1), (.exec, 1), (.exec, 900)] := by
  decide +kernel
-- `state_init` fails: the body is not initialised, the caller's registry is untouched, the scope is closed
example : (exec { exScript with fails := [(.init, 900, 0)] } 5 exHook exState).1.reg = exState.reg ∧
    (exec { exScript with fails := [(.init, 900, 0)] } 5 exHook exState).1.tr = [(.init, 900)] ∧
    (exec { exScript with fails := [(.init, 900, 0)] } 5 exHook exState).2 = .err .init 900 := by decide +kernel
-- the body fails: no merge event, nothing exported, the scope is closed
example : (exec { exScript with fails := [(.exec, 1, 0)] } 5 exHook exState).1.trace.getLast? = some (.exec, 1) ∧
    (exec { exScript with fails := [(.exec, 1, 0)] } 5 exHook exState).1.reg = exState.reg := by decide +kernel
-- the merge hook fails: its error is the result, nothing exported, the scope is closed
example : (exec { exScript with fails := [(.exec, 900, 0)] } 5 exHook exState).2 = .err .exec 900 ∧
    (exec { exScript with fails := [(.exec, 900, 0)] } 5 exHook exState).1.reg = exState.reg := by decide +kernel
-- hypotheses and conclusions of `hooked_scope_locals_gone`, `hooked_shadow_restored`
example : (Comp.leaf 1 [.ins .exec 1 7, .set .exec 3 6]).noExports = true ∧ 3 ∉ [(3, 2), (1, 1)].map (·.2) := by decide +kernel
example : exState.reg.get? 3 = none ∧ (exec exScript 5 exHook exState).1.reg.get? 3 = none := by decide +kernel
example : [Act.ins .init 3 5].all (Act.spares 2) = true ∧
    (Comp.leaf 1 [.ins .exec 2 7]).sat (Act.spares 2) (fun _ => true) true = true ∧ 2 ∉ [(3, 3)].map (·.2) := by decide +kernel
example : (exec exScript 5 (.scopeW 900 [.ins .init 3 5] [(3, 3)] (.leaf 1 [.ins .exec 2 7])) exState).1.reg
    = [[(3, 5), (1, 100), (2, 200)]] := by decide +kernel
example : exportedValue [(1, 7), (3, 6)] [(3, 2), (1, 1)] 2 (some 200) = some 6 := by decide +kernel
-- a hooked scope nested in a plain scope exports into that scope only: the caller never sees it
example : (exec exScript 5 (.scope exHook) exState).1.reg = exState.reg := by decide +kernel
example : (Comp.scope exHook).noExports = false := by decide +kernel
-- `run_loop_counts_from_zero`: counting from zero although the caller's state held `Iterations = 7`
example : (run exScript 5 (.loop (.leaf 101) (.leaf 2 [.set .exec 2 9])) { exState with reg := [[(0, 7)]] }).2 = .ok ∧
    (run exScript 5 (.loop (.leaf 101) (.leaf 2 [.set .exec 2 9])) { exState with reg := [[(0, 7)]] }).1.reg.get? 0 = some 2 := by
  decide +kernel

end MahfModel.Props.C03
