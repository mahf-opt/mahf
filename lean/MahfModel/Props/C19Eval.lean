/-
C19 — ant colony, third part: the generation → evaluation → update step composed from the public
components under an evaluator identifier (`evaluate_with::<I>()`), with other evaluators registered under
the other identifiers. Property theorems only.
-/
import MahfModel.Props.C19Run
set_option linter.unusedSectionVars false
namespace MahfModel.Props.C19
open MahfModel.Aco

section composed
variable {F : Type} [Add F] [Sub F] [Mul F] [Div F] [LT F] [LE F] [DecidableLT F] [DecidableLE F]
  [OfNat F 0] [OfNat F 1]

/-- Whatever is registered under the OTHER identifiers: when the evaluator under the requested identifier
`i` is the tour length, the composed step IS the step all other C19 theorems speak about (so the deposit is
`c / tour length` resp. `1 / tour length of the shortest sampled tour`), and it never ends in an `Err`. -/
theorem composed_step_is_step (store : EvalStore F) (i : EvalId) (k : Kind F) (pm : PM F)
    (dist : Nat → Nat → F) (g : GenOut) (h : store i = some (tourLen dist)) :
    stepOfWith store i k pm g = some (stepOf k pm dist g) := by
  cases g with
  | tours ts => simp only [stepOfWith, stepOf, h]; split <;> rfl
  | panic | badWitness => rfl

/-- Two states whose evaluators agree under the requested identifier give the same step, however they
differ under the other identifiers (decoy evaluators are never consulted). -/
theorem composed_step_ignores_other_identifiers (s₁ s₂ : EvalStore F) (i : EvalId) (k : Kind F) (pm : PM F)
    (g : GenOut) (h : s₁ i = s₂ i) : stepOfWith s₁ i k pm g = stepOfWith s₂ i k pm g := by
  cases g with
  | tours ts => simp only [stepOfWith, h]
  | panic | badWitness => rfl

/-- A pass of a colony composed under identifier `i` (tour-length evaluator under `i`, anything elsewhere)
stays inside the reachable states of the run theorems. -/
theorem composed_pass_reachable (N : Num F) (le : F → F → Bool) (c : RunCfg F) (store : EvalStore F)
    (i : EvalId) (h : store i = some (tourLen c.dist)) {pm pm' : PM F} (gw : List Nat)
    (wits ts : List (List Nat)) (objs : List F) (hr : Reach N le c pm)
    (hs : stepWWith N le store i c.kind pm c.dist c.α c.β c.n c.numAnts gw wits = some (.ok ts objs pm')) :
    Reach N le c pm' := by
  unfold stepWWith at hs
  rw [composed_step_is_step store i c.kind pm c.dist _ h] at hs
  exact Reach.pass gw wits ts objs hr (Option.some.inj hs)

end composed

/-- The hypothesis is satisfiable with a decoy under `Global` and the tour length under `A`. -/
example : (fun i => match i with
    | .a => some (tourLen (fun (a b : Nat) => (a + b : Int)))
    | .global => some (fun _ => 1)
    | .b => none : EvalStore Int) .a = some (tourLen (fun (a b : Nat) => (a + b : Int))) := rfl

end MahfModel.Props.C19
