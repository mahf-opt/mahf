/- C13 — the crossover helpers on one pair of parents: multi-point, uniform and cycle crossover are position-wise with both
   genes conserved (the cycle crossover returns permutations), the arithmetic crossover is convex. -/
import MahfModel.Proofs.C13Cross
import MahfModel.Proofs.C13Cycle
import MahfModel.Proofs.ArithField
namespace MahfModel.Props.C13
open MahfModel.Variation

variable {α : Type}

/-- Multi-point crossover on parents of equal length with cut points in `0..=len`: no panic, the
children have the parents' length, and position `k` of child 1 holds the gene of parent 2 exactly
when an odd number of cut points is `≤ k` (child 2: the other gene). -/
theorem multi_point_positionwise (p1 p2 : List α) (idx : List Nat) (hl : p1.length = p2.length)
    (hne : idx ≠ []) (hlt : idx.length < p1.length) (hr : ∀ x ∈ idx, x ≤ p1.length) :
    ∃ c1 c2, multiPointCrossover p1 p2 idx = some (c1, c2) ∧
      c1.length = p1.length ∧ c2.length = p1.length ∧
      ∀ k : Nat, c1[k]? = (if idx.countP (· ≤ k) % 2 = 1 then p2[k]? else p1[k]?) ∧
           c2[k]? = (if idx.countP (· ≤ k) % 2 = 1 then p1[k]? else p2[k]?) := by
  obtain ⟨d1, d2, h, l1, l2, hk⟩ := mpxLoop_spec p1 p2 idx.length hl idx 0 p1 p2 hl hr
  refine ⟨d1, d2, ?_, l1, l2, hk⟩
  rw [multiPointCrossover, if_neg (by rwa [List.isEmpty_iff]), if_neg (not_not.mpr hlt),
    if_neg (not_not.mpr (hl ▸ hlt)), h]

/-- Both genes of every position are conserved across the two children (multi-point). -/
theorem multi_point_genes_conserved (p1 p2 : List α) (idx : List Nat) (hl : p1.length = p2.length)
    (hne : idx ≠ []) (hlt : idx.length < p1.length) (hr : ∀ x ∈ idx, x ≤ p1.length) :
    ∃ c1 c2, multiPointCrossover p1 p2 idx = some (c1, c2) ∧
      ∀ k : Nat, (c1[k]? = p1[k]? ∧ c2[k]? = p2[k]?) ∨ (c1[k]? = p2[k]? ∧ c2[k]? = p1[k]?) := by
  obtain ⟨c1, c2, h, _, _, hk⟩ := multi_point_positionwise p1 p2 idx hl hne hlt hr
  exact ⟨c1, c2, h, fun k => conserved_of_pick (hk k).1 (hk k).2⟩

/-- Uniform crossover on parents of equal length with a mask of that length: no panic, and the
children are, position by position, the parental genes swapped where the mask is set. -/
theorem uniform_positionwise (p1 p2 : List α) (mask : List Bool) (hl : p1.length = p2.length)
    (hm : mask.length = p1.length) :
    ∃ c1 c2, uniformCrossover p1 p2 mask = some (c1, c2) ∧
      c1.length = p1.length ∧ c2.length = p1.length ∧
      ∀ k (hk : k < p1.length),
        c1[k]? = (if mask[k]'(hm ▸ hk) then p2[k]? else p1[k]?) ∧
        c2[k]? = (if mask[k]'(hm ▸ hk) then p1[k]? else p2[k]?) :=
  ⟨_, _, uniformCrossover_eq p1 p2 mask hl hm, uxSpec_positionwise p1 p2 mask hl hm⟩

/-- Both genes of every position are conserved across the two children (uniform). -/
theorem uniform_genes_conserved (p1 p2 : List α) (mask : List Bool) (hl : p1.length = p2.length)
    (hm : mask.length = p1.length) :
    ∃ c1 c2, uniformCrossover p1 p2 mask = some (c1, c2) ∧
      ∀ k : Nat, k < p1.length →
        (c1[k]? = p1[k]? ∧ c2[k]? = p2[k]?) ∨ (c1[k]? = p2[k]? ∧ c2[k]? = p1[k]?) := by
  obtain ⟨c1, c2, h, _, _, hk⟩ := uniform_positionwise p1 p2 mask hl hm
  exact ⟨c1, c2, h, fun k hlt => conserved_of_pick (hk k hlt).1 (hk k hlt).2⟩

/-- Cycle crossover on two permutations of the same elements: no panic (all three contracts hold,
the `unwrap` succeeds, the loop terminates within its fuel), the children have the parents' length
and every position holds the two parental genes of that position (both conserved). -/
theorem cycle_crossover_positionwise [DecidableEq α] (p1 p2 : List α) (h1 : p1.Nodup) (hp : p1.Perm p2) :
    ∃ c1 c2, cycleCrossover p1 p2 = some (c1, c2) ∧ c1.length = p1.length ∧ c2.length = p1.length ∧
      ∀ k : Nat, k < p1.length →
        (c1[k]? = p1[k]? ∧ c2[k]? = p2[k]?) ∨ (c1[k]? = p2[k]? ∧ c2[k]? = p1[k]?) := by
  obtain ⟨c1, c2, h, l1, l2, hk, _, _⟩ := cycleCrossover_spec p1 p2 h1 hp
  exact ⟨c1, c2, h, l1, l2, hk⟩

/-- The children of two permutations are permutations of the same elements. -/
theorem cycle_crossover_perm [DecidableEq α] (p1 p2 : List α) (h1 : p1.Nodup) (hp : p1.Perm p2) :
    ∃ c1 c2, cycleCrossover p1 p2 = some (c1, c2) ∧ c1.Perm p1 ∧ c2.Perm p1 := by
  obtain ⟨c1, c2, h, _, _, _, q1, q2⟩ := cycleCrossover_spec p1 p2 h1 hp
  exact ⟨c1, c2, h, q1, q2⟩

section Arith
variable {F : Type} [Field F] [LinearOrder F] [IsStrictOrderedRing F]

/-- Arithmetic crossover: no panic on parents and alphas of one length; for `α ∈ [0,1]` every child
coordinate is a convex combination (lies between the two parental coordinates), and the two
children together conserve the coordinate sum. -/
theorem arithmetic_convex (p1 p2 al : List F) (hl : p1.length = p2.length) (ha : al.length = p1.length)
    (h01 : ∀ t ∈ al, 0 ≤ t ∧ t ≤ 1) :
    ∃ c1 c2, arithmeticCrossover p1 p2 al = some (c1, c2) ∧
      c1.length = p1.length ∧ c2.length = p1.length ∧
      ∀ k (hk : k < p1.length), ∃ x y, c1[k]? = some x ∧ c2[k]? = some y ∧
        min p1[k] (p2[k]'(hl ▸ hk)) ≤ x ∧ x ≤ max p1[k] (p2[k]'(hl ▸ hk)) ∧
        min p1[k] (p2[k]'(hl ▸ hk)) ≤ y ∧ y ≤ max p1[k] (p2[k]'(hl ▸ hk)) ∧
        x + y = p1[k] + p2[k]'(hl ▸ hk) := by
  refine ⟨_, _, arithmeticCrossover_eq p1 p2 al hl ha, length_zipWith_zip _ al p1 p2 hl ha,
    length_zipWith_zip _ al p1 p2 hl ha, fun k hk => ?_⟩
  have hka : k < al.length := ha ▸ hk
  have ht := h01 al[k] (List.getElem_mem hka)
  have c1 := Arith.convex_between p1[k] (p2[k]'(hl ▸ hk)) al[k] ht.1 ht.2
  have c2 := Arith.convex_between (p2[k]'(hl ▸ hk)) p1[k] al[k] ht.1 ht.2
  rw [min_comm, max_comm] at c2
  refine ⟨_, _, getElem?_zipWith_zip _ al p1 p2 k hka hk (hl ▸ hk), getElem?_zipWith_zip _ al p1 p2 k hka hk (hl ▸ hk),
    c1.1, c1.2, c2.1, c2.2, ?_⟩
  -- the weights `t` and `1 - t` of the two children add up to one on each parent
  rw [add_add_add_comm, ← mul_add, ← mul_add, add_comm (p2[k]'(hl ▸ hk)) p1[k], ← add_mul, add_sub_cancel, one_mul]
end Arith

/-! Non-vacuity of the hypotheses, on concrete inputs. -/
example : ∀ t ∈ [(1 / 2 : Rat), 3 / 10, 0, 1], 0 ≤ t ∧ t ≤ 1 := by decide +kernel
example : multiPointCrossover [0, 0, 0, 0, 0] [1, 1, 1, 1, 1] [4, 2] = some ([0, 0, 1, 1, 0], [1, 1, 0, 0, 1]) := by decide +kernel
example : uniformCrossover [0, 0, 0] [1, 1, 1] [true, false, true] = some ([1, 0, 1], [0, 1, 0]) := by decide +kernel
example : cycleCrossover [8, 4, 7, 3, 6, 2, 5, 1, 9, 0] [0, 1, 2, 3, 4, 5, 6, 7, 8, 9] =
    some ([8, 1, 2, 3, 4, 5, 6, 7, 9, 0], [0, 4, 7, 3, 6, 2, 5, 1, 8, 9]) := by decide +kernel
example : ([8, 4, 7, 3, 6, 2, 5, 1, 9, 0] : List Nat).Nodup ∧
    ([8, 4, 7, 3, 6, 2, 5, 1, 9, 0] : List Nat).Perm [0, 1, 2, 3, 4, 5, 6, 7, 8, 9] := by decide +kernel

end MahfModel.Props.C13
