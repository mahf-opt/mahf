/- The evaluated individual that the non-vacuity examples of `Props/C04`, `Props/C04Comp` and `Props/C04Scope` are built from. -/
import MahfModel.Model.PopStack
namespace MahfModel.Props.C04
open MahfModel.PopStack

def ev (n : Nat) : Ind := ⟨n, some n⟩

end MahfModel.Props.C04
