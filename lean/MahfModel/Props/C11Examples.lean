/-
C11 — non-vacuity of `Props/C11.lean` and `Props/C11Pairs.lean`: concrete inputs over ℚ that meet the hypotheses of the
theorems there, and what the model returns on them.  (Kept apart from the theorems because `⌊x⌋₊` on ℚ needs
`Mathlib.Data.Rat.Floor`.  The examples over a carrier with `+inf` are in `Props/C11Range.lean`.)
-/
import MahfModel.Props.C11Pairs
import Mathlib.Data.Rat.Floor
namespace MahfModel.Props.C11
open MahfModel.Selection

/-! ## Non-vacuity: the hypotheses are met by concrete non-trivial inputs (carrier ℚ). -/

def exOps : Ops ℚ := ⟨fun _ => true, fun n => n, fun x => ⌊x⌋₊, fun b k => b ^ k, fun _ => false⟩
def exPop : Pop ℚ := [⟨1, some 3⟩, ⟨2, some (-1)⟩, ⟨3, some 3⟩, ⟨4, some 0⟩]

example : Evaluated exPop := by
  intro x hx; simp [exPop] at hx; rcases hx with h | h | h | h <;> subst h <;> rfl
example : Legal (.randomWithoutRepetition 3 : Op ℚ) exPop (.idx [2, 0, 3]) := by
  unfold Legal ChooseMultiple inRange; decide +kernel
example : Legal (.tournament 2 4 : Op ℚ) exPop (.sets [[3, 1, 0, 2], [0, 2, 3, 1]]) := by
  unfold Legal ChooseMultiple inRange; decide +kernel
example : Legal (.sus 3 (1 / 2) : Op ℚ) exPop (.draw (1 / 3)) := by unfold Legal; decide +kernel
example : select exOps (.sus 2 0) (.draw (1 / 2)) [⟨1, some 1⟩, ⟨2, some 3⟩] = .ok [⟨1, some 1⟩, ⟨1, some 1⟩] := by
  decide +kernel
-- weights [3, 1], 4 points, draw 1/2: points 1/2, 3/2, 5/2, 7/2 → positions 0, 0, 0, 1 (3 : 1 copies)
example : susIndices exOps ([3, 1] : List ℚ) 4 (1 / 2) = .ok [0, 0, 0, 1] := by
  decide +kernel
example : ParamOk (.exponentialRank 5 (1 / 2) : Op ℚ) := by unfold ParamOk; decide +kernel
example : Legal (.deRand 1 : Op ℚ) exPop (.sets [[0, 1, 2], [3, 2, 1], [1, 0, 3], [2, 3, 0]]) := by
  unfold Legal ChooseMultiple inRange; decide +kernel
/-- a partly unevaluated population, for `documented_errors_no_fitness` -/
def exPopU : Pop ℚ := [⟨1, none⟩, ⟨2, some 5⟩, ⟨3, none⟩]
example : NoFitness (.randomWithoutRepetition 2 : Op ℚ) ∧
    Legal (.randomWithoutRepetition 2 : Op ℚ) exPopU (.idx [2, 0]) := by
  unfold NoFitness Legal ChooseMultiple inRange; decide +kernel
example : select exOps (.randomWithoutRepetition 2) (.idx [2, 0]) exPopU = .ok [⟨3, none⟩, ⟨1, none⟩] := by
  decide +kernel
-- `exPop` has its minimum (-1) at position 1; position 1 is the only legal "best"
example : Legal (.deBest 1 : Op ℚ) exPop (.setsBest 1 [[0, 1], [3, 2], [1, 0], [2, 3]]) := by
  refine ⟨⟨rfl, ?_⟩, Or.inr ⟨⟨2, some (-1)⟩, -1, rfl, rfl, ?_⟩⟩
  · unfold ChooseMultiple inRange; decide +kernel
  · unfold exPop; decide +kernel
-- two equally good members (positions 0 and 2 of [3, 5, 3]): both are legal "best" positions
example : BestIdx ([⟨1, some 3⟩, ⟨2, some 5⟩, ⟨3, some 3⟩] : Pop ℚ) 0 ∧
    BestIdx ([⟨1, some 3⟩, ⟨2, some 5⟩, ⟨3, some 3⟩] : Pop ℚ) 2 := by
  constructor
  · exact Or.inr ⟨⟨1, some 3⟩, 3, rfl, rfl, by decide +kernel⟩
  · exact Or.inr ⟨⟨3, some 3⟩, 3, rfl, rfl, by decide +kernel⟩
example : select exOps (.randomWithoutRepetition 3) (.idx [2, 0, 3]) exPop
    = .ok [⟨3, some 3⟩, ⟨1, some 3⟩, ⟨4, some 0⟩] := by
  decide +kernel
example : ∃ o ∈ ([3, -1, 3, 0] : List ℚ), o ≤ 0 := ⟨-1, by simp, by norm_num⟩
example : (∀ k : Nat, exOps.ofNat k = (k : ℚ)) ∧ (∀ x y : ℚ, x ≤ y → exOps.floorNat x ≤ exOps.floorNat y) ∧
    (∀ k : Nat, exOps.floorNat (k : ℚ) = k) ∧ (∀ x : ℚ, exOps.isNaN x = false) :=
  ⟨fun _ => rfl, fun _ _ h => Nat.floor_mono h, fun k => Nat.floor_natCast k, fun _ => rfl⟩

/-! ## Individuals are (solution, objective) pairs; other states in the State -/

def exOpsP : Ops ℚ := ⟨fun _ => true, fun n => n, fun x => ⌊x⌋₊, fun b k => b ^ k, fun _ => false⟩

/-- three evaluations of ONE solution: pairwise different pairs -/
def exShared : Pop ℚ := [⟨1, some 3⟩, ⟨1, some 5⟩, ⟨1, some 4⟩, ⟨2, some 4⟩]
example : Evaluated exShared := by intro x hx; simp [exShared] at hx; rcases hx with rfl | rfl | rfl | rfl <;> rfl
example : exShared.Nodup := by decide
example : Legal (.deCurrentToBest 2 : Op ℚ) exShared (.setsBest 0 [[0, 1, 2], [2, 0, 1], [1, 2, 0], [0, 2, 1]]) := by
  refine ⟨⟨rfl, ?_⟩, .inr ⟨⟨1, some 3⟩, 3, rfl, rfl, ?_⟩⟩
  · unfold ChooseMultiple inRange; decide +kernel
  · unfold exShared; decide +kernel
/-- the pool of the first member holds the two other evaluations of the same solution -/
example : exShared.filter (fun j => !sameInd j (⟨1, some 3⟩ : Ind ℚ)) = [⟨1, some 5⟩, ⟨1, some 4⟩, ⟨2, some 4⟩] := by
  decide
/-- a State whose cached best-so-far is better than every member and not a member -/
example : ∃ sel, (execute exOpsP (.deBest 1) (.setsBest 0 [[1, 2], [0, 2], [1, 0], [3, 1]])
    ⟨[exShared], some ⟨9, some (-7)⟩, [⟨8, some 0⟩], [], none⟩).1.stack = [sel, exShared] ∧
    (⟨9, some (-7)⟩ : Ind ℚ) ∉ sel := by
  refine ⟨_, rfl, ?_⟩
  decide

end MahfModel.Props.C11
