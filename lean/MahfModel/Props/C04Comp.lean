/-
C04 — shipped components that take the current population off the stack and put it (or their result) back:
`PopulationEvaluator`, the selection / mutation / recombination / replacement drivers, the archive components.
What they put back is their own business (other properties); what the population stack owes them is the FRAME: the
height changes by exactly the documented push/pop effect and every other population stays where and what it was —
whatever the size of the populations involved (empty, singleton, larger).
Property theorems only; the lemmas they rest on (`cFrame_cases`, the kit for `r ++ [p]`) are in `Proofs/C04.lean`.
-/
import MahfModel.Proofs.C04
import MahfModel.Props.C04Data
namespace MahfModel.Props.C04Comp
open MahfModel.PopStack

/-- `PopulationEvaluator` (any identifier) on ANY current population — empty, singleton or larger: the height is
what it was, it never fails, every population below the top is read exactly as before, and the top is the same
individuals in the same order, evaluated.  On an empty stack it does nothing. -/
theorem evaluator_keeps_the_stack (s : Stk) :
    (step s .cEval).1.length = s.length ∧ (step s .cEval).2 = .ok ∧
    (∀ d, tryPeek (step s .cEval).1 (d + 1) = tryPeek s (d + 1)) ∧
    tryPeek (step s .cEval).1 0 = (tryPeek s 0).map (fun p => p.map evalInd) := by
  cases s using concat_cases with
  | nil => exact ⟨rfl, rfl, fun _ => rfl, rfl⟩
  | concat r p =>
    dsimp only [step]
    simp only [vecPop_concat, List.length_append, List.length_singleton, tryPeek_eq, abs_concat,
      List.getElem?_cons_succ, List.getElem?_cons_zero, implies_true, Option.map_some, and_self]

/-- The evaluator changes nothing but the cached objective values: tags and order of the top are untouched, an empty
population stays an empty population on the stack. -/
theorem evaluator_keeps_individuals (r : Stk) (p : Pop) :
    (step (r ++ [p]) .cEval).1 = r ++ [p.map evalInd] ∧ (p.map evalInd).map (·.tag) = p.map (·.tag) ∧
    (step (r ++ [[]]) .cEval).1 = r ++ [[]] := by
  dsimp only [step]
  simp [vecPop_concat, evalInd]

/-- The frame of every pop-process-push component (needs `need` populations, takes `takes` off, puts `puts` back),
for every stack and every witness of what the real run did:
* the populations below the top `takes` are untouched, whatever happens;
* if it succeeds, the stack was high enough, the height is `len - takes + puts`, and the stack is the untouched part
  with the populations it put back on top;
* if it fails (panic or `Err`), the stack is a prefix of what it was, no shorter than the untouched part (it had taken
  some of its operands off — nothing promises how many), and the reported height is the real one;
* there is no other outcome, and on too low a stack it can only panic. -/
theorem component_frame (s : Stk) (need takes puts : Nat) (w : Option FrameWit) :
    (step s (.cFrame need takes puts w)).1.take (s.length - takes) = s.take (s.length - takes) ∧
    (∀ new, (step s (.cFrame need takes puts w)).2 = .put new →
      need ≤ s.length ∧ takes ≤ s.length ∧ new.length = puts ∧
      (step s (.cFrame need takes puts w)).1 = s.take (s.length - takes) ++ new.reverse ∧
      (step s (.cFrame need takes puts w)).1.length = s.length - takes + puts) ∧
    (∀ h, ((step s (.cFrame need takes puts w)).2 = .panicH h ∨ (step s (.cFrame need takes puts w)).2 = .errH h) →
      (step s (.cFrame need takes puts w)).1 = s.take h ∧ s.length - takes ≤ h ∧ h ≤ s.length) ∧
    ((∃ new, (step s (.cFrame need takes puts w)).2 = .put new) ∨
      (∃ h, (step s (.cFrame need takes puts w)).2 = .panicH h) ∨
      (∃ h, (step s (.cFrame need takes puts w)).2 = .errH h)) ∧
    (s.length < need → ∃ h, (step s (.cFrame need takes puts w)).2 = .panicH h) := by
  have hk : ∀ h x, s.length - takes ≤ h → h ≤ s.length →
      (s.take h ++ x).take (s.length - takes) = s.take (s.length - takes) := fun h x h1 h2 => by
    rw [List.take_append_of_le_length (by rw [List.length_take]; omega), List.take_take, Nat.min_eq_left h1]
  refine cFrame_cases s need takes puts w ?_ ?_ ?_
  · intro new hn ht hl
    refine ⟨hk _ _ (Nat.le_refl _) (Nat.sub_le _ _), ?_, by simp, .inl ⟨_, rfl⟩,
      fun hlt => absurd hn (Nat.not_le.mpr hlt)⟩
    intro n hn'
    cases hn'
    exact ⟨hn, ht, hl, rfl, by simp [hl]⟩
  · intro h h1 h2
    refine ⟨List.append_nil (s.take h) ▸ hk h [] h1 h2, nofun, ?_, .inr (.inl ⟨_, rfl⟩), fun _ => ⟨_, rfl⟩⟩
    intro h' ho
    rcases ho with ho | ho <;> cases ho
    exact ⟨rfl, h1, h2⟩
  · intro h hn h1 h2
    refine ⟨List.append_nil (s.take h) ▸ hk h [] h1 h2, nofun, ?_, .inr (.inr ⟨_, rfl⟩),
      fun hlt => absurd hn (Nat.not_le.mpr hlt)⟩
    intro h' ho
    rcases ho with ho | ho <;> cases ho
    exact ⟨rfl, h1, h2⟩

/-- Read through the accessors: after a successful pop-process-push component the populations it put back are read at
depths `0 .. puts-1`, and depth `puts + d` answers what depth `takes + d` answered before — for every `d`, also
beyond the height (`None`). -/
theorem component_frame_reads (s : Stk) (need takes puts : Nat) (w : Option FrameWit) (new : List Pop) (d : Nat)
    (h : (step s (.cFrame need takes puts w)).2 = .put new) :
    tryPeek (step s (.cFrame need takes puts w)).1 (puts + d) = tryPeek s (takes + d) ∧
    (d < puts → tryPeek (step s (.cFrame need takes puts w)).1 d = new[d]?) := by
  revert h
  refine cFrame_cases s need takes puts w (fun new' _ ht hl h => ?_) (fun _ _ _ => nofun) (fun _ _ _ _ => nofun)
  cases h
  rw [tryPeek_eq, tryPeek_eq, tryPeek_eq, abs_take_append, List.reverse_reverse, Nat.sub_sub_self ht]
  subst hl
  exact ⟨by rw [List.getElem?_append_right (Nat.le_add_right _ _), Nat.add_sub_cancel_left, List.getElem?_drop],
    fun hd => List.getElem?_append_left hd⟩

/-! Non-vacuity. -/
def st3 : Stk := [[C04.ev 1, C04.ev 2], [], [C04.ev 3]]
/-- evaluating an EMPTY current population keeps the height -/
example : (step [[C04.ev 1], []] .cEval).1 = [[C04.ev 1], []] := by decide +kernel
example : (step [[C04.ev 1], [⟨5, none⟩, ⟨6, some 2⟩]] .cEval).1 = [[C04.ev 1], [C04.ev 5, C04.ev 6]] := by decide +kernel
/-- a replacement (2 → 1) that answers with an empty population; a selection (0 → 1) from an empty population -/
example : step st3 (.cFrame 2 2 1 (some (.ok [[]]))) = ([[C04.ev 1, C04.ev 2], []], .put [[]]) := by decide +kernel
example : step [[C04.ev 1], []] (.cFrame 1 0 1 (some (.ok [[]]))) = ([[C04.ev 1], [], []], .put [[]]) := by decide +kernel
example : (step st3 (.cFrame 2 2 1 (some (.fail false 1)))) = ([[C04.ev 1, C04.ev 2]], .errH 1) := by decide +kernel
example : (step [[C04.ev 1]] (.cFrame 2 2 1 none)).2 = .panicH 1 := by decide +kernel

end MahfModel.Props.C04Comp
