/-
C04 — the population stack stays a faithful stack across FAILING steps: programs with (nested) scopes,
steps that return `Err` (before, after or without touching the stack), callers that carry on with the same `State`.
The lemmas the theorems rest on are in `Proofs/C04Scope.lean` (chain model against plain stack), `Proofs/C04Trace.lean` (the plain-stack
semantics by itself) and `Proofs/C04.lean`.
-/
import MahfModel.Proofs.C04Scope
import MahfModel.Proofs.C04Trace
import MahfModel.Props.C04Data
namespace MahfModel.Props.C04Scope
open MahfModel.PopStack

/-- Refinement for whole programs.  On every registry chain in which `Populations` is found (in the current
registry or in any enclosing one), every program — stack operations, utility components, steps that fail,
callers that look at a result and carry on, scopes of every kind nested to any depth — leaves the chain as it
was with only the stack replaced, and the stack, every output and the overall result are those of the same
program on a plain stack, where a scope is transparent. -/
theorem scoped_program_refines (c : Chain) (s : Stk) (is : Items) (h : find c = some s) :
    ∃ s', (execItems c is).1 = put c s' ∧ abs s' = (specItems (abs s) is).1 ∧
      (execItems c is).2.1 = (specItems (abs s) is).2.1 ∧ (execItems c is).2.2 = (specItems (abs s) is).2.2 := by
  rw [execItems_refines is c s h]
  exact ⟨_, rfl, abs_abs _, rfl, rfl⟩

/-- The clause for error paths.  Whatever a scope's body does and however it ends — `Ok`, an `Err` from a step
in the body (at any nesting depth), a failing `state_init`, a failing `states_merge` — the caller gets back the
registry chain it had (same registries, `with_inner_state` never panics), the stack is found in it and is
what the executed part of the body made of it on a plain stack, and every later operation on the same `State`
answers as the plain stack does. -/
theorem state_survives_failing_scope (c : Chain) (s : Stk) (k : Kind) (body : Items) (h : find c = some s) :
    (execItem c (.scope k body)).1.length = c.length ∧
    (execItem c (.scope k body)).2.1.head? ≠ some SOut.sPanic ∧
    ∃ s', find (execItem c (.scope k body)).1 = some s' ∧ abs s' = (specItem (abs s) (.scope k body)).1 ∧
      ∀ op, (stepC (execItem c (.scope k body)).1 op).2 = (specStep (abs s') op).2 := by
  rw [execItem_refines _ c s h]
  have hf := find_put c s (abs (specItem (abs s) (.scope k body)).1) h
  exact ⟨put_length c _, fun h => result_ne_sPanic _ (Option.some.inj h), _, hf, abs_abs _,
    fun op => by rw [stepC_refines _ _ op hf]⟩

/-- Scopes and failing steps decide only WHICH operations are executed, never what the stack holds: every
program amounts to a plain history `tr` — a subsequence, in program order, of the operations it contains — and the
final stack and everything the executed operations returned are those of that history on a plain stack. -/
theorem failing_steps_only_cut_the_history (s : Spec) (is : Items) :
    ∃ tr, tr.Sublist is.ops ∧ (specItems s is).1 = (specRun s tr).1 ∧
      opOuts (specItems s is).2.1 = (specRun s tr).2 :=
  specItems_trace is s

/-- The first failing step ends the body: the stack is what the steps before it and the failing step itself
left (a step may fail after it has changed the stack), the steps behind it are never executed. -/
theorem abort_at_first_error (s : Spec) (a r : Items) (f : Item)
    (ha : (specItems s a).2.2 = true) (hf : (specItem (specItems s a).1 f).2.2 = false) :
    specItems s (a.append (.cons f r)) =
      ((specItem (specItems s a).1 f).1,
       (specItems s a).2.1 ++ (specItem (specItems s a).1 f).2.1 ++ r.skips, false) := by
  cases a with
  | nil => simp [specItems] at hf; simp [Items.append, specItems, hf]
  | cons i is =>
    by_cases hi : (specItem s i).2.2 = true
    · simp only [specItems, hi, if_true] at ha hf
      simp only [Items.append, specItems, hi, if_true]
      rw [abort_at_first_error (specItem s i).1 is r f ha hf]
      simp
    · simp [specItems, hi] at ha

/-- The kinds of failure outside the body: a failing `state_init` leaves the registry chain and the stack exactly
as they were and executes nothing; a failing `states_merge` reports `Err` with the stack the body produced. -/
theorem scope_hook_failures (c : Chain) (s : Stk) (body : Items) (h : find c = some s) :
    execItem c (.scope .initFail body) = (c, SOut.sErr :: body.skips, false) ∧
    (execItem c (.scope .mergeFail body)).2.2 = false ∧
    (execItem c (.scope .mergeFail body)).1 = (execItem c (.scope .comp body)).1 := by
  rw [execItem_refines _ c s h, execItem_refines _ c s h, execItem_refines _ c s h]
  exact ⟨by rw [← put_find c s h, put_put]; exact congrArg (put c · , _) (abs_abs s), Bool.and_false _, rfl⟩

/-- Conservative over the plain histories of `Props/C04`: a program without scopes and failing steps, run by a
caller that carries on after every result, is `run`. -/
theorem top_level_history_is_run (s : Stk) (ops : List Op) :
    find (execItems [some s] (Items.ofOps ops).tryAll).1 = some (run s ops).1 ∧
    (execItems [some s] (Items.ofOps ops).tryAll).2.1 = (run s ops).2.map SOut.out := by
  rw [execItems_refines _ [some s] s rfl, specItems_tryAll_ofOps, run_refines]
  exact ⟨rfl, rfl⟩

/-- `State::holding::<Populations>` at any scope depth.  Whichever registry of the chain owns the stack (the current one
or any enclosing one), editing the stack while it is held — any history of stack operations, closure returning `Ok` or
`Err` — leaves every registry where it was, puts the edited stack back into the registry that owned it, and the edited
stack, every return value and the result are those of the same history on a plain stack. -/
theorem holding_returns_the_stack_to_its_owner (c : Chain) (s : Stk) (ok : Bool) (ops : List Op)
    (h : find c = some s) :
    (execItem c (.hold ok ops)).1 = put c (run s ops).1 ∧
    (execItem c (.hold ok ops)).1.length = c.length ∧
    find (execItem c (.hold ok ops)).1 = some (run s ops).1 ∧
    abs (run s ops).1 = (specRun (abs s) ops).1 ∧
    opOuts (execItem c (.hold ok ops)).2.1 = (specRun (abs s) ops).2 ∧
    (execItem c (.hold ok ops)).2.2 = ok := by
  rw [execItem_refines _ c s h, run_refines, abs_abs]
  exact ⟨rfl, put_length c _, find_put c s _ h, rfl, (opOuts_result _ _).trans (opOuts_map_out _), rfl⟩

/-- … in particular from inside scopes: after a scope (of any kind that runs its body, at any depth below the owner of
the stack) whose body held the stack and edited it, the caller finds the edited stack where it was, and every later
operation of the caller answers as the plain stack does. -/
theorem holding_inside_a_scope_keeps_the_callers_stack (c : Chain) (s : Stk) (k : Kind) (ok : Bool) (ops : List Op)
    (rest : Items) (h : find c = some s) (hk : k.runsBody = true) :
    (execItem c (.scope k (.cons (.hold ok ops) rest))).1.length = c.length ∧
    ∃ s', find (execItem c (.scope k (.cons (.hold ok ops) rest))).1 = some s' ∧
      abs s' = (specItems (specRun (abs s) ops).1 (if ok then rest else .nil)).1 ∧
      ∀ op, (stepC (execItem c (.scope k (.cons (.hold ok ops) rest))).1 op).2 = (specStep (abs s') op).2 := by
  obtain ⟨h1, _, s', h3, h4, h5⟩ := state_survives_failing_scope c s k (.cons (.hold ok ops) rest) h
  refine ⟨h1, s', h3, ?_, h5⟩
  rw [h4]
  cases ok <;> dsimp only [specItem, specItems] <;> rw [hk] <;> rfl

/-! Non-vacuity: concrete programs with failing steps at depth 1..3. -/
def p1 : Pop := [C04.ev 1, C04.ev 2]
def p2 : Pop := [C04.ev 3]
/-- push, then a scope whose body pushes, rotates and fails in a nested scope; the caller reads afterwards. -/
def prog : Items :=
  .cons (.op (.push p1))
  (.cons (.try_ (.scope .comp
      (.cons (.op (.push p2))
      (.cons (.scope .closure (.cons (.op (.rot 2)) (.cons (.op (.cRot 5)) (.cons (.op .pop) .nil))))
      (.cons (.op .pop) .nil)))))
  (.cons (.op (.peek 0)) .nil))
example : find [none, some [], none] = some [] := by decide +kernel
example : (specItems [] prog).1 = [p1, p2] := by decide +kernel
example : (specItems [] prog).2.1 =
    [.out .ok, .sErr, .out .ok, .sErr, .out .ok, .out .err, .skip, .skip, .out (.pop p1)] := by decide +kernel
example : (execItems [none, some [], none] prog).1 = [none, some [p2, p1], none] := by decide +kernel
example : (specItems [] (.cons (.op (.push p1)) .nil)).2.2 = true ∧
    (specItem [p1] (.failing (.push p2))).2.2 = false := by decide +kernel
example : (specItem [p1] (.scope .mergeFail (.cons (.op (.push p2)) .nil))) = ([p2, p1], [.sErr, .out .ok], false) := by
  decide +kernel
/-- the stack is owned two registries up; held, edited and read inside two scopes -/
example : find [none, none, some [p1]] = some [p1] ∧ Kind.comp.runsBody = true := by decide +kernel
example : (execItem [none, some [p1]] (.scope .comp (.cons (.hold true [.push p2, .rot 2, .edit (.push (C04.ev 9))])
    (.cons (.op .len) .nil)))).1 = [none, some [p2, p1 ++ [C04.ev 9]]] := by decide +kernel
example : (execItem [none, some [p1]] (.hold false [.pop, .tryPeek 0])) =
    ([none, some []], [.sErr, .out (.pop p1), .out .none], false) := by decide +kernel

end MahfModel.Props.C04Scope
