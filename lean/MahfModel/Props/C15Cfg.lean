/-
C15 — Experiment records are exact: the configuration export. Property theorems only; helper lemmas are in
`Proofs/C15Ser.lean` (tree serialisation), `Proofs/C15Cfg.lean` (type names, the pair predicate) and
`Proofs/C15CfgWitness.lean` (the named configurations of the counterexamples).
-/
import MahfModel.Proofs.C15Cfg
import MahfModel.Proofs.C15CfgWitness
namespace MahfModel.Props.C15
open MahfModel.Log

section Config
variable {A B A' B' : Type}

/-- The tree serialisation is injective given injective leaf encodings: configurations that differ
in a node, in a parameter value or in nesting serialise differently. -/
theorem ser_injective (ea : A → A') (eb : B → B') (ha : ∀ x y, ea x = ea y → x = y)
    (hb : ∀ x y, eb x = eb y → x = y) (t t' : CTree A B) (h : ser ea eb t = ser ea eb t') : t = t' :=
  ser_inj ea eb ha hb h

/-- A structural clone serialises identically. On the model this holds by construction (`cloneT` copies node
by node, `cloneT_id`); what it says about `dyn_clone` is the tie's to check. -/
theorem clone_serialises_equal (ea : A → A') (eb : B → B') (t : CTree A B) :
    ser ea eb (cloneT t) = ser ea eb t := by rw [cloneT_id]

/-- Every node of the tree is named in the serialisation. -/
theorem ser_names_every_node (ea : A → A') (eb : B → B') (t : CTree A B) (a : A) (h : a ∈ nodeNames t) :
    Tok.opn (ea a) ∈ ser ea eb t := names_in_ser ea eb t a h

end Config

section ConfigNames

/-- `std::any::type_name` is injective on types: two type names (path + generic arguments, nested to
any depth) that render to the same string are the same type. This is the hypothesis `ser_injective`
needs for the leaves written by `SerializablePhantom<T>` (IdLens / ValueOf / NormalizedDiversityLens)
and `PhantomId<I>`. -/
theorem type_name_injective (t t' : Ty) (h : t.render = t'.render) : t = t' :=
  Ty.render_injective t t' h

/-- With the full type name in every leaf the serialisation is injective: configurations that differ
in a node, in nesting, in a parameter value or ONLY in a type parameter of a lens target / identifier
(at any depth of the generic arguments) serialise differently. No side conditions. -/
theorem ser_full_injective (a b : CTree String Param) (h : serFull a = serFull b) : a = b :=
  serFull_injective a b h

/-- What the code writes determines the configuration up to the type parameters it holds as plain
`PhantomData` … -/
theorem ser_code_up_to_phantom (a b : CTree String Param) (h : serCode a = serCode b) :
    erasePh a = erasePh b :=
  ser_full_injective _ _ h

/-- … so (`_partial`: trees with a `PhantomData<I>`-held type parameter are excluded, see
`phantom_identifier_violates`) the code's serialisation is injective on all other trees. -/
theorem ser_code_injective_partial (a b : CTree String Param) (ha : noPh a = true) (hb : noPh b = true)
    (h : serCode a = serCode b) : a = b :=
  serCode_injective ha hb h

/-- On those trees the code-shaped prediction of a pair case satisfies the property's predicate. -/
theorem pair_model_holds_partial (jr : Bool) (a b : CTree String Param) (ha : noPh a = true) (hb : noPh b = true) :
    pairHolds a b (pairModel jr a b) = true :=
  (pairHolds_pairModel jr a b).2 (ser_code_injective_partial a b ha hb)

/-- The full statement (every tree) — it does NOT hold. -/
def ser_code_injective_full : Prop := ∀ a b : CTree String Param, serCode a = serCode b → a = b

/-- Counterexample (known finding `cfg-typair-phantom`, the recorded witness): inside
`while LessThanN::iterations(100) { … }`, `NormalMutation::<Global>` and `NormalMutation::<A>` (which read
different `MutationRate<…>` / `MutationStrength<…>` states) export identically, because the identifier
is a plain `PhantomData<I>` field. -/
theorem phantom_identifier_violates :
    pairHolds (inLoop100 (normalMutationOf tyIdGlobal)) (inLoop100 (normalMutationOf tyIdA))
      (pairModel true (inLoop100 (normalMutationOf tyIdGlobal)) (inLoop100 (normalMutationOf tyIdA))) = false :=
  pairHolds_pairModel_of_collision true (serCode_forgets_identifier _ _).2
    fun h => tyIdGlobal_ne_tyIdA (normalMutationOf_inj.1 (inLoop100_inj.1 h))

theorem ser_code_injective_full_fails : ¬ ser_code_injective_full :=
  fun h => tyIdA_ne_tyIdB
    (normalMutationOf_inj.1 (h (normalMutationOf tyIdA) (normalMutationOf tyIdB) (serCode_forgets_identifier _ _).1))

end ConfigNames

/-! Non-vacuity: concrete, non-trivial instances of the hypotheses. -/
example : pairHolds (normalMutationOf tyIdA) (normalMutationOf tyIdB)
    (pairModel true (normalMutationOf tyIdA) (normalMutationOf tyIdB)) = false :=
  pairHolds_pairModel_of_collision true (serCode_forgets_identifier _ _).1 fun h => tyIdA_ne_tyIdB (normalMutationOf_inj.1 h)
example : noPh (linearOf tyIterations (tyNormalMutation .nil)) = true := by decide +kernel
-- pairs that differ ONLY in a generic argument of a lens target are told apart by the full names …
example : sameConfig (linearOf tyIterations (tyNormalMutation .nil)) (linearOf tyIterations (tyUniformMutation .nil)) = false := by
  simp [sameConfig_eq_false_iff, linearOf_inj, tyNormalMutation, tyUniformMutation, segOf_inj]
example : sameConfig (linearOf tyIterations (tyNormalMutation (.cons tyIdA .nil))) (linearOf tyIterations (tyNormalMutation (.cons tyIdB .nil))) = false := by
  simp [sameConfig_eq_false_iff, linearOf_inj, tyNormalMutation, tyIdA_ne_tyIdB]
example : sameConfig (linearOf tyIterations (tyNormalMutation .nil)) (linearOf tyEvaluations (tyNormalMutation .nil)) = false := by
  simp [sameConfig_eq_false_iff, linearOf_inj, tyIterations, tyEvaluations, segOf_inj]
example : pairHolds (linearOf tyIterations (tyNormalMutation .nil)) (linearOf tyEvaluations (tyNormalMutation .nil))
    (pairModel true (linearOf tyIterations (tyNormalMutation .nil)) (linearOf tyEvaluations (tyNormalMutation .nil))) = true :=
  pair_model_holds_partial true _ _ (by decide +kernel) (by decide +kernel)
-- … but not by names cut at the first `<` and stripped of their path (the shortened export is not injective)
example : (tyMutationRate (tyNormalMutation .nil)).base = (tyMutationRate (tyUniformMutation .nil)).base
    ∧ tyMutationRate (tyNormalMutation .nil) ≠ tyMutationRate (tyUniformMutation .nil) :=
  ⟨by simp only [tyMutationRate, Ty.base],
   by simp [tyMutationRate, tyNormalMutation, tyUniformMutation, segOf_inj]⟩
example : String.ofList (tyProgress (tyValueOf tyIterations)).render
    = "mahf::state::common::Progress<mahf::lens::common::ValueOf<mahf::state::common::Iterations>>" := by
  simp only [tyProgress, tyValueOf, tyIterations, Ty.render, Tys.renderRest, segLit, segOf]
  rw [toList_of_eq_ofList (s := "mahf::state::common::Progress") rfl,
    toList_of_eq_ofList (s := "mahf::lens::common::ValueOf") rfl,
    toList_of_eq_ofList (s := "mahf::state::common::Iterations") rfl]
  rfl

end MahfModel.Props.C15
