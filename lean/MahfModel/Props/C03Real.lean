/-
C03 — structured-program semantics with the SHIPPED conditions as loop / branch conditions, and the
error clause ("the first error … is returned, with every scope that was open closed again and nothing
else removed from the caller's state") for leaves that work inside `State::holding` closures.
Property theorems; the lemmas they rest on are in the modules `Proofs/C03Real*.lean` (which rest on `Proofs/C03Stable.lean`).

`rrun / rinitC / rreqC / rexec` is the method-by-method model of `Configuration::run`, `Block`, `Loop`,
`Branch`, `Scope`, `State::with_inner_state`, of `LessThanN` (`iterations` / `evaluations`), `EveryN`,
`RandomChance` (p ∈ {0, 1}), `And`/`Or`/`Not`, of `State::holding`, the harness's `HoldLeaf` and the real
`Logger` (Model/ConfigReal.lean). `s` is the script (values of scripted conditions, fault injections),
`trg` the triggers of the caller's `LogConfig`, `fuel` the bound on the passes of one loop execution,
`σ = (registry, trace)` the caller's state. The theorems are quantified over every tree, script, bound and state;
side conditions are stated per theorem.
-/
import MahfModel.Proofs.C03Real
namespace MahfModel.Props.C03Real
open MahfModel.Config MahfModel.ConfigReal

/-- Running a configuration over shipped conditions, holding leaves and loggers is running the
structured program `init ; require ; execute` over `atomic | seq | while | if | { scoped }` into which
the tree compiles node by node (a `HoldLeaf` / `Logger` call is one atomic statement "with `T` held
{ … }"; `LessThanN::init` is the atomic statement `Progress := 0`). As in `Props/C03.lean` this is a
change of presentation; the clauses are the theorems below. -/
theorem real_run_is_structured_program (s : Script) (trg : RConds) (fuel : Nat) (c : RComp) (σ : St) :
    rrun s trg fuel c σ = rsrun s trg fuel (rprog c) σ :=
  rrun_eq s trg fuel c σ

/-- `LessThanN::evaluate`, for every bound `n` — zero included: with the lens' source `lens = v` in the
state the answer is `v < n`, the trace is untouched and the only write is the forgiving
`set_value::<Progress<L>>` (whether or not a `Progress<L>` is there); the only error it can report is
the missing source. In particular a bound of 0 is `false`, never an error. -/
theorem lessThanN_evaluate (s : Script) (lens n : Nat) (σ : St) :
    (∀ v, σ.reg.get? lens = some v →
      rcondEval s (.ltN lens n) σ =
        ({ σ with reg := σ.reg.setv (progKey lens) (encP v n) }, .val (decide (v < n)))) ∧
    (σ.reg.get? lens = none → rcondEval s (.ltN lens n) σ = (σ, .missing)) ∧
    (n = 0 → ∀ v, σ.reg.get? lens = some v → (rcondEval s (.ltN lens n) σ).2 = .val false) := by
  refine ⟨fun v hv => by simp [rcondEval, ltEval, hv], fun hv => by simp [rcondEval, ltEval, hv], ?_⟩
  intro hn v hv
  subst hn
  simp [rcondEval, ltEval, hv]

/-- No error is invented: a condition built from shipped conditions only (`LessThanN` over
`Iterations` / `Evaluations` with ANY bound, `EveryN` with ANY `n` — 0 and 1 included —, `RandomChance`
0 / 1, `And` / `Or` of any arity — empty included —, `Not`) whose sources are in the state evaluates to
a value — the one it denotes, `c.den` —, leaves no event, keeps the depth and changes nothing but the
two `Progress` states. -/
theorem shipped_condition_never_fails (s : Script) (c : RCond) (σ : St)
    (hs : c.shipped = true) (hl : c.lensOk = true) (hsrc : c.sourcesIn σ.reg = true) :
    ∃ σ', rcondEval s c σ = (σ', .val (c.den σ.reg)) ∧ σ'.tr = σ.tr ∧
      σ'.reg.length = σ.reg.length ∧ ∀ k, k ≠ 5 → k ≠ 6 → σ'.reg.get? k = σ.reg.get? k := by
  obtain ⟨h1, h2, h3, h4⟩ := rcondEval_shipped s c σ hs hl hsrc
  exact ⟨(rcondEval s c σ).1, by rw [← h1], h2, h3, h4⟩

/-- The hypotheses hold for a composite over all four shipped conditions at their boundary parameters. -/
example : let c : RCond := .all (.cons (.ltN 0 0) (.cons (.any .nil) (.cons (.not (.everyN 0)) (.cons (.chance true) .nil))))
    c.shipped = true ∧ c.lensOk = true ∧ c.sourcesIn [[(0, 3), (9, 0)]] = true ∧ c.den [[(0, 3), (9, 0)]] = false := by
  decide +kernel

/-- A `while` whose test is false at once makes zero passes and the program goes on: for EVERY
condition (shipped, scripted, composite) — if the re-initialisation on entry succeeds and the first test
says `false`, the loop node ends `Ok` in the state that test left, and whatever follows it in the
enclosing block is executed from there. -/
theorem while_false_at_once_is_skipped (s : Script) (trg : RConds) (fuel : Nat) (c : RCond) (b : RComp)
    (rest : RComps) (σ σ0 σ1 : St) (hf : 0 < fuel)
    (hi : rcondPhase s .cinit c σ = (σ0, .ok)) (he : rcondEval s c σ0 = (σ1, .val false)) :
    rexec s trg fuel (.loop c b) σ = (σ1, .ok) ∧
    rexecs s trg fuel (.cons (.loop c b) rest) σ = rexecs s trg fuel rest σ1 := by
  have h := loop_skipped s trg fuel c b σ σ0 σ1 hf hi he
  exact ⟨h, by simp only [rexecs, h, andThen]⟩

/-- `while_(LessThanN::…(0), body)`: with the counted state in the caller's sight (`v` whatever it is)
the loop is skipped — `Ok`, no event, the body untouched; all that happens is that `Progress` is
(re-)inserted by `LessThanN::init` and set by the one test. Holds for both lenses the crate ships
constructors for (0 `Iterations`, 4 `Evaluations`). -/
theorem zero_bound_loop_is_skipped (s : Script) (trg : RConds) (fuel : Nat) (lens : Nat) (b : RComp)
    (σ : St) (v : Nat) (hl : lens = 0 ∨ lens = 4) (hf : 0 < fuel) (hv : σ.reg.get? lens = some v) :
    rexec s trg fuel (.loop (.ltN lens 0) b) σ =
      ({ σ with reg := (σ.reg.insert (progKey lens) (encP 0 1)).setv (progKey lens) (encP v 0) }, .ok) := by
  refine loop_skipped s trg fuel _ b σ { σ with reg := σ.reg.insert (progKey lens) (encP 0 1) } _ hf
    (by simp [rcondPhase]) ?_
  have := (Reg.get_insert_ne σ.reg _ (encP 0 1) lens (progKey_ne lens hl)).trans hv
  simp [rcondEval, ltEval, this]

-- hypothesis `hv` of `zero_bound_loop_is_skipped`
example : Reg.get? [[(0, 7)]] 0 = some 7 := by decide +kernel

/-- A counting loop counts: `while_(LessThanN::iterations(n), body)` entered with `Iterations = i` in
sight makes exactly `n - i` passes (`n - i + 1` tests; none at all for `n ≤ i`, so none for `n = 0`) and
ends `Ok` with `Iterations = max i n` — for every body that completes and leaves the counter it sees
alone (bodies whose own loops are inside scopes, leaves that do not write `Iterations`). -/
theorem counting_loop_passes (s : Script) (trg : RConds) (fuel n : Nat) (b : RComp) (σ : St) (i : Nat)
    (hb : ∀ σ, ∃ σ', rexec s trg fuel b σ = (σ', .ok) ∧ σ'.reg.get? 0 = σ.reg.get? 0)
    (hi : σ.reg.get? 0 = some i) (hf : n - i < fuel) :
    ∃ σ0 σ', rcondPhase s .cinit (.ltN 0 n) σ = (σ0, .ok) ∧
      rexec s trg fuel (.loop (.ltN 0 n) b) σ = (σ', .ok) ∧
      RPasses (rcondEval s (.ltN 0 n)) (fun σ => andThen (rexec s trg fuel b σ) bump) (n - i) σ0 σ' ∧
      σ'.reg.get? 0 = some (max i n) := by
  obtain ⟨σ', hl, hp, hg⟩ := counting_loop s n (rexec s trg fuel b) hb fuel
    { σ with reg := σ.reg.insert (progKey 0) (encP 0 1) } i
    ((Reg.get_insert_ne σ.reg _ _ 0 (progKey_ne 0 (Or.inl rfl))).trans hi) hf
  refine ⟨_, σ', by simp [rcondPhase], ?_, hp, hg⟩
  simp only [rexec, rcondPhase, if_true, andThen]
  exact hl

/-- The body hypothesis of `counting_loop_passes` is satisfiable (by the empty block). -/
example (s : Script) (trg : RConds) (fuel : Nat) :
    ∀ σ, ∃ σ', rexec s trg fuel (.block .nil) σ = (σ', .ok) ∧ σ'.reg.get? 0 = σ.reg.get? 0 :=
  fun σ => ⟨σ, by simp [rexec, rexecs], rfl⟩

/-- A `HoldLeaf` (a leaf working inside `state.holding::<K>(…)`) found its `K = v` in the scope at level
`i`: whatever its closure does to the rest of the state and whether or not it fails, the closure's own
result is the result, the depth is kept, and `K` is back in the scope at level `i` — the one it was
taken from, not the innermost one — with the value the closure gave it. -/
theorem hold_leaf_restores_owner (s : Script) (trg : RConds) (fuel id k : Nat) (acts : List Act) (σ : St)
    (i v : Nat) (r1 : Reg) (ht : takeAt σ.reg k = some (i, v, r1)) :
    σ.reg.get? k = some v ∧
    (rexec s trg fuel (.hold id k acts) σ).2 =
      (if s.faulty (.exec, id) (σ.tr.count (.exec, id)) then .err .exec id else .ok) ∧
    (rexec s trg fuel (.hold id k acts) σ).1.tr = (.exec, id) :: σ.tr ∧
    (rexec s trg fuel (.hold id k acts) σ).1.reg.length = σ.reg.length ∧
    ∃ m, (rexec s trg fuel (.hold id k acts) σ).1.reg[i]? = some m ∧ m.get? k = some (v + 1) := by
  obtain ⟨hl1, hi⟩ := takeAt_length σ.reg k i v r1 ht
  have hlen : (applyActs .exec acts r1).length = σ.reg.length := (length_applyActs _ _ _).trans hl1
  rw [rexec_hold s trg fuel id k acts σ ht]
  exact ⟨takeAt_get σ.reg k i v r1 ht, rfl, rfl, (putAt_length _ _ _ _).trans hlen,
    putAt_get k (v + 1) _ i (hlen ▸ hi)⟩

/-- Without a `K` in sight `holding` reports the `StateError` and neither runs the closure nor touches
anything. -/
theorem hold_leaf_missing (s : Script) (trg : RConds) (fuel id k : Nat) (acts : List Act) (σ : St)
    (h : σ.reg.get? k = none) : rexec s trg fuel (.hold id k acts) σ = (σ, .counter) := by
  cases ht : takeAt σ.reg k with
  | none => simp [rexec, holding, ht]
  | some x =>
    obtain ⟨i, v, r1⟩ := x
    rw [takeAt_get σ.reg k i v r1 ht] at h
    cases h

/-- `K2` owned two levels below the innermost scope is found there. -/
example : takeAt [[(1, 5)], [], [(2, 200), (1, 100)]] 2 = some (2, 200, [[(1, 5)], [], [(1, 100)]]) := by decide +kernel

/-- Every scope that was open is closed again, on every outcome (errors of leaves, of scripted and
shipped conditions, of closures inside `holding`, missing states, exhausted bound). -/
theorem real_scope_discipline (s : Script) (trg : RConds) (fuel : Nat) (c : RComp) (σ : St) :
    (rrun s trg fuel c σ).1.reg.length = σ.reg.length ∧
    (rexec s trg fuel c σ).1.reg.length = σ.reg.length := by
  rw [rrun_eq, rexec_eq]
  exact ⟨rsrun_depth s trg fuel _ σ, rsrun_depth s trg fuel _ σ⟩

/-- Nothing else is removed from the caller's state, scope by scope: every scope of the caller's state
(also a lower one whose entry is shadowed) that holds a `k` before the run holds a `k` after it, if no
leaf `remove`s `k` — whatever the shipped conditions write, whichever states `HoldLeaf`s and `Logger`s
take out and put back (`k` itself included: the `LogConfig` for `k = 7`), at whatever scope depth a
closure inside `holding` fails, and however the run ends. -/
theorem caller_scopes_kept_real (s : Script) (trg : RConds) (fuel : Nat) (c : RComp) (k : Nat)
    (hc : c.sat (Act.keeps k) (fun _ => true) = true) (σ : St) (i : Nat) (m : Scope)
    (hi : σ.reg[i]? = some m) (h : m.has k = true) :
    ∃ m', (rrun s trg fuel c σ).1.reg[i]? = some m' ∧ m'.has k = true :=
  have hm : MonoS k σ (rrun s trg fuel c σ).1 := by
    rw [rrun_eq]; exact rsrun_pres (rinv_mono k s trg) fuel (rprog c) (rprog_all _ _ c hc) σ
  hasAt_kept hm.1 (hm.2 _ (hasAt_self k σ.reg)) hi h

/-! ### Evaluated instances (the two shapes the seeded defects C03-sub4-p1 / p3 break) -/

/-- `{ leaf1 ; while Iterations < 0 { leaf2 } ; leaf3 }` on an empty caller state. -/
def exZero : RComp :=
  .block (.cons (.leaf 1 []) (.cons (.loop (.ltN 0 0) (.leaf 2 [])) (.cons (.leaf 3 []) .nil)))

/-- `{ scope { local K2 ; scope { hold K1 } } ; leaf3 }`. -/
def exHold : RComp :=
  .block (.cons (.scope (.block (.cons (.leaf 11 [.ins .init 2 7])
    (.cons (.scope (.hold 5 1 [.set .exec 3 9])) .nil)))) (.cons (.leaf 3 []) .nil))

def noScript : Script := { conds := [], fails := [] }
def failHold : Script := { conds := [], fails := [(.exec, 5, 0)] }

/-- The zero-bound loop is skipped and `leaf3` runs; the result is `Ok`. -/
example : (rrun noScript .nil 5 exZero { reg := [[]], tr := [] }).2 = .ok ∧
    (rrun noScript .nil 5 exZero { reg := [[]], tr := [] }).1.trace =
      [(.init, 1), (.init, 2), (.init, 3), (.req, 1), (.req, 2), (.req, 3), (.exec, 1), (.exec, 3)] := by
  decide +kernel

/-- The `HoldLeaf` fails two scopes deep: its error is returned, `leaf3` does not run, both scopes are
closed, the scope-local `K2` is gone and the caller's `K1` (now 101) and `K3` are where they were. -/
example : (rrun failHold .nil 5 exHold { reg := [[(3, 300)], [(1, 100)]], tr := [] }).2 = .err .exec 5 ∧
    (rrun failHold .nil 5 exHold { reg := [[(3, 300)], [(1, 100)]], tr := [] }).1.reg = [[(3, 9)], [(1, 101)]] ∧
    (rrun failHold .nil 5 exHold { reg := [[(3, 300)], [(1, 100)]], tr := [] }).1.trace =
      [(.init, 3), (.req, 3), (.init, 11), (.req, 11), (.exec, 11), (.init, 5), (.req, 5), (.exec, 5)] := by
  decide +kernel

/-- The side condition of `caller_scopes_kept_real` holds for that tree and `K1`. -/
example : exHold.sat (Act.keeps 1) (fun _ => true) = true := by decide +kernel

end MahfModel.Props.C03Real
