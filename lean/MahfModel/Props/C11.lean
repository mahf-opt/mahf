/-
C11 — Selection copies members of the source population, in the requested number.
Property theorems only; the lemmas they rest on are in `Proofs/C11*.lean`.

`F`: carrier of objective values and weights (an ordered field: exact arithmetic); `O : Ops F`: the
non-field operations (`is_finite`, casts, `floor`, `powi`), arbitrary unless a hypothesis fixes them;
`w`: the witness standing for the random generator's draws.  `Legal op pop w` states what the
sampling primitives guarantee (indices in range / distinct / one list per round); the theorems hold
for every legal witness, hence for every seed.
-/
import MahfModel.Proofs.C11Err
import MahfModel.Proofs.C11SusRange
import MahfModel.Props.C11Range
namespace MahfModel.Props.C11
open MahfModel.Selection
set_option linter.unusedSectionVars false

variable {F : Type} [Field F] [LinearOrder F] [IsStrictOrderedRing F]

/-! ## Frame, membership, cardinality -/

/-- The source population (and everything below it) is untouched; exactly one population is pushed
when `select` succeeds, none when it fails. -/
theorem select_frame (O : Ops F) (op : Op F) (w : Witness F) (cur : Pop F) (rest : List (Pop F)) :
    (∃ sel, select O op w cur = .ok sel ∧ step O op w (cur :: rest) = (sel :: cur :: rest, .ok)) ∨
    (select O op w cur = .error .exec ∧ step O op w (cur :: rest) = (cur :: rest, .err)) ∨
    (select O op w cur = .error .panic ∧ step O op w (cur :: rest) = (cur :: rest, .panic)) := by
  simp only [step]
  cases select O op w cur with
  | ok r => exact .inl ⟨r, rfl, rfl⟩
  | error e =>
    cases e
    · exact .inr (.inl ⟨rfl, rfl⟩)
    · exact .inr (.inr ⟨rfl, rfl⟩)

/-- Every selected individual is an exact copy (tag and objective) of a member of the source
population — for every operator and every witness whatsoever. -/
theorem select_members (O : Ops F) (op : Op F) (w : Witness F) (pop sel : Pop F)
    (h : select O op w pop = .ok sel) : ∀ x ∈ sel, x ∈ pop :=
  select_mem O op w pop sel h

-- `hop` follows from `hl`: an index list is a legal witness of the index samplers only
set_option linter.unusedVariables false in
/-- For the index-sampling operators the `k`-th output is the source member at the `k`-th witness index. -/
theorem select_members_at_witness (O : Ops F) (op : Op F) (is : List Nat) (pop sel : Pop F)
    (hop : match op with
      | .fullyRandom _ | .randomWithoutRepetition _ | .rouletteWheel _ _ | .linearRank _
      | .exponentialRank _ _ => True
      | _ => False)
    (hl : Legal op pop (.idx is)) (h : select O op (.idx is) pop = .ok sel) :
    ∀ k : Nat, sel[k]? = is[k]?.bind (pop[·]?) := by
  obtain ⟨h1, h2, _⟩ := select_idx_eq_pick O op is pop sel hl h
  rw [h1]; exact pick_getElem? pop is h2

/-- Exactly the requested number is returned (everything / nothing / `n`).  Excluded here and
treated below: SUS (`sus_count`), the DE family (`de_count`), IWO (`iwo_count`). -/
theorem select_count (O : Ops F) (op : Op F) (w : Witness F) (pop sel : Pop F)
    (hop : match op with
      | .sus _ _ | .deRand _ | .deBest _ | .deCurrentToBest _ | .iwo _ _ => False
      | _ => True)
    (hl : Legal op pop w) (h : select O op w pop = .ok sel) : some sel.length = requested op pop := by
  cases op <;> try exact hop.elim
  case all => cases h; rfl
  case none => cases h; rfl
  case cloneSingle n =>
    rw [select_clone] at h
    split at h
    · cases h; exact congrArg some List.length_replicate
    · cases h
  case tournament n size =>
    cases w <;> try exact hl.elim
    case sets ss =>
      rw [select_tournament] at h
      split_ifs at h
      rw [← (tournamentRounds_spec h).length_eq, hl.1]; rfl
  all_goals
    cases w <;> try exact hl.elim
    obtain ⟨h1, h2, h3⟩ := select_idx_eq_pick O _ _ pop sel hl h
    rw [h1, pick_length pop _ h2, h3]

/-- `RandomWithoutRepetition`: the `n` selected individuals sit at pairwise distinct positions of
the source population (so they are distinct members; distinct individuals if the source has no duplicates). -/
theorem without_repetition_distinct (O : Ops F) (n : Nat) (is : List Nat) (pop sel : Pop F)
    (hl : Legal (.randomWithoutRepetition n) pop (.idx is))
    (h : select O (.randomWithoutRepetition n) (.idx is) pop = .ok sel) :
    is.Nodup ∧ inRange pop.length is ∧ sel = pick pop is ∧ (pop.Nodup → sel.Nodup) := by
  obtain ⟨h1, h2, _⟩ := select_idx_eq_pick O _ is pop sel hl h
  exact ⟨hl.2.1, h2, h1, fun hp => h1 ▸ pick_nodup pop is hp hl.2.1 h2⟩

/-- `DERand`: the block of every member consists of the source members at `2y+1` pairwise distinct
positions ("`y * 2 + 1` random unique individuals for every individual"). -/
theorem de_rand_blocks (O : Ops F) (y : Nat) (ss : List (List Nat)) (pop sel : Pop F)
    (hl : Legal (.deRand y) pop (.sets ss)) (h : select O (.deRand y) (.sets ss) pop = .ok sel) :
    sel = (ss.map fun s => pick pop s).flatten ∧ ss.length = pop.length ∧
    ∀ s ∈ ss, s.length = 2 * y + 1 ∧ s.Nodup ∧ inRange pop.length s := by
  rw [select_deRand] at h
  split_ifs at h with hlt
  cases h
  refine ⟨by rw [List.flatMap_def], hl.1, fun s hs => ?_⟩
  obtain ⟨h1, h2, h3⟩ := hl.2 s hs
  exact ⟨by rw [h1]; omega, h2, h3⟩

/-- `DEBest`: every block is `[best, 2y members at pairwise distinct positions]`, where `best` is a source
member whose objective is minimal — for EVERY legal choice among equally good members (the witness
position `bi`), not only the code's first minimum. -/
theorem de_best_blocks (O : Ops F) (y bi : Nat) (ss : List (List Nat)) (pop sel : Pop F)
    (hl : Legal (.deBest y) pop (.setsBest bi ss)) (h : select O (.deBest y) (.setsBest bi ss) pop = .ok sel) :
    ∃ b a, pop[bi]? = some b ∧ b.obj = some a ∧ (∀ x ∈ pop, ∀ c, x.obj = some c → a ≤ c) ∧
      sel = (ss.map fun s => b :: pick pop s).flatten ∧ ss.length = pop.length ∧
      ∀ s ∈ ss, s.length = 2 * y ∧ s.Nodup ∧ inRange pop.length s :=
  de_best_blocks_any_range O y bi ss pop sel hl h

/-- `DECurrentToBest`: the block of a member is `[that member, best, 2y-1 members at pairwise distinct
positions among those that differ from it]`; `best` as in `de_best_blocks`. -/
theorem de_current_to_best_blocks (O : Ops F) (y bi : Nat) (ss : List (List Nat)) (pop sel : Pop F)
    (hl : Legal (.deCurrentToBest y) pop (.setsBest bi ss))
    (h : select O (.deCurrentToBest y) (.setsBest bi ss) pop = .ok sel) :
    ∃ b a, pop[bi]? = some b ∧ b.obj = some a ∧ (∀ x ∈ pop, ∀ c, x.obj = some c → a ≤ c) ∧
      sel = ((pop.zip ss).map fun (p : Ind F × List Nat) =>
        p.1 :: b :: pick (pop.filter (fun j => !sameInd j p.1)) p.2).flatten ∧ ss.length = pop.length ∧
      ∀ p ∈ pop.zip ss, p.2.length = 2 * y - 1 ∧ p.2.Nodup ∧
        inRange (pop.filter (fun j => !sameInd j p.1)).length p.2 :=
  de_current_to_best_blocks_any_range O y bi ss pop sel hl h

/-- DE family (`DERand`, `DEBest`, `DECurrentToBest` with `y ≥ 1`): an `Ok` result is in the documented
format — one block of exactly `2y+1` individuals per population member, `(2y+1)·len` in total.
(Populations that are too small are an `Err`: `documented_errors`; repaired by /repo 2632c92.) -/
theorem de_count (O : Ops F) (op : Op F) (y : Nat)
    (hop : op = .deRand y ∨ op = .deBest y ∨ (op = .deCurrentToBest y ∧ 1 ≤ y))
    (w : Witness F) (pop sel : Pop F)
    (hl : Legal op pop w) (h : select O op w pop = .ok sel) :
    some sel.length = requested op pop ∧
    ∃ blocks : List (Pop F), sel = blocks.flatten ∧ blocks.length = pop.length ∧
      ∀ blk ∈ blocks, blk.length = 2 * y + 1 := by
  have hblocks : ∃ blocks : List (Pop F), sel = blocks.flatten ∧ blocks.length = pop.length ∧
      ∀ blk ∈ blocks, blk.length = 2 * y + 1 := by
    -- the blocks are the images of the witness lists; each has the length of its list plus the fixed slots
    rcases hop with rfl | rfl | ⟨rfl, hy⟩ <;> cases w <;> try exact hl.elim
    · obtain ⟨h1, h2, h3⟩ := de_rand_blocks O y _ pop sel hl h
      refine ⟨_, h1, by simp [h2], List.forall_mem_map.mpr fun s hs => ?_⟩
      rw [pick_length pop s (h3 s hs).2.2, (h3 s hs).1]
    · obtain ⟨b, a, _, _, _, h1, h2, h3⟩ := de_best_blocks O y _ _ pop sel hl h
      refine ⟨_, h1, by simp [h2], List.forall_mem_map.mpr fun s hs => ?_⟩
      rw [List.length_cons, pick_length pop s (h3 s hs).2.2, (h3 s hs).1]
    · obtain ⟨b, a, _, _, _, h1, h2, h3⟩ := de_current_to_best_blocks O y _ _ pop sel hl h
      refine ⟨_, h1, by simp [h2], List.forall_mem_map.mpr fun p hp => ?_⟩
      rw [List.length_cons, List.length_cons, pick_length _ p.2 (h3 p hp).2.2, (h3 p hp).1]; omega
  obtain ⟨blocks, h1, h2, h3⟩ := hblocks
  refine ⟨?_, blocks, h1, h2, h3⟩
  rw [h1, length_flatten_const blocks (2 * y + 1) h3, h2]
  rcases hop with rfl | rfl | ⟨rfl, _⟩ <;> rfl

/-- The code's own "best" (`min_by_key`: the first member of minimal objective) is one of the legal
choices, and the model run with that choice does exactly what the code's `best` does — so the theorems
over all legal witnesses cover the code. -/
theorem code_best_is_legal (pop : Pop F) (b : Ind F) (h : best pop = .ok (some b)) :
    ∃ i, pop[i]? = some b ∧ BestIdx pop i ∧ bestAt pop i = best pop :=
  code_best_is_legal_any_range pop b h

/-- `All` returns the population itself (every member once, in order), `None` the empty selection —
for every population, evaluated or not. -/
theorem all_none_exact (O : Ops F) (w : Witness F) (pop : Pop F) :
    select O .all w pop = .ok pop ∧ select O .none w pop = .ok [] :=
  ⟨rfl, rfl⟩

/-- SUS returns exactly `num_selected` individuals whenever it returns `Ok` — for every population,
offset and draw, and over ANY carrier `G` (only the core operation classes are assumed, so this is
also a statement about the `Float` instance the driver runs): the count no longer depends on
rounding (repaired by /repo f052ee1). -/
theorem sus_count {G : Type} [Add G] [Sub G] [Mul G] [Div G] [LT G] [LE G] [DecidableLT G] [DecidableLE G]
    [OfNat G 0] [OfNat G 1] (O : Ops G) (n : Nat) (offset u : G) (pop sel : Pop G)
    (h : select O (.sus n offset) (.draw u) pop = .ok sel) : some sel.length = requested (.sus n offset) pop := by
  obtain ⟨objs, ws, is, _, _, his, rfl, hlen⟩ := sus_select_decomp O n offset u pop sel h
  obtain ⟨h1, h2⟩ := susIndices_count O ws n u is his
  rw [pick_length pop is (fun j hj => hlen ▸ h2 j hj), h1]; rfl

/-- IWO `DeterministicFitnessProportional(a, b)` with `a ≤ b` on a non-empty evaluated population:
every member is copied `iwoCount` times, in population order. -/
theorem iwo_select (O : Ops F) (hfin : ∀ x, O.fin x = true) (a b : Nat) (w : Witness F) (pop : Pop F)
    (hev : Evaluated pop) (hne : pop ≠ []) (hab : a ≤ b) :
    ∃ objs worst bst, objectives pop = some objs ∧ objectiveBounds objs = some (worst, bst) ∧
      select O (.iwo a b) w pop =
        .ok ((pop.zip objs).flatMap fun (ind, o) => List.replicate (iwoCount O a b worst bst o) ind) := by
  obtain ⟨objs, h1, h2, _⟩ := objectives_of_evaluated hev
  cases pop with
  | nil => exact absurd rfl hne
  | cons x xs =>
    cases hb : objectiveBounds objs with
    | none => rw [objectiveBounds_eq_none.mp hb] at h2; cases h2
    | some p =>
      refine ⟨objs, p.1, p.2, h1, hb, ?_⟩
      rw [select_iwo, if_neg (Nat.not_lt.mpr hab)]
      simp only [h1, hb, hfin, Bool.not_true, Bool.false_eq_true, if_false]

/-- IWO seed counts (`floor` monotone and exact on integers): between `a` and `b`; a better
objective never gets fewer copies; the worst gets exactly `a`, the best exactly `b`. -/
theorem iwo_count (O : Ops F) (hcast : ∀ k : Nat, O.ofNat k = (k : F))
    (hmono : ∀ x y : F, x ≤ y → O.floorNat x ≤ O.floorNat y) (hnat : ∀ k : Nat, O.floorNat (k : F) = k)
    (hnan : ∀ x : F, O.isNaN x = false) (a b : Nat) (hab : a ≤ b) (worst bst : F) (hbw : bst ≤ worst) :
    (∀ o, bst ≤ o → a ≤ iwoCount O a b worst bst o ∧ iwoCount O a b worst bst o ≤ b) ∧
    (∀ o o', o ≤ o' → iwoCount O a b worst bst o' ≤ iwoCount O a b worst bst o) ∧
    (bst < worst → iwoCount O a b worst bst worst = a ∧ iwoCount O a b worst bst bst = b) :=
  have hO : ExactFloor O := ⟨hcast, hmono, hnat, hnan⟩
  ⟨fun o ho => iwoCount_bounds hO a b hab worst bst o hbw ho,
   fun o o' h => iwoCount_antitone hO a b worst bst o o' hbw h,
   fun hlt => ⟨iwoCount_worst hO a b worst bst hlt, iwoCount_best hO a b hab worst bst hlt⟩⟩

/-- `max_selected < min_selected` is reported as `Err` (never a panic) on EVERY population — empty,
unevaluated or infinite included — and for every witness (repaired by /repo df44458; before, `execute`
panicked with a `u32` subtraction overflow). -/
theorem iwo_min_gt_max_err (O : Ops F) (a b : Nat) (w : Witness F) (pop : Pop F) (hba : b < a) :
    select O (.iwo a b) w pop = .error .exec := by
  rw [select_iwo, if_pos hba]

/-! ## Documented errors -/

/-- parameters inside their documented domain -/
def ParamOk (op : Op F) : Prop :=
  match op with
  | .rouletteWheel _ offset => 0 ≤ offset
  | .sus _ offset => 0 ≤ offset
  | .exponentialRank _ base => 0 < base ∧ base < 1
  | _ => True

/-- when `select` answers `Err` on an evaluated population (exact arithmetic, all values finite) -/
def ErrCond (op : Op F) (pop : Pop F) : Prop :=
  match op with
  | .all | .none => False
  | .cloneSingle _ => pop.length ≠ 1
  | .fullyRandom n => n ≠ 0 ∧ pop = []
  | .randomWithoutRepetition n => pop.length < n
  | .rouletteWheel _ offset | .sus _ offset =>
    pop = [] ∨ (offset = 0 ∧ ∃ c, 0 < c ∧ ∀ x ∈ pop, x.obj = some c)
  | .deRand y => pop.length < 2 * y + 1
  | .deBest y => pop.length < 2 * y ∨ pop = []
  | .deCurrentToBest y => pop = [] ∨ ∃ ind ∈ pop, (pop.filter (fun j => !sameInd j ind)).length < 2 * y - 1
  | .tournament n size => pop.length < size ∨ (size = 0 ∧ n ≠ 0)
  | .iwo a b => b < a ∨ pop = []
  | .linearRank _ | .exponentialRank _ _ => pop = []

/-- operators that never read an objective value -/
def NoFitness (op : Op F) : Prop :=
  match op with
  | .all | .none | .cloneSingle _ | .fullyRandom _ | .randomWithoutRepetition _ | .deRand _ => True
  | _ => False

/-- The operators that do not use fitness (`All`, `None`, `CloneSingle`, `FullyRandom`,
`RandomWithoutRepetition`, `DERand`) behave as documented on EVERY population — unevaluated, partly
evaluated, infinite objective values included — and over every carrier operation set: no panic, `Err`
exactly in the cases of `ErrCond`.  (No `Evaluated`, finiteness or `powi` hypothesis.) -/
theorem documented_errors_no_fitness (O : Ops F) (op : Op F) (w : Witness F) (pop : Pop F)
    (hop : NoFitness op) (hl : Legal op pop w) :
    (select O op w pop = .error .exec ↔ ErrCond op pop) ∧ select O op w pop ≠ .error .panic := by
  cases op <;> try exact hop.elim
  case all => exact ErrIff.of_ok pop not_false
  case none => exact ErrIff.of_ok [] not_false
  case cloneSingle n =>
    rw [select_clone]
    cases pop with
    | nil => simp [ErrCond]
    | cons x xs => cases xs <;> simp [ErrCond]
  case fullyRandom n =>
    cases w <;> try exact hl.elim
    rw [select_fullyRandom]
    by_cases h0 : n = 0
    · rw [if_pos h0]; exact ErrIff.of_ok [] fun h => h.1 h0
    · rw [if_neg h0]
      exact (ErrIff.ensure _ _).congr (List.isEmpty_iff.trans (and_iff_right h0).symm)
  case randomWithoutRepetition n =>
    cases w <;> try exact hl.elim
    rw [select_rwor]
    exact ErrIff.ensure _ _
  case deRand y =>
    cases w <;> try exact hl.elim
    rw [select_deRand]
    exact ErrIff.ensure _ _

/-- On an evaluated population, with parameters in their documented domain and a legal witness, no
operator panics, and `Err` is returned exactly in the cases of `ErrCond`: not exactly one individual
(`CloneSingle`), too few individuals (without repetition, tournament, sampling from an empty
population, DE selections on a population smaller than `2y+1` / `2y` / with fewer than `2y-1` other
members), an empty tournament, IWO with `min_selected > max_selected`, and — `RouletteWheel` and SUS —
all weights zero (offset 0 and all objectives equal and positive). -/
theorem documented_errors (O : Ops F) (hfin : ∀ x, O.fin x = true)
    (hpow : ∀ (b : F) (k : Nat), O.powi b k = b ^ k) (op : Op F) (w : Witness F) (pop : Pop F)
    (hev : Evaluated pop) (hl : Legal op pop w) (hp : ParamOk op) :
    (select O op w pop = .error .exec ↔ ErrCond op pop) ∧ select O op w pop ≠ .error .panic := by
  by_cases hop : NoFitness op
  · exact documented_errors_no_fitness O op w pop hop hl
  cases op <;> try exact absurd trivial hop
  case iwo a b =>
    by_cases hab : b < a
    · rw [iwo_min_gt_max_err O a b w pop hab]; exact ErrIff.of_err (.inl hab)
    by_cases hpop : pop = []
    · rw [hpop, select_iwo, if_neg hab]; exact ErrIff.of_err (.inr rfl)
    · obtain ⟨_, _, _, _, _, hok⟩ := iwo_select O hfin a b w pop hev hpop (Nat.le_of_not_lt hab)
      rw [hok]; exact ErrIff.of_ok _ fun h => h.elim hab hpop
  case rouletteWheel n offset =>
    cases w <;> try exact hl.elim
    exact roulette_outcome O hfin n offset _ pop hev hp
  case sus n offset =>
    cases w <;> try exact hl.elim
    exact sus_outcome O hfin n offset _ pop hev hp
  case exponentialRank n base =>
    cases w <;> try exact hl.elim
    exact exponentialRank_outcome O hfin hpow n base hp.1 hp.2 _ pop hev
  -- the comparison-only operators: a linear order is a total preorder
  all_goals exact documented_errors_any_range O _ w pop (by trivial) hev hl

/-- An infinite objective value (`is_finite` false on the maximum) makes `RouletteWheel`, SUS and the
IWO selection return `Err` — for every carrier operation set and every witness. -/
theorem infinite_objective_err (O : Ops F) (n : Nat) (offset : F) (a b : Nat) (w : Witness F) (pop : Pop F)
    (objs : List F) (mx mn : F) (hobjs : objectives pop = some objs) (hb : objectiveBounds objs = some (mx, mn))
    (hinf : O.fin mx = false) (hoff : 0 ≤ offset) :
    (∀ is, select O (.rouletteWheel n offset) (.idx is) pop = .error .exec) ∧
    (∀ u, select O (.sus n offset) (.draw u) pop = .error .exec) ∧
    select O (.iwo a b) w pop = .error .exec := by
  have hnone := (proportionalWeights_none_iff O objs offset false hoff).mpr (Or.inr ⟨mx, mn, hb, hinf⟩)
  refine ⟨fun is => ?_, fun u => ?_, ?_⟩
  · rw [select_roulette, hobjs]; simp only [hnone]
  · rw [select_sus, hobjs]; simp only [hnone]
  · rw [select_iwo]
    split_ifs
    · rfl
    · cases pop with
      | nil => rfl
      | cons x xs => simp only [hobjs, hb, hinf, Bool.not_false, if_true]

/-! ## Selection pressure -/

/-- `proportional_weights`: a better (lower) objective never gets a smaller weight. -/
theorem proportional_weights_antitone (O : Ops F) (objs : List F) (offset : F) (normalize : Bool) (ws : List F)
    (h : proportionalWeights O objs offset normalize = .ok (some ws)) :
    ws.length = objs.length ∧
    ∀ i j (hi : i < objs.length) (hj : j < objs.length) (hi' : i < ws.length) (hj' : j < ws.length),
      objs[i] ≤ objs[j] → ws[j] ≤ ws[i] := by
  obtain ⟨g, hg, hw⟩ := proportionalWeights_antitone_map O objs offset normalize ws h
  exact antitone_map_getElem hw fun a _ b _ => hg a b

/-- Every (non-normalised) weight is `≥ offset` — PARTIAL: provided `offset ≤ 1`, or the objectives are
not all equal, or they are all positive.  (For all-equal non-positive objectives the code returns the
constant weight 1 whatever the offset: `proportional_weights_lt_offset`.) -/
theorem proportional_weights_ge_offset_partial (O : Ops F) (objs : List F) (offset : F) (ws : List F)
    (h : proportionalWeights O objs offset false = .ok (some ws))
    (hc : offset ≤ 1 ∨ (∃ a ∈ objs, ∃ b ∈ objs, a ≠ b) ∨ (∀ o ∈ objs, 0 < o)) : ∀ w ∈ ws, offset ≤ w := by
  obtain ⟨hoff, mx, mn, hrange, _, hmn, hcase⟩ := propWeights_form O objs offset ws h
  rcases hcase with ⟨hw, _⟩ | ⟨hnpos, hall, hw⟩ <;> intro w hw' <;> rw [hw] at hw'
  · obtain ⟨o, ho, rfl⟩ := List.mem_map.mp hw'
    exact le_add_of_nonneg_left (sub_nonneg.mpr (hrange o ho).2)
  · rw [List.eq_of_mem_replicate hw']
    rcases hc with hc | ⟨a, ha, b, hb', hne⟩ | hc
    · exact hc
    · exact absurd ((allEq_iff objs).mp hall a ha b hb') hne
    · exact absurd (hc mn hmn) hnpos

/-- The full (documented) statement is FALSE (`proportional_weights_lt_offset`): -/
def proportional_weights_ge_offset_full : Prop :=
  ∀ (O : Ops F) (objs : List F) (offset : F) (ws : List F),
    proportionalWeights O objs offset false = .ok (some ws) → ∀ w ∈ ws, offset ≤ w

/-- Counterexample to the documented "`>= offset`": one individual with objective 0, offset 2 — weight 1. -/
theorem proportional_weights_lt_offset (O : Ops F) (h0 : O.fin 0 = true) :
    proportionalWeights O [0] 2 false = .ok (some [1]) ∧ (1 : F) < 2 := by
  refine ⟨?_, one_lt_two⟩
  simp [proportionalWeights, objectiveBounds, boundsGo, h0, allEq]

/-- With `normalize` the weights sum to 1 — PARTIAL: provided some objective is `≤ 0`.  (For all-positive
objectives the code ignores `normalize`: `proportional_weights_not_normalized`.) -/
theorem normalized_sum_one_partial (O : Ops F) (hcast : ∀ k : Nat, O.ofNat k = (k : F)) (objs : List F)
    (offset : F) (ws : List F) (h : proportionalWeights O objs offset true = .ok (some ws))
    (hnp : ∃ o ∈ objs, o ≤ 0) : sum ws = 1 := by
  obtain ⟨hoff, mx, mn, hb, _, rfl⟩ := proportionalWeights_some O objs offset true ws h
  obtain ⟨hrange, hmx, _⟩ := objectiveBounds_spec hb
  obtain ⟨o, ho, ho0⟩ := hnp
  have h1 : ¬ 0 < mn := fun hpos => absurd (lt_of_lt_of_le hpos (hrange o ho).1) (not_lt.mpr ho0)
  by_cases h2 : allEq objs = true
  · have : (objs.length : F) ≠ 0 := Nat.cast_ne_zero.mpr (List.length_pos_of_mem ho).ne'
    rw [propW_of_allEq O offset true h1 h2, if_pos rfl, sum_replicate, hcast, mul_one_div, div_self this]
  · rw [propW_of_not_allEq O offset true h1 h2, if_pos rfl, sum_map_div]
    exact div_self (shiftW_total_pos hoff hb h2).ne'

/-- The full (documented) statement is FALSE (`proportional_weights_not_normalized`): -/
def normalized_sum_one_full : Prop :=
  ∀ (O : Ops F) (objs : List F) (offset : F) (ws : List F),
    proportionalWeights O objs offset true = .ok (some ws) → sum ws = 1

/-- Counterexample to the documented "if `normalize` is true, the weights sum to 1": objectives 1 and 3. -/
theorem proportional_weights_not_normalized (O : Ops F) (h3 : O.fin 3 = true) :
    proportionalWeights O [1, 3] 0 true = .ok (some [2, 0]) ∧ sum ([2, 0] : List F) ≠ 1 := by
  refine ⟨?_, by simp [sum_cons, sum_nil]⟩
  have h13 : (1 : F) < 3 := Nat.one_lt_ofNat
  have hb : objectiveBounds ([1, 3] : List F) = some (3, 1) := by simp only [objectiveBounds, boundsGo, h13, if_true]
  rw [proportionalWeights_eq O _ true le_rfl, hb, Option.bind_some, h3, if_neg (by decide), propW_of_pos O _ _ _ zero_lt_one]
  have h31 : (3 : F) - 1 = 2 := sub_eq_of_eq_add (two_add_one_eq_three (R := F)).symm
  simp only [List.map_cons, List.map_nil, sub_self, add_zero, h31]

/-- Stochastic universal sampling selects "the individuals for which the selection point falls within
their fitness range": an `Ok` result consists of the source members at `n` positions in population
order, the `k`-th one being the FIRST position whose cumulative weight reaches the `k`-th selection
point `(u + k)·total/n` — for every population, offset `≥ 0` and draw `u < 1` (exact arithmetic; the
weights are the `proportional_weights`, antitone in the objective by `proportional_weights_antitone`). -/
theorem sus_point_in_range (O : Ops F) (hcast : ∀ k : Nat, O.ofNat k = (k : F)) (n : Nat) (offset u : F)
    (pop sel : Pop F) (hl : Legal (.sus n offset) pop (.draw u))
    (h : select O (.sus n offset) (.draw u) pop = .ok sel) :
    ∃ objs ws is, objectives pop = some objs ∧ proportionalWeights O objs offset false = .ok (some ws) ∧
      ws.length = pop.length ∧ sel = pick pop is ∧ is.length = n ∧ is.Pairwise (· ≤ ·) ∧
      ∀ k (hk : k < is.length), is[k] < ws.length ∧
        (is[k] = 0 ∨ cum ws is[k] < (u + (k : F)) * (sum ws / (n : F))) ∧
        (u + (k : F)) * (sum ws / (n : F)) ≤ cum ws (is[k] + 1) := by
  obtain ⟨objs, ws, is, h1, h2, h3, h4, h5⟩ := sus_select_decomp O n offset u pop sel h
  obtain ⟨g1, g2, g3⟩ := susIndices_spec O hcast ws n u is hl.2 h3
  exact ⟨objs, ws, is, h1, h2, h5, h4, g1, g2, g3⟩

/-- SUS hands out copies in proportion to the weights, up to one copy (`g = total/n`: the distance between
selection points; `wᵢ`: the weight of position `i`; non-negative weights, `0 ≤ u < 1`):
(a) if the `k₁`-th and the `k₂`-th point (`k₁ ≤ k₂`) both select position `i`, then `(k₂ - k₁)·g ≤ wᵢ` — at
    most `⌊wᵢ/g⌋ + 1` copies;
(b) if the `k₁`-th point selects a position before `i` and the `k₂`-th one a position after `i`, then
    `wᵢ < (k₂ - k₁)·g` — `c` copies in between mean `c > wᵢ/g - 1`, and a skipped member has weight `< g`;
(c), (d) at the ends of the wheel: a member before the position selected by the `k₂`-th point has weight
    `< (u + k₂)·g`, one after the position selected by the `k₁`-th point has weight `≤ (n - u - k₁)·g`.
Hence a better individual (larger weight) is never given fewer copies than a worse one, up to one copy. -/
theorem sus_copies_proportional (O : Ops F) (hcast : ∀ k : Nat, O.ofNat k = (k : F)) (ws : List F) (n : Nat)
    (u : F) (is : List Nat) (hw : ∀ w ∈ ws, 0 ≤ w) (hu0 : 0 ≤ u) (hu1 : u < 1)
    (h : susIndices O ws n u = .ok is) (i : Nat) (hi : i < ws.length)
    (k1 k2 : Nat) (h1 : k1 < is.length) (h2 : k2 < is.length) :
    (k1 ≤ k2 → is[k1] = i → is[k2] = i → ((k2 : F) - (k1 : F)) * (sum ws / (n : F)) ≤ ws[i]) ∧
    (is[k1] < i → i < is[k2] → ws[i] < ((k2 : F) - (k1 : F)) * (sum ws / (n : F))) ∧
    (i < is[k2] → ws[i] < (u + (k2 : F)) * (sum ws / (n : F))) ∧
    (0 < n → is[k1] < i → ws[i] ≤ ((n : F) - u - (k1 : F)) * (sum ws / (n : F))) := by
  obtain ⟨_, _, hspec⟩ := susIndices_spec O hcast ws n u is hu1 h
  have hg : 0 ≤ sum ws / (n : F) := div_nonneg (sum_nonneg ws hw) (Nat.cast_nonneg n)
  have hng : 0 < n → (n : F) * (sum ws / (n : F)) = sum ws := fun hn =>
    mul_div_cancel₀ _ (Nat.cast_ne_zero.mpr hn.ne')
  generalize sum ws / (n : F) = g at hspec hg hng ⊢
  obtain ⟨_, a2, a3⟩ := hspec k1 h1
  obtain ⟨_, b2, b3⟩ := hspec k2 h2
  have hmono := cum_mono ws hw
  -- where the `k`-th point `(u + k)·g` lies relative to the range `(cum i, cum (i+1)]` of position `i`
  have hupper : i < is[k2] → cum ws (i + 1) < (u + (k2 : F)) * g := fun e2 =>
    lt_of_le_of_lt (hmono _ _ e2) (b2.resolve_left (Nat.ne_of_gt (Nat.zero_lt_of_lt e2)))
  have hlower : is[k1] < i → (u + (k1 : F)) * g ≤ cum ws i := fun e1 => le_trans a3 (hmono _ _ e1)
  have hc0 : 0 ≤ cum ws i := cum_zero ws ▸ hmono 0 i (Nat.zero_le _)
  have hsub : ∀ a b : F, (b - a) * g = (u + b) * g - (u + a) * g := fun a b => by
    rw [← sub_mul, add_sub_add_left_eq_sub]
  have hwi : ws[i] = cum ws (i + 1) - cum ws i := by rw [cum_succ ws i hi, add_sub_cancel_left]
  rw [hwi]
  refine ⟨fun _ e1 e2 => ?_, fun e1 e2 => ?_, fun e2 => ?_, fun hn e1 => ?_⟩
  · rw [hsub, ← e2]
    refine sub_le_sub b3 ?_
    rw [e2, ← e1]
    exact a2.elim (fun h0 => by rw [h0, cum_zero]; exact mul_nonneg (add_nonneg hu0 (Nat.cast_nonneg k1)) hg)
      le_of_lt
  · rw [hsub]
    exact lt_of_lt_of_le (sub_lt_sub_right (hupper e2) _) (sub_le_sub_left (hlower e1) _)
  · exact lt_of_le_of_lt (sub_le_self _ hc0) (hupper e2)
  · have : ((n : F) - u - (k1 : F)) * g = (n : F) * g - (u + (k1 : F)) * g := by rw [← sub_mul, sub_sub]
    rw [this, hng hn]
    exact sub_le_sub (cum_le_total ws hw (i + 1)) (hlower e1)

/-- The weights SUS and the roulette wheel work with are non-negative (offset `≥ 0` is the documented
domain), so `sus_copies_proportional` applies to every `Ok` run. -/
theorem selection_weights_nonneg (O : Ops F) (objs : List F) (offset : F) (ws : List F)
    (h : proportionalWeights O objs offset false = .ok (some ws)) : ∀ w ∈ ws, 0 ≤ w :=
  propWeights_nonneg O objs offset ws h

/-- `reverse_rank`: rank 1 = lowest objective; a strictly lower objective has a strictly lower rank;
ties share a rank; every rank is ≥ 1. -/
theorem reverse_rank_spec (objs : List F) :
    (reverseRank objs).length = objs.length ∧
    ∀ i j (hi : i < objs.length) (hj : j < objs.length) (hi' : i < (reverseRank objs).length)
      (hj' : j < (reverseRank objs).length),
      (objs[i] < objs[j] → (reverseRank objs)[i] < (reverseRank objs)[j]) ∧
      (objs[i] = objs[j] → (reverseRank objs)[i] = (reverseRank objs)[j]) ∧
      1 ≤ (reverseRank objs)[i] ∧
      ((∀ o ∈ objs, objs[i] ≤ o) → (reverseRank objs)[i] = 1) := by
  obtain ⟨ρ, hlt, h1, hmin, e⟩ := reverseRank_eq_map objs
  simp only [e, List.getElem_map]
  exact ⟨List.length_map _, fun i j hi hj _ _ => ⟨hlt _ (List.getElem_mem hi) _ (List.getElem_mem hj),
    congrArg ρ, h1 _ (List.getElem_mem hi), hmin _ (List.getElem_mem hi)⟩⟩

/-- `LinearRank`: a better objective never gets a smaller weight, and every weight is ≥ 1. -/
theorem rank_weights_antitone_linear (objs : List F) :
    let ws := linearRankWeights (reverseRank objs)
    ws.length = objs.length ∧ (∀ w ∈ ws, 1 ≤ w) ∧
    ∀ i j (hi : i < objs.length) (hj : j < objs.length) (hi' : i < ws.length) (hj' : j < ws.length),
      objs[i] ≤ objs[j] → ws[j] ≤ ws[i] := by
  obtain ⟨g, e, hg⟩ := map_reverseRank_antitone objs (fun r => maxNat (reverseRank objs) + 1 - r)
    (fun r _ r' h => Nat.sub_le_sub_left h _)
  obtain ⟨h1, h2⟩ := antitone_map_getElem e hg
  exact ⟨h1, linearRankWeights_ge_one _, h2⟩

/-- `ExponentialRank` with base in (0,1) and `powi b k = b^k`: a better objective never gets a smaller
weight, and every weight is positive. -/
theorem rank_weights_antitone_exponential (O : Ops F) (hpow : ∀ (b : F) (k : Nat), O.powi b k = b ^ k)
    (base : F) (hb0 : 0 < base) (hb1 : base < 1) (objs : List F) :
    let ws := exponentialRankWeights O base (reverseRank objs)
    ws.length = objs.length ∧ (∀ w ∈ ws, 0 < w) ∧
    ∀ i j (hi : i < objs.length) (hj : j < objs.length) (hi' : i < ws.length) (hj' : j < ws.length),
      objs[i] ≤ objs[j] → ws[j] ≤ ws[i] := by
  obtain ⟨g, e, hg⟩ := map_reverseRank_antitone objs
    (fun r => (base - 1) / (O.powi base (maxNat (reverseRank objs)) - 1) * O.powi base (r - 1))
    (fun r hr r' h => by
      simp only [hpow]
      exact expWeight_antitone base hb0 hb1 _ _ _ ((reverseRank_ge_one objs r hr).trans (le_maxNat _ r hr)) h)
  obtain ⟨h1, h2⟩ := antitone_map_getElem e hg
  exact ⟨h1, exponentialRankWeights_pos O hpow base hb0 hb1 objs, h2⟩

/-- Every tournament winner is legal: it is one of its competitors, no competitor has a strictly
lower objective, and it is the FIRST such competitor in sampling order. -/
theorem tournament_winner_legal (O : Ops F) (n size : Nat) (ss : List (List Nat)) (pop sel : Pop F)
    (h : select O (.tournament n size) (.sets ss) pop = .ok sel) :
    List.Forall₂ (fun c win => ∃ a, win.obj = some a ∧
        (∀ x ∈ pick pop c, ∃ b, x.obj = some b ∧ a ≤ b) ∧
        ∃ pre post, pick pop c = pre ++ win :: post ∧ ∀ y ∈ pre, ∃ b, y.obj = some b ∧ a < b) ss sel :=
  tournament_winners O n size ss pop sel h

/-- Observable form of winner legality (what the check evaluates on the implementation's output, without
any knowledge of the competitors): at most `len - size` members are strictly better than a winner. -/
theorem tournament_winner_rank_bound (O : Ops F) (n size : Nat) (ss : List (List Nat)) (pop sel : Pop F)
    (hl : Legal (.tournament n size) pop (.sets ss))
    (h : select O (.tournament n size) (.sets ss) pop = .ok sel) :
    ∀ win ∈ sel, ∃ a, win.obj = some a ∧
      ((List.range pop.length).filter (posBetter pop a)).length + size ≤ pop.length := by
  have hw := tournament_winners O n size ss pop sel h
  have hsz : size ≤ pop.length := by
    rw [select_tournament] at h
    split_ifs at h with hlt
    omega
  intro win hwin
  obtain ⟨c, hc, a, ha, hmin, _⟩ := forall₂_exists_left hw hwin
  obtain ⟨h1, h2, h3⟩ := hl.2 c hc
  refine ⟨a, ha, ?_⟩
  have hclen : c.length = size := by rw [h1]; omega
  have hdisj : ∀ j ∈ (List.range pop.length).filter (posBetter pop a), j ∉ c := by
    intro j hj hjc
    obtain ⟨hjr, hjb⟩ := List.mem_filter.mp hj
    have hjl : j < pop.length := List.mem_range.mp hjr
    have hmem : pop[j] ∈ pick pop c := by
      simp only [pick, List.mem_filterMap]
      exact ⟨j, hjc, List.getElem?_eq_getElem hjl⟩
    obtain ⟨b, hb, hab⟩ := hmin _ hmem
    simp only [posBetter, List.getElem?_eq_getElem hjl, hb, decide_eq_true_eq] at hjb
    exact absurd hjb (not_lt.mpr hab)
  have hnd : ((List.range pop.length).filter (posBetter pop a) ++ c).Nodup :=
    (List.nodup_range.filter _).append h2 fun j => hdisj j
  have hsub : ((List.range pop.length).filter (posBetter pop a) ++ c) ⊆ List.range pop.length :=
    List.append_subset.mpr ⟨List.filter_sublist.subset, fun x hx => List.mem_range.mpr (h3 x hx)⟩
  have := (List.subperm_of_subset hnd hsub).length_le
  simp only [List.length_append, List.length_range, hclen] at this
  exact this

/-- A tournament over the whole population returns a best individual, every time. -/
theorem tournament_whole_population_is_best (O : Ops F) (n : Nat) (ss : List (List Nat)) (pop sel : Pop F)
    (hl : Legal (.tournament n pop.length) pop (.sets ss))
    (h : select O (.tournament n pop.length) (.sets ss) pop = .ok sel) :
    ∀ win ∈ sel, ∃ a, win.obj = some a ∧ ∀ x ∈ pop, ∃ b, x.obj = some b ∧ a ≤ b :=
  tournament_whole_population_is_best_any_range O n ss pop sel hl h

end MahfModel.Props.C11
