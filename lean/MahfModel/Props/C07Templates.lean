/-
C07 on the template level — at the end of a run the recorded best objective value equals the
minimum the objective function returned during the run.

* `etu_sound`: soundness of the evaluate-then-update analysis for EVERY execution of the abstract
  interpreter `runE`.
* `<template>_v<i>_etu`: the kernel evaluates the analysis on the regenerated component trees. It is
  `false` for the firefly template (`FireflyPositionsUpdate` evaluates moved individuals itself and
  the next component, the boundary repair, overwrites them before any best-update: a genuine, recorded
  defect, `fa_etu_violates`) and for the two ILS templates (the analysis is conservative there: updates
  inside the scope go to a shadowing record; the property itself is decided by the run-level check).
-/
import MahfModel.Proofs.TemplatesEtu
import MahfModel.Generated.Templates
namespace MahfModel.Props.C07.Templates
open MahfModel.Tpl MahfModel.Generated

/-- If every evaluation is followed by a visible best-update before anything can discard the
evaluated individuals, a run that ends has `best = min of everything the objective returned`. -/
theorem etu_sound (o : EOracle) (fuel : Nat) (c : Comp) (s' : ESt)
    (hc : evalThenUpdate c = true) (h : runE o fuel c = some s') : s'.best = s'.seen := by
  have he : etu false c false = some false := by simpa [evalThenUpdate] using hc
  have := execE_sound o fuel false c false false _ s' he ⟨by simp [EInv, omin], fun _ => rfl⟩ h
  have hp := this.2 rfl
  have hi := this.1
  simp only [EInv, hp, omin_none_right] at hi
  exact hi

/-- The analysis refuses every tree containing a component that evaluates moved individuals in place
(`FireflyPositionsUpdate` may evaluate one individual several times and keeps only the last value), even
when a best-update follows immediately. -/
theorem eval_in_place_refused (sh p : Bool) : etuLeaf sh .FireflyPositionsUpdate p = none := rfl

example : evalThenUpdate (.seq (.cons (.loop (.seq (.cons (.leaf .FireflyPositionsUpdate)
    (.cons (.leaf .BestIndividualUpdate) .nil)))) .nil)) = false := by decide +kernel

/-- The firefly template on a concrete execution of the model: inside the position update the objective
returns 1 for an intermediate position of an individual that ends the component with value 4, and the
boundary repair then moves everybody to positions worth 9; the reported best (9) is not the minimum returned (1). -/
theorem fa_etu_violates :
    (runE ⟨fun t => t == 3, fun _ => false,
           fun t => if t == 4 then some 1 else if t == 5 then some 4 else some 9⟩ 100 real_fa_v0).map
      (fun s => (s.best, s.seen)) = some (some 9, some 1) := by decide +kernel

/-! Non-vacuity -/
example : evalThenUpdate real_pso_v0 = true := by decide +kernel
example : (runE ⟨fun t => t < 40, fun _ => false, fun t => some (100 - t)⟩ 300 real_pso_v0).map
    (fun s => decide (s.best = s.seen)) = some true := by decide +kernel

/-! ### Per-template obligations on the regenerated trees -/
theorem real_ga_v0_etu : evalThenUpdate real_ga_v0 = true := by decide +kernel
theorem real_ga_v1_etu : evalThenUpdate real_ga_v1 = true := by decide +kernel
theorem real_ga_v2_etu : evalThenUpdate real_ga_v2 = true := by decide +kernel
theorem real_ga_v3_etu : evalThenUpdate real_ga_v3 = true := by decide +kernel
theorem binary_ga_v0_etu : evalThenUpdate binary_ga_v0 = true := by decide +kernel
theorem binary_ga_v1_etu : evalThenUpdate binary_ga_v1 = true := by decide +kernel
theorem binary_ga_v2_etu : evalThenUpdate binary_ga_v2 = true := by decide +kernel
theorem binary_ga_v3_etu : evalThenUpdate binary_ga_v3 = true := by decide +kernel
theorem real_es_v0_etu : evalThenUpdate real_es_v0 = true := by decide +kernel
theorem real_es_v1_etu : evalThenUpdate real_es_v1 = true := by decide +kernel
theorem real_es_v2_etu : evalThenUpdate real_es_v2 = true := by decide +kernel
theorem real_es_v3_etu : evalThenUpdate real_es_v3 = true := by decide +kernel
theorem real_de_v0_etu : evalThenUpdate real_de_v0 = true := by decide +kernel
theorem real_de_v1_etu : evalThenUpdate real_de_v1 = true := by decide +kernel
theorem real_de_v2_etu : evalThenUpdate real_de_v2 = true := by decide +kernel
theorem real_de_v3_etu : evalThenUpdate real_de_v3 = true := by decide +kernel
theorem real_pso_v0_etu : evalThenUpdate real_pso_v0 = true := by decide +kernel
theorem real_pso_v1_etu : evalThenUpdate real_pso_v1 = true := by decide +kernel
theorem real_pso_v2_etu : evalThenUpdate real_pso_v2 = true := by decide +kernel
theorem real_pso_v3_etu : evalThenUpdate real_pso_v3 = true := by decide +kernel
theorem real_sa_v0_etu : evalThenUpdate real_sa_v0 = true := by decide +kernel
theorem real_sa_v1_etu : evalThenUpdate real_sa_v1 = true := by decide +kernel
theorem real_sa_v2_etu : evalThenUpdate real_sa_v2 = true := by decide +kernel
theorem real_sa_v3_etu : evalThenUpdate real_sa_v3 = true := by decide +kernel
theorem permutation_sa_v0_etu : evalThenUpdate permutation_sa_v0 = true := by decide +kernel
theorem permutation_sa_v1_etu : evalThenUpdate permutation_sa_v1 = true := by decide +kernel
theorem permutation_sa_v2_etu : evalThenUpdate permutation_sa_v2 = true := by decide +kernel
theorem permutation_sa_v3_etu : evalThenUpdate permutation_sa_v3 = true := by decide +kernel
theorem real_ls_v0_etu : evalThenUpdate real_ls_v0 = true := by decide +kernel
theorem real_ls_v1_etu : evalThenUpdate real_ls_v1 = true := by decide +kernel
theorem real_ls_v2_etu : evalThenUpdate real_ls_v2 = true := by decide +kernel
theorem real_ls_v3_etu : evalThenUpdate real_ls_v3 = true := by decide +kernel
theorem permutation_ls_v0_etu : evalThenUpdate permutation_ls_v0 = true := by decide +kernel
theorem permutation_ls_v1_etu : evalThenUpdate permutation_ls_v1 = true := by decide +kernel
theorem permutation_ls_v2_etu : evalThenUpdate permutation_ls_v2 = true := by decide +kernel
theorem permutation_ls_v3_etu : evalThenUpdate permutation_ls_v3 = true := by decide +kernel
theorem real_ils_v0_etu : evalThenUpdate real_ils_v0 = false := by decide +kernel
theorem real_ils_v1_etu : evalThenUpdate real_ils_v1 = false := by decide +kernel
theorem real_ils_v2_etu : evalThenUpdate real_ils_v2 = false := by decide +kernel
theorem real_ils_v3_etu : evalThenUpdate real_ils_v3 = false := by decide +kernel
theorem permutation_ils_v0_etu : evalThenUpdate permutation_ils_v0 = false := by decide +kernel
theorem permutation_ils_v1_etu : evalThenUpdate permutation_ils_v1 = false := by decide +kernel
theorem permutation_ils_v2_etu : evalThenUpdate permutation_ils_v2 = false := by decide +kernel
theorem permutation_ils_v3_etu : evalThenUpdate permutation_ils_v3 = false := by decide +kernel
theorem real_rs_v0_etu : evalThenUpdate real_rs_v0 = true := by decide +kernel
theorem real_rs_v1_etu : evalThenUpdate real_rs_v1 = true := by decide +kernel
theorem real_rs_v2_etu : evalThenUpdate real_rs_v2 = true := by decide +kernel
theorem real_rs_v3_etu : evalThenUpdate real_rs_v3 = true := by decide +kernel
theorem permutation_rs_v0_etu : evalThenUpdate permutation_rs_v0 = true := by decide +kernel
theorem permutation_rs_v1_etu : evalThenUpdate permutation_rs_v1 = true := by decide +kernel
theorem permutation_rs_v2_etu : evalThenUpdate permutation_rs_v2 = true := by decide +kernel
theorem permutation_rs_v3_etu : evalThenUpdate permutation_rs_v3 = true := by decide +kernel
theorem real_rw_v0_etu : evalThenUpdate real_rw_v0 = true := by decide +kernel
theorem real_rw_v1_etu : evalThenUpdate real_rw_v1 = true := by decide +kernel
theorem real_rw_v2_etu : evalThenUpdate real_rw_v2 = true := by decide +kernel
theorem real_rw_v3_etu : evalThenUpdate real_rw_v3 = true := by decide +kernel
theorem permutation_rw_v0_etu : evalThenUpdate permutation_rw_v0 = true := by decide +kernel
theorem permutation_rw_v1_etu : evalThenUpdate permutation_rw_v1 = true := by decide +kernel
theorem permutation_rw_v2_etu : evalThenUpdate permutation_rw_v2 = true := by decide +kernel
theorem permutation_rw_v3_etu : evalThenUpdate permutation_rw_v3 = true := by decide +kernel
theorem real_iwo_v0_etu : evalThenUpdate real_iwo_v0 = true := by decide +kernel
theorem real_iwo_v1_etu : evalThenUpdate real_iwo_v1 = true := by decide +kernel
theorem real_iwo_v2_etu : evalThenUpdate real_iwo_v2 = true := by decide +kernel
theorem real_iwo_v3_etu : evalThenUpdate real_iwo_v3 = true := by decide +kernel
theorem real_fa_v0_etu : evalThenUpdate real_fa_v0 = false := by decide +kernel
theorem real_fa_v1_etu : evalThenUpdate real_fa_v1 = false := by decide +kernel
theorem real_fa_v2_etu : evalThenUpdate real_fa_v2 = false := by decide +kernel
theorem real_fa_v3_etu : evalThenUpdate real_fa_v3 = false := by decide +kernel
theorem real_bh_v0_etu : evalThenUpdate real_bh_v0 = true := by decide +kernel
theorem real_bh_v1_etu : evalThenUpdate real_bh_v1 = true := by decide +kernel
theorem real_bh_v2_etu : evalThenUpdate real_bh_v2 = true := by decide +kernel
theorem real_bh_v3_etu : evalThenUpdate real_bh_v3 = true := by decide +kernel
theorem real_cro_v0_etu : evalThenUpdate real_cro_v0 = true := by decide +kernel
theorem real_cro_v1_etu : evalThenUpdate real_cro_v1 = true := by decide +kernel
theorem real_cro_v2_etu : evalThenUpdate real_cro_v2 = true := by decide +kernel
theorem real_cro_v3_etu : evalThenUpdate real_cro_v3 = true := by decide +kernel
theorem ant_system_v0_etu : evalThenUpdate ant_system_v0 = true := by decide +kernel
theorem ant_system_v1_etu : evalThenUpdate ant_system_v1 = true := by decide +kernel
theorem ant_system_v2_etu : evalThenUpdate ant_system_v2 = true := by decide +kernel
theorem ant_system_v3_etu : evalThenUpdate ant_system_v3 = true := by decide +kernel
theorem max_min_ant_system_v0_etu : evalThenUpdate max_min_ant_system_v0 = true := by decide +kernel
theorem max_min_ant_system_v1_etu : evalThenUpdate max_min_ant_system_v1 = true := by decide +kernel
theorem max_min_ant_system_v2_etu : evalThenUpdate max_min_ant_system_v2 = true := by decide +kernel
theorem max_min_ant_system_v3_etu : evalThenUpdate max_min_ant_system_v3 = true := by decide +kernel

end MahfModel.Props.C07.Templates
