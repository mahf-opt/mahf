/-
C15 — the log across the life of a caller-owned `State`: sequences of `Configuration::run` calls on
ONE state, with completed and FAILED runs in between (a trigger of the `LogConfig` returned `Err`).
Property theorems only; helper lemmas are in `Proofs/C15Runs.lean`.
-/
import MahfModel.Proofs.C15Runs
import MahfModel.Props.C15
namespace MahfModel.Props.C15
open MahfModel.Log

/-- The clause for ANY history of the state: after any sequence of runs (any programs of blocks, loops,
branches and scopes, any rule set; every run completed, failed with `Err` at any point, or ran out of
fuel), started on any state, the log has grown by exactly one step per logger execution that completed
meanwhile and in which a trigger fired — in execution order, each step the specified one
(`specStepO`: first fired rule of a name, value at that moment or null, iteration entry) — and by
nothing else. A failed run neither loses steps logged before it nor silences the runs after it. -/
theorem runs_log_is_concat (fuel : Nat) (progs : List Nodes) (s : St) :
    ∃ tr, (runSeq fuel progs s).1.trace = s.trace ++ tr ∧
      (runSeq fuel progs s).1.log = s.log ++ tr.filterMap (fun e => specStepO iterName e.1 e.2) := by
  obtain ⟨tr, h1, h2⟩ := (runSeq_inv fuel progs s).1
  exact ⟨tr, h1, log_is_concat iterName tr s.log _ h2⟩

/-- …for the state `Configuration::optimize_with` prepares: the log IS the sequence of specified steps
of the recorded logger executions of all runs (the predicate O of the sites `logger-runs*`). -/
theorem runs_log_from_fresh_state (fuel : Nat) (rules : Option (List RuleSt)) (progs : List Nodes) :
    (runSeq fuel progs (freshState rules)).1.log =
      (runSeq fuel progs (freshState rules)).1.trace.filterMap (fun e => specStepO iterName e.1 e.2) := by
  obtain ⟨tr, h1, h2⟩ := runs_log_is_concat fuel progs (freshState rules)
  rw [h2, h1]; simp [freshState]

/-- No execution — completed or failed, of a single component or of a whole run — changes what the
state is configured to log: the `LogConfig` is there afterwards iff it was there before, with the same
extractors in the same order (`State::holding` puts the held value back whatever the closure returned). -/
theorem log_config_survives_any_run (fuel : Nat) (prog : Nodes) (s : St) :
    cfgShape (runOn fuel prog s).1.rules = cfgShape s.rules ∧
    cfgShape (execsR fuel prog s).1.rules = cfgShape s.rules :=
  ⟨(runOn_inv fuel prog s).2, (execsR_inv fuel prog s).2⟩

theorem log_config_survives_any_history (fuel : Nat) (progs : List Nodes) (s : St) (rs : List RuleSt)
    (hr : s.rules = some rs) :
    ∃ rs', (runSeq fuel progs s).1.rules = some rs' ∧ rs'.map (·.ext) = rs.map (·.ext) :=
  Option.map_eq_some_iff.1 ((runSeq_inv fuel progs s).2.trans (congrArg cfgShape hr))

/-- One logger execution on ANY state that holds a `LogConfig` whose triggers do not fail there — in
particular the state a failed run left behind (previous theorem) — completes, appends exactly the
specified step (nothing if nothing fires) and is recorded once. -/
theorem logger_execution_on_any_state (s : St) (rs : List RuleSt) (hr : s.rules = some rs)
    (h : ∀ r ∈ resolve s.env rs, r.trig = .fire ∨ r.trig = .skip) :
    (doLogR s).2 = none ∧
    (doLogR s).1.log = s.log ++ (specStepO iterName (resolve s.env rs) (getIters s.env)).toList ∧
    (doLogR s).1.trace = s.trace ++ [(resolve s.env rs, getIters s.env)] := by
  simp [doLogR_eq, hr, loggerExec_of_noFail _ _ _ _ h]

/-- a state with a scripted trigger that fails at its next evaluation, then fires -/
example : ∃ (s : St) (rs : List RuleSt), s.rules = some rs ∧ (doLogR s).2 = some .err ∧
    (∀ r ∈ resolve (doLogR s).1.env ((doLogR s).1.rules.getD []), r.trig = .fire ∨ r.trig = .skip) :=
  ⟨{ env := [{ iters := some 0, x := some 1 }], rules := some [{ trig := .script [.err, .fire], ext := .xId }], log := [], trace := [] },
   _, rfl, by decide +kernel, by decide +kernel⟩

/-- A failed logger execution (a trigger returned `Err`) reports the error, appends nothing, records
nothing, and leaves everything but the internal state of the triggers evaluated so far untouched. -/
theorem failed_logger_execution_changes_nothing (s : St) (e : Fail) (h : (doLogR s).2 = some e) :
    (doLogR s).1.log = s.log ∧ (doLogR s).1.trace = s.trace ∧ (doLogR s).1.env = s.env ∧
    cfgShape (doLogR s).1.rules = cfgShape s.rules := by
  have hs := (doLogR_inv s).2
  rw [doLogR_eq] at h hs ⊢
  revert h hs
  cases s.rules with
  | none => exact fun h => nomatch h
  | some rs =>
    simp only []
    cases loggerExec iterName (resolve s.env rs) (getIters s.env) s.log with
    | error e => exact fun _ hs => ⟨rfl, rfl, rfl, hs⟩
    | ok l => exact fun h => nomatch h

/-- The interpreter of the single-run theorems (`exec`, `Except Fail St`) is this one with the state
forgotten on failure: every statement about completed runs (`program_log_is_concat`, …) is a statement
about `execsR`. -/
theorem single_run_refines (fuel : Nat) (prog : Nodes) (s : St) :
    execs fuel prog s = lift (execsR fuel prog s) := execs_eq_lift fuel prog s

/-- What these theorems exclude — a `State::holding` that returns early on `Err` and so drops the
`LogConfig`: after ONE failed logger execution the next execution on the same state appends nothing
although its trigger fires (with the real `holding` it appends the step). -/
theorem dropping_config_on_error_violates :
    ∃ s : St, (doLogDrop s).2 = some .err ∧
      (doLogR (doLogDrop s).1).1.log = [] ∧
      (doLogR (doLogR s).1).1.log = [[(iterName, some 0), (xName, some 1)]] :=
  ⟨{ env := [{ iters := some 0, x := some 1 }], rules := some [{ trig := .script [.err, .fire], ext := .xId }], log := [], trace := [] },
   by decide +kernel, by decide +kernel, by decide +kernel⟩

end MahfModel.Props.C15
