/-
C17 — the Metropolis rule depends on the two OBJECTIVE VALUES only, and on their NUMERIC order:

* the solutions (tags) of candidate and current are opaque to the acceptance: frames in which both
  carry the same solution but different objective values (noisy / re-evaluated objective, no-op
  generation) are decided like any other, and the survivor carries the objective the rule selects;
* sequences of acceptances on one state (every decision against the survivor of the pass before);
* numerically equal objective values — `−0` / `+0`, `+∞` / `+∞` — are ties and always replaced, at
  EVERY temperature, `T = 0` and `T = +∞` included (carrier `Iz F`: ordered field + signed zero,
  infinities, NaN, with the IEEE rules for `−`, `/`, `<`, `<=`);
* the limits are attained at the extremes: at `T = +0` a worse candidate is never, at `T = +∞`
  always accepted.
-/
import MahfModel.Proofs.C17Ieee
import Mathlib.Algebra.Field.Rat
namespace MahfModel.Props.C17
open MahfModel.Sa

section generic
variable {G : Type} [Sub G] [Div G] [LT G] [LE G] [DecidableLT G] [DecidableLE G]

/-- The acceptance never looks at a solution: renaming the solutions of all individuals on the
stack by ANY function `g` (injective or not — in particular one that gives candidate and current
the same solution) commutes with the execution: same status, same draws, and the resulting stack
is the renamed one.  On every carrier (`Float` included). -/
theorem accept_solution_blind (exp : G → G) (T u : G) (g : Nat → Nat) (s : Stk G) :
    acceptStep exp T u (relabel g s) =
      ((acceptStep exp T u s).1, relabel g (acceptStep exp T u s).2.1, (acceptStep exp T u s).2.2) := by
  match s with
  | [] => rfl
  | [_] => rfl
  | _ :: [] :: _ => rfl
  | [] :: (_ :: _) :: _ => rfl
  | (cand :: dq) :: (cur :: cq) :: rest =>
    simp only [relabel, List.map_cons, acceptStep_cons]
    cases accepts exp cur.obj cand.obj T u <;>
      simp only [Bool.false_eq_true, reduceIte, List.length_cons, List.length_map, List.map_cons]

/-- Candidate and current encode the SAME solution but carry different objective values: the frame
is reduced to one population whose individual carries the objective value the Metropolis decision
selects — never a stale one. -/
theorem accept_same_solution (exp : G → G) (T u : G) (tag : Nat) (oCand oCur : G) (rest : Stk G) :
    acceptStep exp T u ([⟨tag, oCand⟩] :: [⟨tag, oCur⟩] :: rest) =
      (.ok, [⟨tag, if accepts exp oCur oCand T u then oCand else oCur⟩] :: rest, drawsUsed oCur oCand) ∧
    (oCand ≤ oCur →
      acceptStep exp T u ([⟨tag, oCand⟩] :: [⟨tag, oCur⟩] :: rest) = (.ok, [⟨tag, oCand⟩] :: rest, 0)) := by
  rw [acceptStep_two]
  exact ⟨by cases accepts exp oCur oCand T u <;> rfl,
    fun h => by rw [(accepts_of_le exp T u h).1, (accepts_of_le exp T u h).2]; rfl⟩

/-- A sequence of passes on one state: the stack keeps its height, the populations below are
untouched and the top population holds `chainSurvivor` — every decision was taken against the
objective value of the survivor of the pass before. -/
theorem accept_chain_survivor (exp : G → G) (steps : List (Step G)) (cur : Ind G) (rest : Stk G) :
    acceptChain exp steps ([cur] :: rest) = (.ok, [chainSurvivor exp cur steps] :: rest) := by
  induction steps generalizing cur with
  | nil => rfl
  | cons st steps ih =>
    simp only [acceptChain, chainSurvivor, acceptStep_two]
    exact ih _

/-- …so a sequence of measurements each at least as good as the one before ends with the LAST
one as the current solution — whatever the solutions, temperatures and draws. -/
theorem chain_not_worse_last_wins (exp : G → G) (steps : List (Step G)) (cur : Ind G)
    (h : notWorseChain cur.obj steps) :
    chainSurvivor exp cur steps = ((steps.getLast?).map (·.cand)).getD cur := by
  induction steps generalizing cur with
  | nil => rfl
  | cons st steps ih =>
    obtain ⟨h1, h2⟩ := h
    simp only [chainSurvivor, (accepts_of_le exp st.t st.u h1).1, if_true]
    rw [ih st.cand h2, List.getLast?_cons]
    cases steps.getLast? <;> rfl

end generic

/-- The hypothesis of `chain_not_worse_last_wins` is satisfiable: the same solution (tag 7)
measured three times, each time a little better. -/
example : notWorseChain (100 : Rat) [⟨⟨7, 99⟩, 1, 0⟩, ⟨⟨7, 98⟩, 1 / 2, 0⟩, ⟨⟨7, 98⟩, 1 / 4, 0⟩] := by
  simp [notWorseChain]; decide +kernel

variable {F : Type} [Field F] [LinearOrder F] [IsStrictOrderedRing F]

/-- Numerically equal objective values are a tie in BOTH directions and the candidate always
replaces the current solution: for `−0` against `+0`, `+0` against `−0`, `+∞` against `+∞`, and
at every temperature `T` (zero of either sign, `+∞`, even NaN), every draw and every
`exp` — the comparison short-circuits before the probability is looked at. -/
theorem accept_numeric_tie (exp : Iz F → Iz F) (a b T u : Iz F) (h : a.val = b.val) (hn : a.val ≠ .nan) :
    accepts exp a b T u = true ∧ accepts exp b a T u = true ∧ drawsUsed a b = 0 ∧ drawsUsed b a = 0 := by
  have hab := accepts_of_le exp T u (Iz.le_of_val_eq h hn)
  have hba := accepts_of_le exp T u (Iz.le_of_val_eq h.symm (h ▸ hn))
  exact ⟨hba.1, hab.1, hba.2, hab.2⟩

example : (Iz.nzero : Iz Rat).val = (Iz.fin 0 : Iz Rat).val ∧ (Iz.nzero : Iz Rat).val ≠ .nan := by
  constructor
  · rfl
  · simp [Iz.val]
example : (Iz.pinf : Iz Rat).val = (Iz.pinf : Iz Rat).val ∧ (Iz.pinf : Iz Rat).val ≠ .nan := by
  constructor
  · rfl
  · simp [Iz.val]

/-- At zero temperature the PROBABILITY term can never accept a tie: `(f(cur) − f(cand)) / T` is
`±0 / ±0` (or `(∞ − ∞) / 0`) `= NaN`, and no draw is below NaN.  The tie clause therefore rests on
the comparison alone — an implementation whose comparison misses a numeric tie (an ordering that
separates `−0` from `+0`, a difference test `f(cand) − f(cur) <= 0` on `∞ − ∞`) rejects it. -/
theorem tie_probability_nan_at_zero_temperature (f : F → F) (atPinf atNinf : Iz F) (a b T u : Iz F)
    (h : a.val = b.val) (hT : T.isZero = true) :
    prob (Iz.lift f atPinf atNinf) a b T = .nan ∧ ¬ (u < prob (Iz.lift f atPinf atNinf) a b T) := by
  have hp : prob (Iz.lift f atPinf atNinf) a b T = .nan := by
    simp only [prob, Iz.div_zero_of_zero_or_nan (Iz.sub_of_val_eq h) hT, Iz.lift]
  exact ⟨hp, by rw [hp]; exact Iz.not_lt_nan u⟩

/-- The cold limit is attained: at `T = +0` a worse candidate (finite objective values, either
zero sign) is accepted for NO draw `u ∈ [0, 1)` — `p = exp(−Δ/0) = exp(−∞) = 0`. -/
theorem accept_worse_zero_temperature (f : F → F) (atPinf : Iz F) (cur cand : Iz F) (x y v : F)
    (hc : cur.val = .fin x) (hd : cand.val = .fin y) (hxy : x < y) (hv : 0 ≤ v) :
    accepts (Iz.lift f atPinf (.fin 0)) cur cand (.fin 0) (.fin v) = false := by
  rw [Iz.accepts_worse _ _ _ hc hd hxy, Iz.neg_fin_div_zero (sub_neg.mpr hxy)]
  exact decide_eq_false ((Iz.fin_lt_fin v 0).not.mpr (not_lt.mpr hv))

example : ((Iz.nzero : Iz Rat).val = .fin 0) ∧ ((Iz.fin 3 : Iz Rat).val = .fin 3) ∧ (0 : Rat) < 3 ∧ (0 : Rat) ≤ 0 := by
  refine ⟨rfl, rfl, ?_, ?_⟩ <;> decide +kernel

/-- The hot limit is attained: at `T = +∞` a worse candidate (finite objective values) is accepted
for EVERY draw `u ∈ [0, 1)` — `p = exp(−Δ/∞) = exp(−0) = 1`. -/
theorem accept_worse_infinite_temperature (f : F → F) (hf : f 0 = 1) (atPinf atNinf : Iz F)
    (cur cand : Iz F) (x y v : F)
    (hc : cur.val = .fin x) (hd : cand.val = .fin y) (hxy : x < y) (hv : v < 1) :
    accepts (Iz.lift f atPinf atNinf) cur cand .pinf (.fin v) = true := by
  rw [Iz.accepts_worse _ _ _ hc hd hxy, Iz.neg_fin_div_pinf (sub_neg.mpr hxy)]
  exact decide_eq_true ((Iz.fin_lt_fin v _).mpr (hf.symm ▸ hv))

example : (fun x : Rat => 1 + x) 0 = 1 ∧ ((Iz.fin 2 : Iz Rat).val = .fin 2) ∧ ((Iz.fin 5 : Iz Rat).val = .fin 5)
    ∧ (2 : Rat) < 5 ∧ (1 / 2 : Rat) < 1 := by
  refine ⟨add_zero _, rfl, rfl, ?_, ?_⟩ <;> decide +kernel

end MahfModel.Props.C17
