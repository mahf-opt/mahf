/-
C07 — Best-so-far and elitist memories only improve and hold the true best.
Property theorems only; the lemmas they rest on are in `Proofs/C07.lean` (best-so-far), `Proofs/C07Archive.lean` and
`Proofs/C07Run.lean` (run level).
Objective values: any linear order (ties, duplicates and a top element such as +inf included).
-/
import MahfModel.Proofs.C07Archive
import MahfModel.Proofs.C07Run
import Mathlib.Data.Nat.Basic
namespace MahfModel.Props.C07
open MahfModel.PopMachine

variable {O : Type} [LinearOrder O]

/-- `BestIndividual::update c` replaces iff there is no best yet or `c` is STRICTLY better, and returns
exactly that Boolean. -/
theorem best_update_spec (best b' : Option (Ind O)) (c : Ind O) (r : Bool)
    (h : bestUpdate best c = some (b', r)) :
    (r = true ↔ best = none ∨ ∃ b, best = some b ∧ objLt c b) ∧ b' = if r then some c else best := by
  rcases bestUpdate_spec best b' c r h with ⟨rfl, rfl, rfl⟩ | ⟨b, rfl, hlt, rfl, rfl⟩ | ⟨b, rfl, hle, rfl, rfl⟩
  · exact ⟨⟨fun _ => Or.inl rfl, fun _ => rfl⟩, rfl⟩
  · exact ⟨⟨fun _ => Or.inr ⟨b, rfl, hlt⟩, fun _ => rfl⟩, rfl⟩
  · refine ⟨⟨fun h => (nomatch h), ?_⟩, rfl⟩
    rintro (h | ⟨_, ⟨⟩, hlt⟩)
    · cases h
    · exact absurd hlt hle.not_objLt

/-- The recorded best only ever improves: the new best is the old one, or a strictly better candidate. -/
theorem best_monotone (b : Ind O) (b' : Option (Ind O)) (c : Ind O) (r : Bool)
    (h : bestUpdate (some b) c = some (b', r)) :
    (b' = some b ∧ r = false) ∨ (b' = some c ∧ r = true ∧ objLt c b) := by
  rcases bestUpdate_spec (some b) b' c r h with ⟨h0, _⟩ | ⟨_, ⟨⟩, hlt, rfl, rfl⟩ | ⟨_, ⟨⟩, _, rfl, rfl⟩
  · cases h0
  · exact Or.inr ⟨rfl, rfl, hlt⟩
  · exact Or.inl ⟨rfl, rfl⟩

/-- Right after `BestIndividualUpdate`, the best is at least as good as every individual of the
population it was updated from. -/
theorem best_update_dominates_population (pm pm' : PM O) (p : List (Ind O)) (rest : List (List (Ind O)))
    (hs : pm.stack = p :: rest) (h : bestUpdateStep pm = some pm') :
    ∀ i ∈ p, ∃ b, pm'.best = some b ∧ objLe b i := by
  obtain ⟨_, _, hst, h⟩ := bestUpdateStep_some h
  obtain ⟨rfl, _⟩ := List.cons.inj (hs.symm.trans hst)
  rcases h with ⟨rfl, _⟩ | ⟨c, b', r, hbi, hr, rfl⟩
  · exact fun _ hi => nomatch hi
  · exact bestUpdate_dominates pm.best b' c r p (bestIndividual_min p c hbi).2 hr

/-- The best of a population is its FIRST minimum. -/
theorem population_best_is_min (p : List (Ind O)) (m : Ind O) (h : bestIndividual p = some (some m)) :
    ∃ pre post, p = pre ++ m :: post ∧ (∀ z ∈ pre, objLt m z) ∧ (∀ z ∈ post, objLe m z) := by
  obtain ⟨pre, post, h1, h2, h3, _⟩ := bestIndividual_first p m h
  exact ⟨pre, post, h1, h2, h3⟩

/-- …and there is no best exactly for the empty population. -/
theorem population_best_none_iff (p : List (Ind O)) : bestIndividual p = some none ↔ p = [] :=
  bestIndividual_none_iff p

/-- Over ANY sequence of fed populations (ties, duplicates, top elements), the recorded best is a
member of what was fed and at least as good as everything fed; it is absent iff nothing was fed. -/
theorem best_is_min_of_fed (ps : List (List (Ind O))) (r : Option (Ind O)) (h : feedAll none ps = some r) :
    (r = none ↔ ps.flatten = []) ∧ ∀ b, r = some b → b ∈ ps.flatten ∧ ∀ i ∈ ps.flatten, objLe b i := by
  exact (feedAll_isMinOf ps none r [] rfl h).spec

/-- One archive update keeps `min k (everything available)` individuals, all taken from the old archive
and the population (as multisets, `rest` being what is dropped), and nothing dropped is strictly better
than anything kept. Stated on objective values because the sort may order ties arbitrarily. -/
theorem archive_update_k_best (arch pop arch' : List (Ind O)) (k : Nat)
    (h : archiveUpdate arch pop k = some arch') :
    ∃ rest, (arch' ++ rest).Perm (arch ++ pop) ∧ arch'.length = min k (arch ++ pop).length ∧
      ∀ x ∈ arch', ∀ y ∈ rest, ¬ objLt y x := by
  exact (archiveUpdate_keeps arch pop arch' k h).archInv

/-- After every update of a history the archive holds the `k` best individuals it has been shown so
far: a sub-multiset of everything shown, of length `min k shown`, and no omitted individual is strictly
better than a kept one. -/
theorem archive_history_k_best (k : Nat) (pops : List (List (Ind O))) (arch : List (Ind O))
    (hev : ∀ i ∈ pops.flatten, i.obj.isSome) (h : archFeed k [] pops = some arch) :
    ∃ omitted, (arch ++ omitted).Perm pops.flatten ∧ arch.length = min k pops.flatten.length ∧
      ∀ x ∈ arch, ∀ y ∈ omitted, ¬ objLt y x := by
  exact archFeed_inv k pops [] [] [] arch (.nil k) hev h

/-- Re-inserting the archive never duplicates an individual that is already in the population: the
result is the population followed by pairwise distinct elitists that were absent; every elitist is
present afterwards; multiplicities of the original members are unchanged. -/
theorem archive_reinsert_no_dup (arch pop : List (Ind O)) :
    ∃ extra, archiveInto arch pop = pop ++ extra ∧ extra.Nodup ∧ (∀ e ∈ extra, e ∈ arch ∧ e ∉ pop) ∧
      (∀ e ∈ arch, e ∈ archiveInto arch pop) ∧
      ∀ x ∈ pop, (archiveInto arch pop).count x = pop.count x := by
  obtain ⟨extra, h1, h2, h3, h4⟩ := archiveInto_spec arch pop
  refine ⟨extra, h1, h2, h3, h4, ?_⟩
  intro x hx
  rw [h1, List.count_append, List.count_eq_zero.mpr fun hxe => (h3 x hxe).2 hx]
  rfl

/-! ### Run level: which evaluations does a best-update get to see? -/

/-- FULL statement (does NOT hold for the shipped firefly template, see
`evaluate_without_update_violates`): the best objective value reported at the end of a run is the
minimum of all values the objective function returned. -/
def BestIsMin (O : Type) [LT O] [DecidableLT O] : Prop :=
  ∀ evs : List (Ev O),
    reportedBest (scopedRun ({} : Scoped O) evs) = listMin (scopedRun ({} : Scoped O) evs).returned

/-- The firefly shape: evaluate + update; then per pass the position update evaluates moved
individuals itself (value 1, an infeasible point), boundary repair un-evaluates, the regular
evaluate/update pair only sees the repaired positions. -/
def faTrace : List (Ev Nat) :=
  [.eval 2 [5, 7], .update [5, 7], .selfEval [1], .other, .eval 2 [5, 6], .update [5, 6]]

/-- Counterexample: best 5 reported, the objective function returned 1. -/
theorem evaluate_without_update_violates :
    reportedBest (scopedRun ({} : Scoped Nat) faTrace) = some 5 ∧
    listMin (scopedRun ({} : Scoped Nat) faTrace).returned = some 1 := by
  decide +kernel

theorem best_is_min_fails : ¬ BestIsMin Nat := by
  intro h
  have := h faTrace
  revert this
  decide +kernel

/-- PARTIAL form that does hold: in a covered run the reported best is at least as good as every value
the objective function returned (nothing better was lost). -/
theorem best_le_all_returned_partial (evs : List (Ev O)) (hc : Covered evs) :
    ∀ v ∈ (scopedRun ({} : Scoped O) evs).returned,
      ∃ x, reportedBest (scopedRun ({} : Scoped O) evs) = some x ∧ x ≤ v := by
  obtain ⟨b, h1, _, h3⟩ := covered_inv evs hc {} .init
  intro v hv
  obtain ⟨x, hx, hxv⟩ := h3 v hv
  exact ⟨x, by simp [reportedBest, h1, hx], hxv⟩

/-! Non-vacuity. -/
example : Covered ([.eval 2 [5, 7], .update [5, 7], .enter true false, .selfEval [1], .update [1, 7], .exit, .other] : List (Ev Nat)) :=
  .eval _ _ _ _ (by simp) (.enter _ _ (.selfEval _ _ _ (by simp) (.exit _ (.other _ .nil))))
example : feedAll (none : Option (Ind Nat)) [[⟨1, some 4⟩, ⟨2, some 4⟩], [], [⟨3, some 9⟩, ⟨4, some 2⟩, ⟨5, some 2⟩]] = some (some ⟨4, some 2⟩) := by decide +kernel
example : archFeed 2 ([] : List (Ind Nat)) [[⟨1, some 4⟩, ⟨2, some 4⟩], [⟨3, some 9⟩, ⟨4, some 2⟩, ⟨4, some 2⟩]] =
    some [⟨4, some 2⟩, ⟨4, some 2⟩] := by decide +kernel
example : archiveInto ([⟨4, some 2⟩, ⟨4, some 2⟩, ⟨1, some 4⟩] : List (Ind Nat)) [⟨1, some 4⟩, ⟨7, none⟩] =
    [⟨1, some 4⟩, ⟨7, none⟩, ⟨4, some 2⟩] := by decide +kernel

end MahfModel.Props.C07
