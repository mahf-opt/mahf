/-
C14 — Initialisation and boundary repair keep every coordinate inside the domain.
Property theorems only; the lemmas they rest on are in `Proofs/C14*.lean`.  Exact arithmetic: the carrier is an
arbitrary linearly ordered field (`FloorRing` for `floor`, `rem_euclid` and the bound on the passes), the domain is `a < b`,
"inside" is the closed interval `[a, b]`.
-/
import MahfModel.Proofs.C14
import MahfModel.Proofs.C14Driver
namespace MahfModel.Props.C14
open MahfModel.Boundary

section Repair
variable {F : Type} [Field F] [LinearOrder F] [IsStrictOrderedRing F]

/-! ### Saturation -/

/-- (`clamp` asserts `a ≤ b`; a one-point domain is fine for Saturation.) -/
theorem saturation_in_bounds (x a b : F) (hab : a ≤ b) :
    ∃ y, saturation x (a, b) = some y ∧ a ≤ y ∧ y ≤ b :=
  ⟨_, clamp_eq x a b hab, le_min hab (le_max_right x a), min_le_left b _⟩

theorem saturation_fix_inside (x a b : F) (h1 : a ≤ x) (h2 : x ≤ b) :
    saturation x (a, b) = some x := by
  rw [saturation, clamp_eq x a b (h1.trans h2), max_eq_left h1, min_eq_right h2]

/-- Whatever Saturation returns is inside (it returns nothing — `clamp` panics — iff `a > b`). -/
theorem saturation_idem (x y a b : F) (h : saturation x (a, b) = some y) :
    saturation y (a, b) = some y := by
  obtain ⟨h1, h2, _⟩ := saturation_repairs h
  exact saturation_fix_inside y a b h1 h2

/-! ### Toroidal (the code's formula, `floor` instantiated with the floor of a `FloorRing`) -/

section Floor
variable [FloorRing F]

/-- `f64::floor` in exact arithmetic. -/
def floorF (x : F) : F := (⌊x⌋ : F)

theorem toroidal_in_bounds (x a b : F) (hab : a < b) :
    a ≤ toroidal floorF x (a, b) ∧ toroidal floorF x (a, b) ≤ b :=
  have h := toroidal_repairs floorF fract_bounds x (d := (a, b)) hab
  ⟨h.1, h.2.1⟩

theorem toroidal_fix_inside (x a b : F) (h1 : a ≤ x) (h2 : x ≤ b) :
    toroidal floorF x (a, b) = x :=
  toroidal_fix floorF h1 h2

theorem toroidal_idem (x a b : F) (hab : a < b) :
    toroidal floorF (toroidal floorF x (a, b)) (a, b) = toroidal floorF x (a, b) :=
  toroidal_fix_inside _ a b (toroidal_in_bounds x a b hab).1 (toroidal_in_bounds x a b hab).2

end Floor

/-! ### Mirror (fold by `rem_euclid`, then reflect until inside)

`remE x m = x − m·⌊x/m⌋` is `f64::rem_euclid` in exact arithmetic; `triangle a b x` is the triangle wave of
period `2(b − a)` through `[a, b]` (both defined in `Proofs/C14.lean`). -/

/-- Every pass of the loop body reduces the distance to `[a, b]` by exactly the width (or to zero). -/
theorem mirror_step_progress (a b x : F) (hab : a < b) :
    excess a b (mirrorStep a b x) = max (excess a b x - (b - a)) 0 :=
  excess_step a b x hab

/-- The loop alone (the operator as it was before the fold) is inside after at most `⌈|x − a| / (b − a)⌉`
passes (an upper bound; `mirrorLoop_eq` has the exact fuel): linear in the distance — the reason for the fold. -/
theorem mirror_stepwise_terminates [FloorRing F] (a b x : F) (hab : a < b) :
    ∃ n, n ≤ ⌈|x - a| / (b - a)⌉₊ ∧ a ≤ mirrorIter a b n x ∧ mirrorIter a b n x ≤ b :=
  mirrorIter_inside a b x hab _ (excess_le_ceil a b x hab)

section MirrorFold
variable [FloorRing F]

/-- `remE` is the Euclidean remainder: in `[0, m)` and congruent to `x` modulo `m` — and it is the only
such value. -/
theorem remE_is_euclidean_remainder (x m : F) (hm : 0 < m) :
    0 ≤ remE x m ∧ remE x m < m ∧ (∃ k : ℤ, x = remE x m + k * m) ∧
    ∀ (r : F) (k : ℤ), 0 ≤ r → r < m → x = r + k * m → r = remE x m :=
  ⟨remE_nonneg x m hm, remE_lt x m hm, ⟨_, remE_repr x m⟩,
   fun r k h0 h1 hx => (remE_unique x m r k hm h0 h1 hx).symm⟩

/-- Termination for EVERY coordinate, with an explicit bound: after the fold the loop body runs at
most once before the value is inside. -/
theorem mirror_terminates (a b x : F) (hab : a < b) :
    ∃ n, n ≤ 1 ∧ a ≤ mirrorIter a b n (mirrorFold remE a b x) ∧ mirrorIter a b n (mirrorFold remE a b x) ≤ b :=
  mirrorIter_inside a b _ hab 1 (excess_fold_le remE_spec a b x hab 1 le_rfl)

/-- The fuelled model returns, with a value inside, for every coordinate as soon as the fuel allows
one pass. -/
theorem mirror_returns (a b x : F) (hab : a < b) (fuel : Nat) (hf : 1 ≤ fuel) :
    ∃ y, mirror remE fuel x (a, b) = some y ∧ a ≤ y ∧ y ≤ b :=
  ⟨_, mirror_eq_triangle remE_spec a b x hab fuel hf, triangle_in_bounds a b x hab⟩

/-- Closed form: the operator computes the triangle wave. -/
theorem mirror_closed_form (a b x : F) (hab : a < b) (fuel : Nat) (hf : 1 ≤ fuel) :
    mirror remE fuel x (a, b) = some (triangle a b x) :=
  mirror_eq_triangle remE_spec a b x hab fuel hf

/-- The step-by-step reflection (the operator before the fold), wherever it returns, returns the same triangle
wave, so for EVERY coordinate the folded operator returns exactly what step-by-step reflection
returns (given the fuel the latter needs): the fold changed the running time, not the result. -/
theorem mirror_agrees_with_stepwise (a b x y : F) (hab : a < b) (fuel fuel' : Nat) (hf : 1 ≤ fuel')
    (h : mirrorStepwise fuel x (a, b) = some y) : mirror remE fuel' x (a, b) = some y := by
  rw [mirrorStepwise, mirrorLoop_eq _ _ hab] at h
  split at h
  · exact (mirror_closed_form a b x hab fuel' hf).trans h
  · cases h

/-- … and step-by-step reflection does return once its fuel covers `⌈|x − a| / (b − a)⌉` passes. -/
theorem mirror_stepwise_returns (a b x : F) (hab : a < b) (fuel : Nat) (hf : ⌈|x - a| / (b - a)⌉₊ ≤ fuel) :
    mirrorStepwise fuel x (a, b) = some (triangle a b x) :=
  (mirrorLoop_eq a b hab fuel x).trans (if_pos ((excess_le_ceil a b x hab).trans
    (mul_le_mul_of_nonneg_right (Nat.cast_le.mpr hf) (sub_nonneg.mpr hab.le))))

end MirrorFold

/-- For a coordinate within one width of the domain the fold is not taken, whatever `rem_euclid`
does: the operator IS the step-by-step reflection there (nothing changed, bit for bit). -/
theorem mirror_near_is_stepwise (rem : F → F → F) (a b x : F) (fuel : Nat)
    (h1 : a - (b - a) ≤ x) (h2 : x ≤ b + (b - a)) :
    mirror rem fuel x (a, b) = mirrorStepwise fuel x (a, b) := by
  simp only [mirror, mirrorStepwise, mirrorFold_near rem a b x h1 h2]

theorem mirror_fix_inside (rem : F → F → F) (a b x : F) (fuel : Nat) (h1 : a ≤ x) (h2 : x ≤ b) :
    mirror rem fuel x (a, b) = some x :=
  mirror_fix rem fuel h1 h2

/-- Whatever the operator returns is inside (for any fuel, and whatever `rem_euclid` does: the loop
only exits inside). -/
theorem mirror_idem (rem : F → F → F) (a b x y : F) (fuel fuel' : Nat) (h : mirror rem fuel x (a, b) = some y) :
    mirror rem fuel' y (a, b) = some y := by
  obtain ⟨h1, h2, _⟩ := mirror_repairs h
  exact mirror_fix_inside rem a b y fuel' h1 h2

/-! ### Complete one-tailed normal correction (scripted absolute standard-normal deviates `s = |z|`; the loop
forms the offset `(b − a)/3 · s`) -/

/-- If the loop exits, the result is inside and the unread script is a suffix of the script. -/
theorem onetailed_result_in_bounds (a b x y : F) (script rest : List F)
    (h : oneTailedLoop a b script x = some (y, rest)) :
    a ≤ y ∧ y ≤ b ∧ ∃ k, rest = script.drop k := oneTailedLoop_result a b script x y rest h

/-- Any standard-normal deviate within three standard deviations (`0 ≤ |z| ≤ 3`, i.e. a resampled
offset `(b − a)/3 · |z| ≤ b − a`) ends the loop in that pass. -/
theorem onetailed_exits_on_small_draw (a b x s : F) (rest : List F) (hab : a < b)
    (hout : x < a ∨ b < x) (h0 : 0 ≤ s) (h1 : s ≤ 3) :
    oneTailedLoop a b (s :: rest) x =
      some (if x < a then a + (b - a) / 3 * s else b - (b - a) / 3 * s, rest) := by
  have hd : 0 ≤ (b - a) / 3 := div_nonneg (sub_nonneg.mpr hab.le) zero_le_three
  have hsd : 0 ≤ (b - a) / 3 * s := mul_nonneg hd h0
  have hle : (b - a) / 3 * s ≤ b - a :=
    (mul_le_mul_of_nonneg_left h1 hd).trans_eq (div_mul_cancel₀ _ three_ne_zero)
  rw [oneTailedLoop]
  split
  · exact oneTailedLoop_inside a b rest _ (add_offset_inside hsd hle).1 (add_offset_inside hsd hle).2
  · next hx =>
    rw [if_pos (hout.resolve_left hx)]
    exact oneTailedLoop_inside a b rest _ (sub_offset_inside hsd hle).1 (sub_offset_inside hsd hle).2

/-- A coordinate inside is returned unchanged and consumes no deviate (`oneTailedLoop_inside`); hence the
operator is idempotent. -/
theorem onetailed_idem (a b x y : F) (script rest script' : List F)
    (h : oneTailedLoop a b script x = some (y, rest)) :
    oneTailedLoop a b script' y = some (y, script') := by
  obtain ⟨h1, h2, _⟩ := onetailed_result_in_bounds a b x y script rest h
  exact oneTailedLoop_inside a b script' y h1 h2

end Repair

/-! ### Whole solutions

`Repaired dom sol ys` (Proofs/C14Loop.lean) is what the property demands of one solution: same dimension,
every coordinate `k` within `dom[k]`, and equal to `sol[k]` if that already was within `dom[k]`.
`satOp … otnOp` are the four operators as the driver sees them. -/

section Solutions
variable {F : Type} [Field F] [LinearOrder F] [IsStrictOrderedRing F]

theorem saturation_solution_repaired {S : Type} (dom : List (F × F)) (sol ys : List F) (s s' : S)
    (h : satOp dom sol s = some (ys, s')) : Repaired dom sol ys :=
  zipOp_repaired (fun _ _ _ _ => saturation_repairs) (satOp_eq dom ▸ h)

theorem saturation_solution_in_bounds (sol : List F) (dom : List (F × F)) (hl : sol.length = dom.length)
    (hd : ∀ d ∈ dom, d.1 < d.2) :
    ∃ ys, zipDomainM saturation sol dom = some ys ∧ ys.length = sol.length ∧
      ∀ k (hk : k < ys.length) (hk' : k < dom.length), dom[k].1 ≤ ys[k] ∧ ys[k] ≤ dom[k].2 :=
  zipDomainM_in_bounds (fun _ _ _ _ => saturation_repairs)
    (fun x d hm => (saturation_in_bounds x d.1 d.2 (hd d hm).le).imp fun _ => And.left) sol

theorem toroidal_solution_repaired [FloorRing F] {S : Type} (dom : List (F × F)) (hd : ∀ d ∈ dom, d.1 < d.2)
    (sol ys : List F) (s s' : S) (h : torOp floorF dom sol s = some (ys, s')) : Repaired dom sol ys :=
  zipOp_repaired (fun x d hm _ hy => Option.some.inj hy ▸ toroidal_repairs floorF fract_bounds x (hd d hm))
    (torOp_eq floorF dom ▸ h)

theorem toroidal_solution_in_bounds [FloorRing F] (sol : List F) (dom : List (F × F))
    (hl : sol.length = dom.length) (hd : ∀ d ∈ dom, d.1 < d.2) :
    ∀ k (hk : k < (zipDomain (toroidal floorF) sol dom).length) (hk' : k < dom.length),
      dom[k].1 ≤ (zipDomain (toroidal floorF) sol dom)[k] ∧ (zipDomain (toroidal floorF) sol dom)[k] ≤ dom[k].2 :=
  (toroidal_solution_repaired dom hd sol _ () () rfl).allInside

/-- Mirror, whatever `rem_euclid` and the fuel are: if it returns, the solution is repaired. -/
theorem mirror_solution_repaired {S : Type} (rem : F → F → F) (fuel : Nat) (dom : List (F × F))
    (sol ys : List F) (s s' : S) (h : mirOp rem fuel dom sol s = some (ys, s')) : Repaired dom sol ys :=
  zipOp_repaired (fun _ _ _ _ => mirror_repairs) (mirOp_eq rem fuel dom ▸ h)

/-- Mirror on a whole solution: every finite coordinate, fuel for a single pass. -/
theorem mirror_solution_in_bounds [FloorRing F] (sol : List F) (dom : List (F × F)) (fuel : Nat)
    (hl : sol.length = dom.length) (hd : ∀ d ∈ dom, d.1 < d.2) (hf : 1 ≤ fuel) :
    ∃ ys, zipDomainM (mirror remE fuel) sol dom = some ys ∧ ys.length = sol.length ∧
      ∀ k (hk : k < ys.length) (hk' : k < dom.length), dom[k].1 ≤ ys[k] ∧ ys[k] ≤ dom[k].2 :=
  zipDomainM_in_bounds (fun _ _ _ _ => mirror_repairs)
    (fun x d hm => (mirror_returns d.1 d.2 x (hd d hm) fuel hf).imp fun _ => And.left) sol

theorem onetailed_solution_repaired (dom : List (F × F)) (sol ys script rest : List F)
    (h : otnOp dom sol script = some (ys, rest)) : Repaired dom sol ys :=
  zipS_pointwise _ RepairedCoord (fun _ _ _ _ _ => oneTailedLoop_repairs) sol dom script ys rest
    ((oneTailedSolution_eq_zipS sol dom script).symm.trans h)

/-- The resampling operator on a whole solution: if it returns, every coordinate is within its own bounds. -/
theorem onetailed_solution_in_bounds (sol : List F) (dom : List (F × F)) (script ys rest : List F)
    (hl : sol.length = dom.length) (h : oneTailedSolution sol dom script = some (ys, rest)) :
    ∀ k (hk : k < ys.length) (hk' : k < dom.length), dom[k].1 ≤ ys[k] ∧ ys[k] ≤ dom[k].2 :=
  (onetailed_solution_repaired dom sol ys script rest h).allInside
end Solutions

/-! ### The driver `boundary_constraint`

`boundaryConstraint op stack s` is the driver on the population stack (last = current). -/

section Driver
variable {F : Type} [Field F] [LinearOrder F] [IsStrictOrderedRing F]

/-- A solution that is inside in every coordinate is returned unchanged by each operator, and the
random source is not touched. -/
theorem operators_fix_inside_solutions [FloorRing F] (rem : F → F → F) (fuel : Nat) (dom : List (F × F))
    (ys : List F) (script : List F) (h : AllInside dom ys) :
    satOp dom ys script = some (ys, script) ∧ torOp floorF dom ys script = some (ys, script) ∧
    mirOp rem fuel dom ys script = some (ys, script) ∧ otnOp dom ys script = some (ys, script) := by
  rw [satOp_eq, torOp_eq, mirOp_eq]
  exact ⟨zipOp_fixed (fun _ _ => saturation_fix_inside _ _ _) ys script h,
    zipOp_fixed (fun _ _ h1 h2 => congrArg some (toroidal_fix floorF h1 h2)) ys script h,
    zipOp_fixed (fun _ _ => mirror_fix rem fuel) ys script h,
    oneTailedSolution_fixed ys dom script h⟩

/-- The driver touches only the current population: the stack keeps its height, the populations
below are returned as they were, and the current one is what `constrainAll` makes of it.  On an empty
stack it does not return (`current_mut` panics). -/
theorem boundary_constraint_frame {S : Type} (op : List F → S → Option (List F × S))
    (stack stack' : List (List (List F))) (s s' : S) :
    boundaryConstraint op ([] : List (List (List F))) s = none ∧
    (boundaryConstraint op stack s = some (stack', s') →
      ∃ below top top', stack = below ++ [top] ∧ stack' = below ++ [top'] ∧
        constrainAll op top s = some (top', s')) :=
  ⟨boundaryConstraint_nil op s, boundaryConstraint_some op stack stack' s s'⟩

/-- Saturation through the driver: it returns; every solution of the current population is repaired
(in bounds per dimension, inside coordinates untouched, dimension kept), nothing else changes, and
applying it again changes nothing. -/
theorem saturation_population {S : Type} (dom : List (F × F)) (hd : ∀ d ∈ dom, d.1 ≤ d.2)
    (below : List (List (List F))) (top : List (List F)) (hdim : ∀ sol ∈ top, sol.length = dom.length) (s : S) :
    ∃ top', boundaryConstraint (satOp dom) (below ++ [top]) s = some (below ++ [top'], s) ∧
      List.Forall₂ (Repaired dom) top top' ∧
      ∀ s2 : S, boundaryConstraint (satOp dom) (below ++ [top']) s2 = some (below ++ [top'], s2) := by
  rw [satOp_eq]
  exact zipOp_population (fun _ _ _ _ => saturation_repairs) (fun _ _ => saturation_fix_inside _ _ _) below top s
    fun x d hm => (saturation_in_bounds x d.1 d.2 (hd d hm)).imp fun _ => And.left

theorem toroidal_population [FloorRing F] {S : Type} (dom : List (F × F)) (hd : ∀ d ∈ dom, d.1 < d.2)
    (below : List (List (List F))) (top : List (List F)) (s : S) :
    ∃ top', boundaryConstraint (torOp floorF dom) (below ++ [top]) s = some (below ++ [top'], s) ∧
      List.Forall₂ (Repaired dom) top top' ∧
      ∀ s2 : S, boundaryConstraint (torOp floorF dom) (below ++ [top']) s2 = some (below ++ [top'], s2) := by
  rw [torOp_eq]
  exact zipOp_population
    (fun x d hm _ hy => Option.some.inj hy ▸ toroidal_repairs floorF fract_bounds x (hd d hm))
    (fun _ _ h1 h2 => congrArg some (toroidal_fix floorF h1 h2)) below top s fun _ _ _ => ⟨_, rfl⟩

/-- Mirror through the driver: for EVERY population of solutions of the problem's dimension it returns
(fuel for a single pass of the loop suffices), repaired, frame kept, idempotent. -/
theorem mirror_population [FloorRing F] {S : Type} (dom : List (F × F)) (hd : ∀ d ∈ dom, d.1 < d.2)
    (fuel : Nat) (hf : 1 ≤ fuel)
    (below : List (List (List F))) (top : List (List F)) (hdim : ∀ sol ∈ top, sol.length = dom.length) (s : S) :
    ∃ top', boundaryConstraint (mirOp remE fuel dom) (below ++ [top]) s = some (below ++ [top'], s) ∧
      List.Forall₂ (Repaired dom) top top' ∧
      ∀ s2 : S, boundaryConstraint (mirOp remE fuel dom) (below ++ [top']) s2 = some (below ++ [top'], s2) := by
  rw [mirOp_eq]
  exact zipOp_population (fun _ _ _ _ => mirror_repairs) (fun _ _ => mirror_fix remE fuel) below top s
    fun x d hm => (mirror_returns d.1 d.2 x (hd d hm) fuel hf).imp fun _ => And.left

/-- The resampling operator through the driver, for every script of deviates: if it returns, the
frame is kept, every solution of the current population is repaired, and a second application —
with ANY further script — changes nothing and consumes nothing. -/
theorem onetailed_population (dom : List (F × F)) (stack stack' : List (List (List F)))
    (script rest : List F) (h : boundaryConstraint (otnOp dom) stack script = some (stack', rest)) :
    ∃ below top top', stack = below ++ [top] ∧ stack' = below ++ [top'] ∧
      List.Forall₂ (Repaired dom) top top' ∧
      ∀ script2 : List F, boundaryConstraint (otnOp dom) stack' script2 = some (stack', script2) := by
  obtain ⟨below, top, top', rfl, rfl, hc⟩ := boundaryConstraint_some (otnOp dom) stack stack' script rest h
  exact ⟨below, top, top', rfl, rfl, constrainAll_repairs (otnOp dom) dom (onetailed_solution_repaired dom)
    (fun ys s => oneTailedSolution_fixed ys dom s) below top top' script rest hc⟩

end Driver

/-! ### Every operator keeps the dimension of the solution -/

theorem repair_keeps_dimension {F : Type} (f : F → F × F → F) (g : F → F × F → Option F)
    (xs : List F) (dom : List (F × F)) :
    (zipDomain f xs dom).length = xs.length ∧
    (∀ ys, zipDomainM g xs dom = some ys → ys.length = xs.length) :=
  ⟨zipDomainM_length _ (zipDomainM_some f xs dom), zipDomainM_length⟩

theorem onetailed_keeps_dimension {F : Type} [Add F] [Sub F] [Mul F] [Div F] [LT F] [DecidableLT F] [OfNat F 3]
    (xs : List F) (dom : List (F × F)) (script ys rest : List F)
    (h : oneTailedSolution xs dom script = some (ys, rest)) : ys.length = xs.length :=
  (zipS_pointwise _ (fun _ _ _ => True) (fun _ _ _ _ _ _ => trivial) xs dom script ys rest
    ((oneTailedSolution_eq_zipS xs dom script).symm.trans h)).1

/-! ### Initialisation -/

/-- The initialisation driver pushes exactly one population and leaves the populations below alone;
its individuals are the generated solutions, all unevaluated. -/
theorem init_pushes_one {σ : Type} (stack : List (List (Ind σ))) (sols : List σ) :
    (initPush stack sols).length = stack.length + 1 ∧
    (initPush stack sols).take stack.length = stack ∧
    (initPush stack sols).getLast? = some (intoIndividuals sols) ∧
    (initEmpty stack).length = stack.length + 1 ∧ (initEmpty stack).getLast? = some [] := by
  simp [initPush, initEmpty]

/-- Whatever the generator returned (`RandomSpread`, `RandomPermutation`, `RandomBitstring` alike): the
pushed population holds exactly these solutions, in order, every one of them unevaluated. -/
theorem init_population_unevaluated {σ : Type} (stack : List (List (Ind σ))) (sols : List σ) :
    ∃ pop, (initPush stack sols).getLast? = some pop ∧ pop.length = sols.length ∧
      pop.map (·.sol) = sols ∧ ∀ ind ∈ pop, ind.evaluated = false := by
  refine ⟨intoIndividuals sols, by simp [initPush], by simp [intoIndividuals], ?_, ?_⟩
  · simp [intoIndividuals, Function.comp_def]
  · intro ind hind
    simp only [intoIndividuals, List.mem_map] at hind
    obtain ⟨_, _, rfl⟩ := hind
    rfl

/-- `RandomSpread` creates exactly `n` unevaluated individuals of the problem's dimension. -/
theorem init_count_dim_unevaluated {F : Type} (dom : List (F × F)) (n : Nat) (draw : Nat → Nat → F) :
    (intoIndividuals (randomSpread dom n draw)).length = n ∧
    (∀ i ∈ intoIndividuals (randomSpread dom n draw), i.evaluated = false ∧ i.sol.length = dom.length) := by
  constructor
  · simp [intoIndividuals, randomSpread]
  · intro i hi
    simp only [intoIndividuals, randomSpread, List.map_map, List.mem_map, List.mem_range] at hi
    obtain ⟨k, _, rfl⟩ := hi
    simp

/-- The sampler's contract, per draw: the value returned for coordinate `j` of any individual lies in
the range that was passed to THAT call, i.e. `domain[j]` (half-open, as `gen_range(a..b)` promises). -/
def SamplerContract {F : Type} [LT F] [LE F] (dom : List (F × F)) (draw : Nat → Nat → F) : Prop :=
  ∀ i j (hj : j < dom.length), dom[j].1 ≤ draw i j ∧ draw i j < dom[j].2

/-- The assembled population of `RandomSpread`: pushed as ONE new population of exactly `n`
unevaluated individuals, each of the problem's dimension, every coordinate `k` of every individual
within the bounds of ITS OWN dimension `k` — for per-dimension different ranges. -/
theorem random_spread_population {F : Type} [LT F] [LE F] (stack : List (List (Ind (List F))))
    (dom : List (F × F)) (n : Nat) (draw : Nat → Nat → F) (hc : SamplerContract dom draw) :
    (initPush stack (randomSpread dom n draw)).length = stack.length + 1 ∧
    ∃ pop, (initPush stack (randomSpread dom n draw)).getLast? = some pop ∧ pop.length = n ∧
      ∀ ind ∈ pop, ind.evaluated = false ∧ ind.sol.length = dom.length ∧
        ∀ k (hk : k < ind.sol.length) (hd : k < dom.length), dom[k].1 ≤ ind.sol[k] ∧ ind.sol[k] < dom[k].2 := by
  obtain ⟨hl, _, hlast, _⟩ := init_pushes_one stack (randomSpread dom n draw)
  obtain ⟨hn, hall⟩ := init_count_dim_unevaluated dom n draw
  refine ⟨hl, _, hlast, hn, fun ind hind => ⟨(hall ind hind).1, (hall ind hind).2, ?_⟩⟩
  simp only [intoIndividuals, randomSpread, List.map_map, List.mem_map, List.mem_range] at hind
  obtain ⟨i, _, rfl⟩ := hind
  intro k hk hd
  simpa using hc i k hd

/-- A sampler that ignores the per-coordinate range (one range for all coordinates) does NOT satisfy
the contract on a domain with different ranges: the hypothesis is about the sampler, not the result. -/
example : ¬ SamplerContract [((0 : Int), (1 : Int)), (10, 20)] (fun _ _ => 0) := by
  intro h; have := (h 0 1 (by decide)).1; revert this; decide
example : SamplerContract [((0 : Int), (1 : Int)), (10, 20), (-5, -4)]
    (fun _ j => if j = 0 then 0 else if j = 1 then 15 else -5) := by
  intro i j hj
  match j, hj with
  | 0, _ => simp
  | 1, _ => simp
  | 2, _ => simp

/-- `RandomPermutation`: for every legal shuffle witness each individual is a permutation of all
positions `0..dim`, and there are exactly `n` of them. -/
theorem random_permutation_perm (dim n : Nat) (σ : Nat → List Nat) (pops : List (List Nat))
    (h : randomPermutation dim n σ = some pops) (hσ : ∀ i < n, (σ i).Perm (List.range dim)) :
    pops.length = n ∧ ∀ p ∈ pops, p.Perm (List.range dim) := by
  unfold randomPermutation at h
  refine ⟨(mapM_length _ _ _ h).trans List.length_range, fun p hp => ?_⟩
  obtain ⟨i, hi, hsh⟩ := exists_of_mem_mapM _ _ _ h p hp
  exact shuffleBy_perm (σ i) (List.range dim) p hsh (by simpa using hσ i (List.mem_range.1 hi))

/-- … and for legal witnesses the model does not panic (every `σ i` has a source for each position). -/
theorem random_permutation_returns (dim n : Nat) (σ : Nat → List Nat)
    (hσ : ∀ i < n, (σ i).Perm (List.range dim)) :
    ∃ pops, randomPermutation dim n σ = some pops :=
  mapM_returns _ _ fun i hi => shuffleBy_returns (σ i) (List.range dim) fun _ hj =>
    ((hσ i (List.mem_range.mp hi)).mem_iff.mp hj |> List.mem_range.mp).trans_eq List.length_range.symm

/-- `RandomBitstring` with a probability in `[0,1]` creates `n` bitstrings of the problem's dimension. -/
theorem random_bitstring_shape (dim n : Nat) (bit : Nat → Nat → Bool) :
    ∃ pops, randomBitstring dim n true bit = some pops ∧ pops.length = n ∧ ∀ s ∈ pops, s.length = dim := by
  unfold randomBitstring
  by_cases hn : n = 0
  · subst hn; exact ⟨[], by simp, rfl, by simp⟩
  · refine ⟨(List.range n).map fun i => (List.range dim).map fun j => bit i j, by simp [hn], by simp, ?_⟩
    intro s hs
    simp only [List.mem_map, List.mem_range] at hs
    obtain ⟨i, _, rfl⟩ := hs
    simp

/-! Non-vacuity: the hypotheses are satisfiable on concrete inputs (integer arithmetic). -/
example : saturation (7 : Int) (-1, 1) = some 1 := by decide
example : saturation (7 : Int) (3, 3) = some 3 := by decide
example : mirrorIter (-1 : Int) 1 3 7 = -1 := by decide
example : mirrorLoop (-10 : Int) 10 5 (-65) = some 5 := by decide
example : oneTailedLoop (0 : Int) 9 [5, 1] (-4) = some (6, []) := by decide
example : randomPermutation 3 2 (fun i => if i = 0 then [2, 0, 1] else [1, 0, 2]) = some [[2, 0, 1], [1, 0, 2]] := by decide +kernel
example : ([2, 0, 1] : List Nat).Perm (List.range 3) := by decide
example : ∀ d ∈ [((-1 : Rat), (1 : Rat)), (0, 10)], d.1 < d.2 := by
  intro d hd; simp at hd; rcases hd with rfl | rfl <;> decide +kernel
example : (0 : Rat) ≤ 7 ∧ (7 : Rat) ≤ 10 - 0 := by decide +kernel
/-- the fold on a concrete far coordinate (integer carrier, `rem_euclid` = `Int.emod`): 1e17 on [-1,1] -/
example : mirror (fun x m : Int => x % m) 1 100000000000000000 (-1, 1) = some 0 := by decide +kernel
example : mirror (fun x m : Int => x % m) 1 (-65) (-10, 10) = some 5 := by decide
example : mirrorStepwise 5 (-65 : Int) (-10, 10) = some 5 := by decide
/-- the driver on a stack of two populations (integer carrier): only the current one is repaired -/
example : boundaryConstraint (satOp [((-1 : Int), 1), (0, 10)]) [[[5, 50]], [[-7, 3], [0, 12]]] () =
    some ([[[5, 50]], [[-1, 3], [0, 10]]], ()) := by decide +kernel
example : boundaryConstraint (mirOp (fun x m : Int => x % m) 1 [((-1 : Int), 1), (0, 10)]) [[[5, 50]], [[-7, 3], [0, 12]]] () =
    some ([[[5, 50]], [[1, 3], [0, 8]]], ()) := by decide +kernel
example : boundaryConstraint (otnOp [((0 : Int), 9)]) [[[-4], [5]]] [6, 1] = some ([[[6], [5]]], []) := by decide +kernel
/-- a coordinate within one width: the hypotheses of `mirror_near_is_stepwise` -/
example : (-1 : Rat) - (1 - (-1)) ≤ -3 ∧ (-3 : Rat) ≤ 1 + (1 - (-1)) := by decide +kernel

end MahfModel.Props.C14
