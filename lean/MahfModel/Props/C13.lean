/-
C13 — Variation operators keep solutions well-formed and conserve parental genes.
-/
import MahfModel.Props.C13Guards
import MahfModel.Props.C13Helpers
import MahfModel.Props.C13Crossover
import MahfModel.Props.C13Components
import MahfModel.Props.C13Population
