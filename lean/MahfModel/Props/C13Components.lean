/- C13 — the components on one solution or one pair, as functions of explicit witnesses (the theorems quantify over every
   legal witness): mutations, crossover components, the `recombine` frame and its gate, differential evolution. -/
import MahfModel.Props.C13Helpers
import MahfModel.Props.C13Crossover
import MahfModel.Proofs.C13Swap
import MahfModel.Proofs.C13Transloc
import MahfModel.Proofs.C13
import MahfModel.Proofs.C13Pop
import MahfModel.Proofs.ListIndex
import Mathlib.Tactic.Ring
namespace MahfModel.Props.C13
open MahfModel.Variation

variable {α : Type}

/-- Real- and bit-valued rate-gated mutations keep the dimension, whatever the gate did. -/
theorem mutation_keeps_dimension {F : Type} [Add F] (mask : List Bool) (vals sol : List α)
    (deltas xs : List F) (bits : List Bool) :
    (gated mask vals sol).length = sol.length ∧ (resample mask vals sol).length = sol.length ∧
    (addDeltas mask deltas xs).length = xs.length ∧ (bitFlip mask bits).length = bits.length :=
  ⟨gated_length _ _ _, gated_length _ _ _, gated_length _ _ _, gated_length _ _ _⟩

/-- A mutation rate of zero (`gen_bool(0)` never fires: every legal mask is all-false) leaves every
solution unchanged. -/
theorem rate_zero_is_identity {F : Type} [Add F] (rmOne : Bool) (mask : List Bool) (vals sol : List α)
    (deltas xs : List F) (bits : List Bool) :
    (maskLegal true rmOne mask sol.length = true → gated mask vals sol = sol) ∧
    (maskLegal true rmOne mask xs.length = true → addDeltas mask deltas xs = xs) ∧
    (maskLegal true rmOne mask bits.length = true → bitFlip mask bits = bits) := by
  refine ⟨?_, ?_, ?_⟩ <;> intro h <;>
    simp only [maskLegal, Bool.not_true, Bool.false_or, Bool.and_eq_true] at h <;>
    exact gated_all_false _ _ _ h.1.2

/-- Swap, inversion, insertion, translocation and scramble return a permutation of the solution
for every legal witness, and never panic or err on it. -/
theorem permutation_mutations_perm (sol : List α) :
    (∀ k w, 2 ≤ k → k ≤ sol.length → swapLegal k sol.length w = true →
      ∃ r, swapMutation k sol w = .ok r ∧ r.Perm sol) ∧
    (∀ w, inversionLegal sol.length w = true → ∃ r, inversionMutation sol w = some r ∧ r.Perm sol) ∧
    (∀ w, insertionLegal sol.length w = true → ∃ r, insertionMutation sol w = some r ∧ r.Perm sol) ∧
    (∀ w, translocationLegal sol.length w = true → ∃ r, translocationMutation sol w = some r ∧ r.Perm sol) ∧
    (∀ rmZero σ, scrambleLegal rmZero sol.length σ = true →
      ∃ r, scrambleMutation sol σ = some r ∧ r.Perm sol ∧ (rmZero = true → r = sol)) := by
  refine ⟨fun k w hk hk2 h => ?_, fun w h => ?_, fun w h => ?_, fun w h => ?_, fun rmZero σ h => ?_⟩
  · simp only [swapLegal, Bool.and_eq_true, beq_iff_eq, nodupNat_iff, allBelow_iff] at h
    obtain ⟨⟨hl, hn⟩, hr⟩ := h
    obtain ⟨r, e, _⟩ := circularSwap_cyc sol w hn (by omega) hr
    refine ⟨r, ?_, circular_swap_perm sol r w e⟩
    unfold swapMutation
    have : ¬ sol.length < k := by omega
    simp [this, e]
  · cases w with
    | none => exact ⟨sol, rfl, List.Perm.refl _⟩
    | some se =>
      obtain ⟨s, e⟩ := se
      simp only [inversionLegal, Bool.and_eq_true, decide_eq_true_eq] at h
      exact reverseSlice_perm sol s e (by omega) (by omega)
  · simp only [insertionLegal, Bool.and_eq_true, decide_eq_true_eq] at h
    exact translocate_perm sol _ _ _ ((translocValid_iff _ _ _ _).mpr (by omega))
  · cases w with
    | none => exact ⟨sol, rfl, List.Perm.refl _⟩
    | some sei =>
      obtain ⟨s, e, i⟩ := sei
      simp only [translocationLegal, Bool.and_eq_true, decide_eq_true_eq] at h
      exact translocate_perm sol s e i ((translocValid_iff _ s e i).mpr (by omega))
  · simp only [scrambleLegal, Bool.and_eq_true, Bool.or_eq_true, Bool.not_eq_true', beq_iff_eq] at h
    obtain ⟨hp, hz⟩ := h
    have hperm : σ.Perm (List.range sol.length) := List.isPerm_iff.mp hp
    obtain ⟨r, hr⟩ := mapM_getElem?_returns σ sol fun i hi => List.mem_range.mp (hperm.mem_iff.mp hi)
    refine ⟨r, hr, perm_of_mapM_getElem? σ sol r hr hperm, fun hz' => ?_⟩
    rcases hz with hz | hz
    · rw [hz'] at hz; cases hz
    · subst hz
      exact eq_of_mapM_getElem?_range sol r hr

/-- Legal witnesses exist for every solution length (the quantifiers above are not vacuous). -/
theorem permutation_witnesses_exist (n : Nat) :
    (2 ≤ n → swapLegal 2 n [0, 1] = true) ∧
    (inversionLegal n (if n < 2 then none else some (0, 1)) = true) ∧
    (0 < n → insertionLegal n (0, 0) = true) ∧
    (translocationLegal n (if n < 2 then none else some (0, 1, 0)) = true) ∧
    (scrambleLegal false n (List.range n).reverse = true) := by
  refine ⟨?_, ?_, ?_, ?_, ?_⟩
  · intro h; simp [swapLegal, nodupNat, allBelow]; omega
  · split <;> simp [inversionLegal] <;> omega
  · intro h; simp [insertionLegal, h]
  · split <;> simp [translocationLegal] <;> omega
  · simp only [scrambleLegal, Bool.not_false, Bool.true_or, Bool.and_true]
    exact List.isPerm_iff.mpr (List.reverse_perm _)

/-! ### `NPointCrossover` / `UniformCrossover` as components (`recombine` on one pair) -/

/-- `NPointCrossover` with `1 ≤ n < dim` on parents of the problem's dimension: for every legal
witness (the `n` distinct cut positions `choose_multiple` returned) no panic, and the child(ren)
are position-wise with both genes conserved. Partial: the region `n = 0 ∨ n ≥ dim`, which the
constructor also accepts, is excluded — see `npoint_n_out_of_range_violates`. -/
theorem npoint_component_partial (n : Nat) (p1 p2 : List α) (cuts : List Nat) (hl : p1.length = p2.length)
    (h1 : 1 ≤ n) (h2 : n < p1.length) (hc : nPointLegal n p1.length cuts = true) (insertBoth : Bool) :
    ∃ c1 c2, nPointRecombine true cuts insertBoth p1 p2 = some (OptPair.fromPair (c1, c2) insertBoth) ∧
      c1.length = p1.length ∧ c2.length = p1.length ∧
      ∀ k : Nat, (c1[k]? = p1[k]? ∧ c2[k]? = p2[k]?) ∨ (c1[k]? = p2[k]? ∧ c2[k]? = p1[k]?) := by
  obtain ⟨hne, hlt, hr⟩ := nPointLegal_cuts h1 h2 hc
  obtain ⟨c1, c2, h, l1, l2, hk⟩ := multi_point_positionwise p1 p2 cuts hl hne hlt hr
  exact ⟨c1, c2, by rw [nPointRecombine, h]; rfl, l1, l2, fun k => conserved_of_pick (hk k).1 (hk k).2⟩

/-- The full statement (no panic for every `n` the constructor accepts), kept visible; it is refuted below. -/
def npoint_component_full : Prop :=
  ∀ (n : Nat) (p1 p2 : List Nat) (cuts : List Nat), p1.length = p2.length → 0 < p1.length →
    nPointLegal n p1.length cuts = true → (nPointRecombine true cuts true p1 p2).isSome

/-- Counterexample region: with `n = 0` or `n ≥ dim` EVERY legal witness makes a crossed pair panic
in the `#[requires]` contract of `multi_point_crossover` (an empty cut list, resp. as many cuts as genes). -/
theorem npoint_n_out_of_range_violates (n : Nat) (p1 p2 : List α) (cuts : List Nat)
    (hc : nPointLegal n p1.length cuts = true) (hbad : n = 0 ∨ p1.length ≤ n) (insertBoth : Bool) :
    nPointRecombine true cuts insertBoth p1 p2 = none := by
  simp only [nPointLegal, Bool.and_eq_true, beq_iff_eq] at hc
  obtain ⟨⟨hlen, _⟩, _⟩ := hc
  simp only [nPointRecombine, recombine, if_true, multiPointCrossover]
  rcases hbad with h0 | hge
  · have : cuts = [] := by
      apply List.eq_nil_of_length_eq_zero; rw [hlen, h0]; simp
    simp [this]
  · have hl : cuts.length = p1.length := by rw [hlen]; exact Nat.min_eq_right hge
    by_cases he : cuts.isEmpty = true
    · simp [he]
    · simp [he, hl]

theorem npoint_component_full_refuted : ¬ npoint_component_full := by
  intro h
  have := h 0 [1, 2] [3, 4] [] rfl (by decide) (by decide)
  revert this; decide

/-- `UniformCrossover` on a pair of the problem's dimension: no panic for every mask, position-wise. -/
theorem uniform_component (p1 p2 : List α) (mask : List Bool) (hl : p1.length = p2.length)
    (hm : mask.length = min p1.length p2.length) (insertBoth : Bool) :
    ∃ c1 c2, uniformRecombine true mask insertBoth p1 p2 = some (OptPair.fromPair (c1, c2) insertBoth) ∧
      ∀ k : Nat, k < p1.length →
        (c1[k]? = p1[k]? ∧ c2[k]? = p2[k]?) ∨ (c1[k]? = p2[k]? ∧ c2[k]? = p1[k]?) := by
  obtain ⟨c1, c2, h, hk⟩ := uniform_genes_conserved p1 p2 mask hl (by omega)
  exact ⟨c1, c2, by simp [uniformRecombine, recombine, h], hk⟩

/-- Offspring counts: every pair contributes both parents (no crossover), one child (insert-one) or
two children (insert-both); an odd remainder passes through. -/
theorem recombination_counts {β : Type} (parents : List β) (rs : List (OptPair β))
    (h : rs.length = parents.length / 2) :
    (frame parents rs).length =
      2 * countNone rs + countSingle rs + 2 * countBoth rs + parents.length % 2 := by
  fun_induction frame parents rs
  case case4 parents rs hno =>
    have hlt := pairs_done hno h.ge
    obtain rfl := List.eq_nil_of_length_eq_zero (h.trans (Nat.div_eq_of_lt hlt))
    exact (Nat.zero_add _).symm.trans (congrArg _ (Nat.mod_eq_of_lt hlt).symm)
  all_goals
    rename_i ih
    rw [List.length_cons, List.length_cons, List.length_cons, Nat.add_div_right _ Nat.zero_lt_two] at h
    simp only [List.length_cons, countNone, countSingle, countBoth, ih (Nat.succ.inj h), Nat.add_assoc,
      Nat.reduceAdd, Nat.add_mod_right]
    ring

/-- What one `recombine` call contributes follows the crossover decision and `insert_both`. -/
theorem recombine_cases {β : Type} (crossed insertBoth : Bool) (c : β × β) :
    recombine crossed (some c) insertBoth =
      some (if crossed then (if insertBoth then .both c.1 c.2 else .single c.1) else .none) := by
  cases crossed <;> cases insertBoth <;> rfl

section Gate
variable {F : Type} [Field F] [LinearOrder F] [IsStrictOrderedRing F]

/-- The crossover gate `u < pc` for a uniform draw `u ∈ [0,1)`: a pair is crossed exactly when the
draw is below the probability; hence probability 0 never crosses and probability 1 always
crosses, for every draw. -/
theorem crossover_gate (u pc : F) (h0 : 0 ≤ u) (h1 : u < 1) :
    (crossedBy u pc = true ↔ u < pc) ∧ crossedBy u 0 = false ∧ crossedBy u 1 = true := by
  refine ⟨by simp [crossedBy], ?_, ?_⟩
  · simp [crossedBy, not_lt.mpr h0]
  · simp [crossedBy, h1]

/-- With crossover probability 0 the population passes through `recombination` unchanged, whatever
the draws and whatever the crossover helper would return. -/
theorem recombination_pc_zero_identity {β : Type} (parents : List β) (us : List F) (hu : ∀ u ∈ us, 0 ≤ u)
    (children : List (Option (β × β))) (insertBoth : Bool) (rs : List (OptPair β))
    (hrs : (List.zipWith (fun u c => recombine (crossedBy u 0) c insertBoth) us children) = rs.map some) :
    frame parents rs = parents := by
  have hall : ∀ r ∈ rs, r = OptPair.none := by
    intro r hr
    have : some r ∈ rs.map some := List.mem_map.mpr ⟨r, hr, rfl⟩
    rw [← hrs] at this
    obtain ⟨i, hi, hget⟩ := List.getElem_of_mem this
    simp only [List.getElem_zipWith] at hget
    have hlt : i < us.length := by simp only [List.length_zipWith] at hi; omega
    have : crossedBy us[i] (0 : F) = false := by
      simp [crossedBy, not_lt.mpr (hu _ (List.getElem_mem hlt))]
    rw [this] at hget
    simpa [recombine] using hget.symm
  exact frame_none_id parents rs hall
end Gate

section DE
variable {F : Type} [Field F]

/-- `DEMutation` accepts exactly the populations whose length is a multiple of `2y+1` and returns
one mutant per group, each of the dimension of a member of the population. -/
theorem de_mutation_format (y : Nat) (f : F) (pop : List (List F)) :
    (deMutation y f pop = .err ↔ pop.length % (y * 2 + 1) ≠ 0) ∧
    (∀ r, deMutation y f pop = .ok r →
      pop.length % (y * 2 + 1) = 0 ∧ r.length = pop.length / (y * 2 + 1) ∧
      ∀ m ∈ r, ∃ b ∈ pop, m.length = b.length) := by
  unfold deMutation
  simp only
  by_cases h : pop.length % (y * 2 + 1) = 0
  · simp only [h, ne_eq, not_true_eq_false, if_false]
    refine ⟨by simp, ?_⟩
    intro r hr
    injection hr with hr
    subst hr
    have := deChunks_spec f (y * 2 + 1) (by omega) pop.length pop (Nat.div_le_self _ _)
    exact ⟨trivial, this.1, this.2⟩
  · simp only [ne_eq, h, not_false_eq_true, if_true]
    refine ⟨by simp, ?_⟩
    intro r hr; cases hr
end DE

/-- DE binomial / exponential crossover: the trial vector keeps the dimension and every position
holds the mutant's or the base's coordinate, for every mask. -/
theorem de_crossover_positionwise (dim : Nat) (mask : List Bool) (mutant base : List α)
    (h1 : dim ≤ mutant.length) (h2 : dim ≤ base.length) :
    ∃ r, deCross dim mask mutant base = some r ∧ r.length = mutant.length ∧
      ∀ i : Nat, r[i]? = mutant[i]? ∨ r[i]? = base[i]? := by
  unfold deCross
  have : ¬ (mutant.length < dim ∨ base.length < dim) := by omega
  simp only [this, if_false]
  exact ⟨_, rfl, gated_length _ _ _, fun i => gated_positionwise mask base mutant i⟩

/-! Evaluations: legal witnesses and gates on concrete values. -/
example : deBinLegal false false 4 [false, true, false, true] = true := by decide +kernel
example : deExpLegal false false 4 [true, false, false, true] = true := by decide +kernel
example : deExpLegal true false 4 [false, false, true, false] = true := by decide +kernel
example : deMutation 1 (2 : Int) [[1, 1], [5, 0], [2, 7], [0, 0], [1, 1], [1, 1]] = .ok [[7, -13], [0, 0]] := by decide +kernel
example : maskLegal true false [false, false, false] 3 = true := by decide +kernel
example : nPointLegal 2 5 [4, 1] = true ∧ nPointLegal 0 2 [] = true ∧ nPointLegal 7 2 [1, 0] = true := by decide +kernel
/-- the smallest draw of `[0,1)` does not cross at probability 0 and crosses at probability 1 -/
example : crossedBy (0 : Int) 0 = false ∧ crossedBy (0 : Int) 1 = true := by decide +kernel
example : (0 : Rat) ≤ 0 ∧ (0 : Rat) < 1 ∧ (0 : Rat) ≤ 999 / 1000 ∧ (999 / 1000 : Rat) < 1 := by decide +kernel
example : frame [[100, 101], [200, 201]]
    ((recombine (crossedBy (0 : Int) 0) (multiPointCrossover [100, 101] [200, 201] [1]) false).toList)
    = [[100, 101], [200, 201]] := by decide +kernel
example : deCrossExec 0 [] ([] : List Nat) [] = none ∧ deCrossExec 2 [true, false] [1, 2] [8, 9] = some [8, 2] := by decide +kernel

end MahfModel.Props.C13
