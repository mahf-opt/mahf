/-
C12 — histories of replacement steps.
The per-step theorems of `Props/C12.lean` lifted to every finite sequence of replacement operators
executed one after the other on a population stack (the way a heuristic's loop body chains them):
as long as every step returns `Ok`, each step lowers the stack by exactly one population, leaves
everything below the two consumed populations untouched, and never invents or duplicates an
individual — the individuals of the whole stack afterwards are a sub-multiset of those before.
-/
import MahfModel.Props.C12
namespace MahfModel.Props.C12
open MahfModel.Replacement

variable {F : Type} [Preorder F] [DecidableLE F] [DecidableLT F]

/-- Run replacement operators in order; stop at the first step that is not `Ok`. -/
def runOps : List (Op × List Nat) → List (Pop F) → List (Pop F) × Outcome
  | [], st => (st, .ok)
  | (op, w) :: rest, st =>
    match step op w st with
    | (st', .ok) => runOps rest st'
    | (st', o) => (st', o)

/-- Every witness of the history is a permutation of the positions of the two populations it is
applied to (what `shuffle` / `sort_unstable` can produce). -/
def LegalRun : List (Op × List Nat) → List (Pop F) → Prop
  | [], _ => True
  | (op, w) :: rest, st =>
    match st with
    | offspring :: parents :: _ =>
      Legal w (parents ++ offspring).length ∧ LegalRun rest (step op w st).1
    | _ => True

/-- One successful step: height − 1, rest untouched, individuals of the stack conserved. -/
theorem step_ok_conserves (op : Op) (w : List Nat) (st st' : List (Pop F))
    (hl : LegalRun [(op, w)] st) (h : step op w st = (st', .ok)) :
    st'.length + 1 = st.length ∧ st'.drop 1 = st.drop 2 ∧ SubBag st'.flatten st.flatten := by
  obtain ⟨offspring, parents, rest, r, rfl, hr, rfl⟩ := step_eq_ok h
  refine ⟨rfl, rfl, ?_⟩
  obtain ⟨x, hx⟩ := subBag_append_right rest.flatten (replace_subbag op w parents offspring r hl.1 hr)
  refine ⟨x, hx.trans ?_⟩
  simp only [List.flatten_cons, ← List.append_assoc]
  exact List.perm_append_comm.append_right _

/-- **Histories.** If a whole sequence of replacement steps returns `Ok`, the stack is lower by
exactly the number of steps, everything below the consumed populations is untouched, and the
individuals of the final stack are a sub-multiset of those of the initial stack. -/
theorem runOps_ok_conserves (ops : List (Op × List Nat)) (st st' : List (Pop F))
    (hl : LegalRun ops st) (h : runOps ops st = (st', .ok)) :
    st'.length + ops.length = st.length ∧ st'.drop 1 = st.drop (ops.length + 1) ∧
      SubBag st'.flatten st.flatten := by
  induction ops generalizing st with
  | nil => cases h; exact ⟨rfl, rfl, subBag_refl _⟩
  | cons ow ops ih =>
    obtain ⟨op, w⟩ := ow
    dsimp only [runOps] at h
    cases hs : step op w st with
    | mk st1 out =>
      rw [hs] at h
      cases out with
      | ok =>
        obtain ⟨o, p, rest, r, rfl, -, rfl⟩ := step_eq_ok hs
        have hl2 := hl.2
        rw [hs] at hl2
        obtain ⟨-, -, a3⟩ := step_ok_conserves op w (o :: p :: rest) (r :: rest) ⟨hl.1, trivial⟩ hs
        obtain ⟨b1, b2, b3⟩ := ih _ hl2 h
        exact ⟨by rw [List.length_cons, ← Nat.add_assoc, b1]; rfl, b2, subBag_trans b3 a3⟩
      | err => cases h
      | panic => cases h

/-- A failing step ends the history with its outcome; nothing later runs (by definition of `runOps`). -/
theorem runOps_stops_at_first_failure (op : Op) (w : List Nat) (rest : List (Op × List Nat))
    (st st' : List (Pop F)) (o : Outcome) (ho : o ≠ .ok) (h : step op w st = (st', o)) :
    runOps ((op, w) :: rest) st = (st', o) := by
  cases o <;> simp_all [runOps]

/-- Non-vacuity: a two-step history (merge, then μ+λ with μ = 2) on three populations. -/
example : (runOps [(.merge, []), (.muPlusLambda 2, [0, 1, 2, 3])]
    [exOffspring, exParents, [⟨9, some 1⟩]]).2 = Outcome.ok := by decide +kernel

end MahfModel.Props.C12
