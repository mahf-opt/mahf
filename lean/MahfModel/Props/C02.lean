/-
C02 — dynamic borrows: many readers xor one writer per type; conflicts are errors; multi-borrow;
`holding` puts the state back. The property theorems (those on the multi-borrow: `Props/C02Multi.lean`); the lemmas
they rest on are in `Proofs/C02*.lean`.

Objects: `M` = registry (cells carry the `RefCell` flag) + the ghost list of the client's live guards;
`sharedOn gs i k` / `exclOn gs i k` = number of live shared / exclusive guards on the cell of type `k` in
the `i`-th scope; `FlagInv m` = every flag equals the live guards on its cell, at most one exclusive guard,
never an exclusive one next to a shared one, every guard sits on an existing cell.
-/
import MahfModel.Proofs.C02
import MahfModel.Proofs.C02Ext
import MahfModel.Proofs.C02Repair
namespace MahfModel.Props.C02
open MahfModel.Registry MahfModel.Borrow

/-- `flag_inv`, one step: every request (acquire, release, read, write, `&self` method, `&mut` statement
incl. `holding` / `with_inner_state`) keeps the flags equal to the live guards. -/
theorem flag_inv_step (m : M) (op : MOp) (h : FlagInv m) : FlagInv (mstep m op).1 := mstep_inv m op h

/-- `flag_inv`: in every reachable state. -/
theorem flag_inv (ops : List MOp) : FlagInv (mrun M.init ops).1 := mrun_inv M.init ops flagInv_init

/-! ### Borrow requests: through `parent()` at any distance `d` (the same type in another scope), then on the
current registry (`d = 0`) -/

/-- `parent()^d . try_borrow(_mut)::<k>()`: granted iff the `d`-th parent exists, the type resolves from THERE
(innermost scope at or above it) to a cell without a live exclusive guard (shared request) / without any live
guard (exclusive request). Guards on the cells of the same type in scopes below the `d`-th parent, or above the
resolved one, do not enter the condition. -/
theorem grant_iff_parent (m : M) (h : FlagInv m) (d : Nat) (k : Key) :
    (granted (mstep m (.parBor d k)).2 ↔
      d < m.reg.length ∧ ∃ i, find (m.reg.drop d) k = some i ∧ exclOn m.guards (d + i) k = 0) ∧
    (granted (mstep m (.parBorMut d k)).2 ↔
      d < m.reg.length ∧ ∃ i, find (m.reg.drop d) k = some i ∧ exclOn m.guards (d + i) k = 0 ∧
        sharedOn m.guards (d + i) k = 0) :=
  ⟨granted_par_iff m h d k false, granted_par_iff m h d k true⟩

/-- … and a request through `parent()^d` that is not granted changes nothing and is answered "no such parent",
`NotFound`, or the borrow-conflict error of its kind. -/
theorem refused_never_granted_parent (m : M) (h : FlagInv m) (d : Nat) (k : Key) :
    (¬ granted (mstep m (.parBor d k)).2 → (mstep m (.parBor d k)).1 = m ∧
      (((mstep m (.parBor d k)).2 = [.noParent] ∧ ¬ d < m.reg.length) ∨
       ((mstep m (.parBor d k)).2 = [.err .notFound] ∧ find (m.reg.drop d) k = none) ∨
       ((mstep m (.parBor d k)).2 = [.err .conflictImm] ∧
          ∃ i, find (m.reg.drop d) k = some i ∧ exclOn m.guards (d + i) k = 1))) ∧
    (¬ granted (mstep m (.parBorMut d k)).2 → (mstep m (.parBorMut d k)).1 = m ∧
      (((mstep m (.parBorMut d k)).2 = [.noParent] ∧ ¬ d < m.reg.length) ∨
       ((mstep m (.parBorMut d k)).2 = [.err .notFound] ∧ find (m.reg.drop d) k = none) ∨
       ((mstep m (.parBorMut d k)).2 = [.err .conflictMut] ∧
          ∃ i, find (m.reg.drop d) k = some i ∧
            0 < exclOn m.guards (d + i) k + sharedOn m.guards (d + i) k))) :=
  ⟨refused_par m h d k false, refused_par m h d k true⟩

/-- On the current registry (`d = 0`): a shared request is granted iff the type resolves (innermost scope holding
it) to a cell without a live exclusive guard; an exclusive request iff that cell has no live guard at all. -/
theorem grant_iff (m : M) (h : FlagInv m) (k : Key) :
    (granted (mstep m (.bor k)).2 ↔ ∃ i, find m.reg k = some i ∧ exclOn m.guards i k = 0) ∧
    (granted (mstep m (.borMut k)).2 ↔
      ∃ i, find m.reg k = some i ∧ exclOn m.guards i k = 0 ∧ sharedOn m.guards i k = 0) := by
  rw [(mstep_bor_eq_par m h.ne k).1, (mstep_bor_eq_par m h.ne k).2]
  simpa only [List.drop_zero, Nat.zero_add, List.length_pos_iff.mpr h.ne, true_and] using grant_iff_parent m h 0 k

/-- A request that is not granted leaves registry, flags and guards exactly as they were, and is answered
`NotFound` (type absent) or the borrow-conflict error of its kind (a live exclusive guard for a shared
request; any live guard for an exclusive one). -/
theorem refused_never_granted (m : M) (h : FlagInv m) (k : Key) :
    (¬ granted (mstep m (.bor k)).2 → (mstep m (.bor k)).1 = m ∧
      (((mstep m (.bor k)).2 = [.err .notFound] ∧ find m.reg k = none) ∨
       ((mstep m (.bor k)).2 = [.err .conflictImm] ∧ ∃ i, find m.reg k = some i ∧ exclOn m.guards i k = 1))) ∧
    (¬ granted (mstep m (.borMut k)).2 → (mstep m (.borMut k)).1 = m ∧
      (((mstep m (.borMut k)).2 = [.err .notFound] ∧ find m.reg k = none) ∨
       ((mstep m (.borMut k)).2 = [.err .conflictMut] ∧
          ∃ i, find m.reg k = some i ∧ 0 < exclOn m.guards i k + sharedOn m.guards i k))) := by
  rw [(mstep_bor_eq_par m h.ne k).1, (mstep_bor_eq_par m h.ne k).2]
  simpa only [List.drop_zero, Nat.zero_add, List.length_pos_iff.mpr h.ne, not_true_eq_false, and_false, false_or]
    using refused_never_granted_parent m h 0 k

/-- Each panicking accessor either panics and changes nothing, or does what its `try_` variant does. -/
theorem panicking_accessors (m : M) (k : Key) :
    ((mstep m (.borP k)).2 = [.panic] ∧ (mstep m (.borP k)).1 = m ∨ mstep m (.borP k) = mstep m (.bor k)) ∧
    ((mstep m (.borMutP k)).2 = [.panic] ∧ (mstep m (.borMutP k)).1 = m ∨
      mstep m (.borMutP k) = mstep m (.borMut k)) := by
  constructor
  · simp only [mstep]; cases tryBorrow m.reg k <;> simp
  · simp only [mstep]; cases tryBorrowMut m.reg k <;> simp

/-- The outcome of a request for the cell `(i, k)` depends only on the live guards on that cell. -/
theorem noninterference (m m' : M) (h : FlagInv m) (h' : FlagInv m') (k : Key) (i : Nat)
    (hf : find m.reg k = some i) (hf' : find m'.reg k = some i)
    (hs : sharedOn m'.guards i k = sharedOn m.guards i k) (he : exclOn m'.guards i k = exclOn m.guards i k) :
    (granted (mstep m' (.bor k)).2 ↔ granted (mstep m (.bor k)).2) ∧
    (granted (mstep m' (.borMut k)).2 ↔ granted (mstep m (.borMut k)).2) := by
  obtain ⟨a1, a2⟩ := grant_iff m h k
  obtain ⟨b1, b2⟩ := grant_iff m' h' k
  rw [a1, a2, b1, b2, hf, hf']
  simp only [Option.some.injEq, exists_eq_left', hs, he, and_self]

/-- … in particular a guard (shared or exclusive) acquired for another type, or for the same type in
another scope, never interferes. -/
theorem noninterference_elsewhere (m : M) (h : FlagInv m) (k q : Key) (i j : Nat) (excl : Bool)
    (hf : find m.reg k = some i) (hq : find m.reg q = some j) (hne : ¬ (j = i ∧ q = k)) :
    (granted (mstep (mstep m (if excl then .borMut q else .bor q)).1 (.bor k)).2 ↔ granted (mstep m (.bor k)).2) ∧
    (granted (mstep (mstep m (if excl then .borMut q else .bor q)).1 (.borMut k)).2 ↔
      granted (mstep m (.borMut k)).2) := by
  have e1 : (mstep m (if excl then .borMut q else .bor q)).1 =
      (mstep m (bif excl then .parBorMut 0 q else .parBor 0 q)).1 := by
    cases excl
    · exact (mstep_bor_fst m q).1
    · exact (mstep_bor_fst m q).2
  have h' := mstep_inv m (if excl then .borMut q else .bor q) h
  rw [e1] at h' ⊢
  have key : find (mstep m (bif excl then .parBorMut 0 q else .parBor 0 q)).1.reg k = some i ∧
      sharedOn (mstep m (bif excl then .parBorMut 0 q else .parBor 0 q)).1.guards i k = sharedOn m.guards i k ∧
      exclOn (mstep m (bif excl then .parBorMut 0 q else .parBor 0 q)).1.guards i k = exclOn m.guards i k := by
    rcases mstep_par_fst m 0 q excl with h1 | ⟨i', c, j', _, _, _, h1, hi', hj'⟩ <;> rw [h1]
    · exact ⟨hf, rfl, rfl⟩
    · -- the new guard sits on `(j, q)`, not on `(i, k)`
      have hij : i' = j := by rw [hi', Nat.zero_add, Option.some.inj (hj'.symm.trans hq)]
      subst hij
      have hd := fun e' => onCell_other ⟨m.next, i', q, excl⟩ i k e' (fun h => hne ⟨h.1.symm, h.2.symm⟩)
      simp only [find_modify_at, sharedOn, exclOn, List.countP_cons, hd, Bool.false_eq_true, if_false, Nat.add_zero]
      exact ⟨hf, trivial, trivial⟩
  exact noninterference m _ h h' k i hf key.1 key.2.1 key.2.2

/-- Requests on one cell at the registry level: same resolution and same cell ⇒ same answer, whatever the
rest of the registry (other types, other scopes) looks like. -/
theorem noninterference_registry (r r' : Reg) (k : Key) (hf : find r' k = find r k)
    (hc : ∀ i, find r k = some i → cellAt r' i k = cellAt r i k) :
    (tryBorrow r' k).map (·.2) = (tryBorrow r k).map (·.2) ∧
    (tryBorrowMut r' k).map (·.2) = (tryBorrowMut r k).map (·.2) := by
  unfold tryBorrow tryBorrowMut
  rw [hf]
  cases h : find r k with
  | none => exact ⟨rfl, rfl⟩
  | some i =>
    simp only [hc i h]
    cases cellAt r i k with
    | none => exact ⟨rfl, rfl⟩
    | some c =>
      constructor
      · simp only; cases c.tryBorrow <;> rfl
      · simp only; cases c.tryBorrowMut <;> rfl

/-! ### Live guards: released, written and read through -/

/-- Dropping a guard succeeds, removes exactly that guard from every count, changes no value, and if it was
the only guard on its cell the state is exclusively available again. -/
theorem release_restores (m : M) (h : FlagInv m) (gd : Guard) (hmem : gd ∈ m.guards) :
    (mstep m (.drop gd.id)).2 = [.ok] ∧
    (∀ j q e, (mstep m (.drop gd.id)).1.guards.countP (onCell j q e) + (if onCell j q e gd then 1 else 0) =
      m.guards.countP (onCell j q e)) ∧
    abs (mstep m (.drop gd.id)).1.reg = abs m.reg ∧
    (find m.reg gd.key = some gd.idx → exclOn m.guards gd.idx gd.key + sharedOn m.guards gd.idx gd.key = 1 →
      granted (mstep (mstep m (.drop gd.id)).1 (.borMut gd.key)).2) := by
  have hcnt := fun j q e => countP_dropGuard m.guards gd (onCell j q e) hmem h.nd
  have hinv := mstep_inv m (.drop gd.id) h
  have habs := nonWriting_abs m (.drop gd.id) rfl
  rw [mstep_drop m h gd hmem] at hinv habs ⊢
  refine ⟨rfl, hcnt, habs, fun hf hone => ?_⟩
  apply (grant_iff _ hinv gd.key).2.mpr
  refine ⟨gd.idx, by simp only [releaseAt, find_modify_at]; exact hf, ?_⟩
  exact last_guard_dropped (n := fun b => m.guards.countP (onCell gd.idx gd.key b)) gd.excl
    (fun b => onCell_self gd b ▸ hcnt gd.idx gd.key b) hone

/-- What is written through an exclusive guard is what every later guard on that cell reads, however many
acquisitions, releases, reads and probes (on any cell) happen in between. -/
theorem write_then_read (m : M) (h : FlagInv m) (gd : Guard) (hmem : gd ∈ m.guards) (hex : gd.excl = true)
    (v : Nat) (ops : List MOp) (hops : ∀ o ∈ ops, nonWriting o = true) :
    (mstep m (.wr gd.id v)).2 = [.ok] ∧
    ∀ g' ∈ (mrun (mstep m (.wr gd.id v)).1 ops).1.guards, g'.idx = gd.idx → g'.key = gd.key →
      (mstep (mrun (mstep m (.wr gd.id v)).1 ops).1 (.rd g'.id)).2 = [.val v] := by
  obtain ⟨hok, h2, hv⟩ := wr_run_cell m h gd hmem hex v ops hops
  refine ⟨hok, fun g' hg' hidx hkey => ?_⟩
  have hfg' := findGuard_mem _ g' hg' h2.nd
  generalize (mrun (mstep m (.wr gd.id v)).1 ops).1 = m2 at *
  cases hc2 : cellAt m2.reg gd.idx gd.key with
  | none => rw [hc2] at hv; cases hv
  | some c2 =>
    have hv' : c2.val = v := by rw [hc2] at hv; exact Option.some.inj hv
    simp only [mstep, hfg', hidx, hkey, hc2, hv']

/-- Non-writing requests never change a value. -/
theorem values_only_change_by_writes (m : M) (ops : List MOp) (hops : ∀ o ∈ ops, nonWriting o = true) :
    abs (mrun m ops).1.reg = abs m.reg :=
  nonWriting_run_abs m ops hops

/-! ### The value accessors next to ANY set of live guards -/

/-- `try_get_value` / `get_value` / `set_value` issued while guards are alive, for a type that resolves to the
cell `(i, k)` holding `c`: reading succeeds (value of that cell) iff no exclusive guard lives on that cell and
is otherwise the conflict error (`try_get_value`) resp. a panic (`get_value`); `set_value` is refused with `None`
— nothing written, no flag changed — iff any guard lives on the cell, and otherwise writes exactly that cell and
returns the old value. Reads never change the state. -/
theorem value_access_next_to_guards (m : M) (h : FlagInv m) (k : Key) (v : Nat) (i : Nat) (c : Cell)
    (hf : find m.reg k = some i) (hc : cellAt m.reg i k = some c) :
    mstep m (.sh (.tryGet k)) = (m, [if exclOn m.guards i k = 0 then .val c.val else .err .conflictImm]) ∧
    mstep m (.sh (.get k)) = (m, [if exclOn m.guards i k = 0 then .val c.val else .panic]) ∧
    (exclOn m.guards i k + sharedOn m.guards i k ≠ 0 → mstep m (.sh (.set k v)) = (m, [.none])) ∧
    (exclOn m.guards i k + sharedOn m.guards i k = 0 →
      mstep m (.sh (.set k v)) = ({ m with reg := writeAt m.reg i k (fun _ => v) }, [.val c.val])) := by
  have hg := tryGetValue_cell m.reg k i c hf hc
  have hs := setValue_cell m.reg k v i c hf hc
  have hset := h.refuses_iff m i k c hc true
  have hwx := @FlagInv.ite_writer m h i k c hc
  refine ⟨?_, ?_, fun hx => ?_, fun hx => ?_⟩
  · simp only [mstep_sh m (.tryGet k) rfl, step, hg, hwx]
    split <;> rfl
  · simp only [mstep_sh m (.get k) rfl, step, hg, hwx]
    split <;> rfl
  · have hb : (c.writer || c.readers != 0) = true := hset.mpr (fun hcomp => hx (by rw [hcomp.1, hcomp.2]))
    simp only [mstep_sh m (.set k v) rfl, step, hs, hb, Out.ofOpt, if_true]
  · have hb : ¬ (c.writer || c.readers != 0) = true := fun hb =>
      hset.mp hb (Nat.add_eq_zero_iff.mp hx)
    simp only [mstep_sh m (.set k v) rfl, step, hs, hb, Bool.false_eq_true, if_false, Out.ofOpt, writeAt]

/-- … an absent type is `NotFound` / panic / `None`, and nothing is inserted. -/
theorem value_access_absent (m : M) (k : Key) (v : Nat) (hf : find m.reg k = none) :
    mstep m (.sh (.tryGet k)) = (m, [.err .notFound]) ∧ mstep m (.sh (.get k)) = (m, [.panic]) ∧
    mstep m (.sh (.set k v)) = (m, [.none]) := by
  refine ⟨?_, ?_, ?_⟩ <;>
    simp [mstep_sh m (.tryGet k) rfl, mstep_sh m (.get k) rfl, mstep_sh m (.set k v) rfl, step, tryGetValue, setValue,
      tryBorrow, tryBorrowMut, hf, Out.ofRes, Out.orPanic, Out.ofOpt]

/-- … and `parent()^d . try_get_value` is decided by the guards on the cell resolved from the `d`-th parent. -/
theorem value_access_parent (m : M) (h : FlagInv m) (d : Nat) (k : Key) (i : Nat) (c : Cell)
    (hd : d < m.reg.length) (hf : find (m.reg.drop d) k = some i) (hc : cellAt m.reg (d + i) k = some c) :
    mstep m (.sh (.parGet d k)) =
      (m, [if exclOn m.guards (d + i) k = 0 then .val c.val else .err .conflictImm]) := by
  have hc' : cellAt (m.reg.drop d) i k = some c := by rw [cellAt_drop]; exact hc
  simp only [mstep_sh m (.parGet d k) rfl, step, parentN, hd, if_true, tryGetValue_cell (m.reg.drop d) k i c hf hc',
    h.ite_writer m (d + i) k c hc]
  split <;> rfl

/-- What is written through an exclusive guard is what `try_get_value` / `get_value` read later (after any
acquisitions, releases, reads and probes), as soon as no exclusive guard is left on that cell. -/
theorem write_then_value_read (m : M) (h : FlagInv m) (gd : Guard) (hmem : gd ∈ m.guards) (hex : gd.excl = true)
    (v : Nat) (ops : List MOp) (hops : ∀ o ∈ ops, nonWriting o = true)
    (hfind : find (mrun (mstep m (.wr gd.id v)).1 ops).1.reg gd.key = some gd.idx)
    (hfree : exclOn (mrun (mstep m (.wr gd.id v)).1 ops).1.guards gd.idx gd.key = 0) :
    (mstep (mrun (mstep m (.wr gd.id v)).1 ops).1 (.sh (.tryGet gd.key))).2 = [.val v] ∧
    (mstep (mrun (mstep m (.wr gd.id v)).1 ops).1 (.sh (.get gd.key))).2 = [.val v] := by
  obtain ⟨_, h2, hv⟩ := wr_run_cell m h gd hmem hex v ops hops
  generalize (mrun (mstep m (.wr gd.id v)).1 ops).1 = m2 at *
  obtain ⟨c2, hc2⟩ := find_cell m2.reg gd.key gd.idx hfind
  rw [hc2] at hv
  obtain ⟨a1, a2, _, _⟩ := value_access_next_to_guards m2 h2 gd.key 0 gd.idx c2 hfind hc2
  have hv' : c2.val = v := Option.some.inj hv
  rw [a1, a2, if_pos hfree, if_pos hfree, hv']
  exact ⟨rfl, rfl⟩

/-! ### No panic except from the panicking accessors -/

/-- "A panic only from the explicitly panicking accessors": no request a client can issue through `&State` other
than `borrow`, `borrow_mut` and `get_value` is ever answered by a panic, in any state (acquiring at any `parent()`
distance, releasing, reading and writing through guards, `try_get_value`, `set_value`, `contains`, `find`, …). -/
theorem no_panic_from_fallible (m : M) (op : MOp) (hop : fallible op = true) :
    ∀ o ∈ (mstep m op).2, isPanicOut o = false := by
  cases op with
  | borP k | borMutP k | ex s => cases hop
  | bor k | borMut k | parBor d k | parBorMut d k | drop g =>
    simp only [mstep]; split <;> exact List.forall_mem_singleton.mpr rfl
  | locks => rw [mstep_locks]; exact List.forall_mem_singleton.mpr rfl
  | rd g | wr g v =>
    simp only [mstep]; split
    · exact List.forall_mem_singleton.mpr rfl
    · split <;> exact List.forall_mem_singleton.mpr rfl
  | sh o =>
    simp only [mstep]; split
    · rename_i hs
      refine List.forall_mem_singleton.mpr ?_
      -- the `&self` methods other than `get_value`; every other operation contradicts `hs`
      cases o with
      | get k => cases hop
      | hasTop k | has k | dump => rfl
      | req k | find k => simp only [step]; split <;> rfl
      | tryGet k => exact ofRes_noPanic _
      | set k v => exact ofOpt_noPanic _
      | parGet d k =>
        simp only [step]; split
        · exact ofRes_noPanic _
        · rfl
      | _ => cases hs
    · exact List.forall_mem_singleton.mpr rfl

/-! ### `holding` -/

/-- `holding`, partial form (see `holding_restores_all_bodies` and the counterexample below): for every body —
any finite program over registry operations, `with_inner_state` scopes and nested `holding` of OTHER types
(`Prog.avoids (markerOf k) body`: the body never names `Marker<k>`, which no client can, uses no raw
push/pop, and does not nest a `holding` of the same type `k`) — after `holding::<k>`, whether the body
returned `Ok` or `Err`: the outcomes are the body's followed by the body's own result; the scope chain has
its old height; `k` is back in the scope it was taken from (`i`) with the value the body left in it
(`c.val + d`); no `Marker<k>` is left anywhere; every other cell is as the body left it. -/
theorem holding_restores_partial (r : Reg) (k : Key) (d : Nat) (ok : Bool) (body : Prog) (i : Nat) (c : Cell)
    (hI : Inv r) (hn : nodupKeys r) (hf : find r k = some i) (hc : cellAt r i k = some c)
    (hnm : ∀ j, (scopeAt r j).has (markerOf k) = false) (hwf : Prog.avoids (markerOf k) body) :
    (execStmt r (.hold k d ok body)).2 = (execProg (heldOut r i k) body).2 ++ [resOut ok] ∧
    (execStmt r (.hold k d ok body)).1.length = r.length ∧
    cellAt (execStmt r (.hold k d ok body)).1 i k = some (fresh (c.val + d)) ∧
    (∀ j, (scopeAt (execStmt r (.hold k d ok body)).1 j).has (markerOf k) = false) ∧
    (∀ j q, ¬ (j = i ∧ (q = k ∨ q = markerOf k)) →
      cellAt (execStmt r (.hold k d ok body)).1 j q = cellAt (execProg (heldOut r i k) body).1 j q) := by
  rw [RegistryH.execStmt_hold]
  exact RegistryH.holdingWith_putBack _ r k d ok i c hf hc hnm
    (execProg_frame body _ (markerOf k) (RegistryH.inv_heldOut r i k hI) (RegistryH.nodupKeys_heldOut r i k hn) hwf)

/-- A type that is absent is reported before the body runs; nothing changes. -/
theorem holding_absent (r : Reg) (k : Key) (d : Nat) (ok : Bool) (body : Prog) (hf : find r k = none) :
    execStmt r (.hold k d ok body) = (r, [.err .notFound]) := by
  simp [execStmt, hf]

/-- Statements (`holding`, `with_inner_state`, registry operations) keep the registry quiescent and its maps
duplicate-free, whatever their bodies do and whether they return `Ok` or `Err`. -/
theorem statements_keep_invariant (s : Stmt) (r : Reg) (h : Inv r) (hn : nodupKeys r) :
    Inv (execStmt r s).1 ∧ nodupKeys (execStmt r s).1 :=
  execStmt_inv s r h hn

/-- The full statement (every body, including a nested `holding` of the same type): NOT true of the code. -/
def holding_restores_all_bodies : Prop :=
  ∀ (r : Reg) (k : Key) (d : Nat) (ok : Bool) (body : Prog) (i : Nat) (c : Cell),
    Inv r → nodupKeys r → find r k = some i → cellAt r i k = some c →
    (∀ j, (scopeAt r j).has (markerOf k) = false) →
    cellAt (execStmt r (.hold k d ok body)).1 i k = some (fresh (c.val + d))

/-- Recorded finding (site `holding-samekey`): two shadowing values of one type, `holding` nested in `holding`
of that type — the inner one finds the OUTER one's marker, so the two values come back in each other's
scope. -/
def samekeyReg : Reg := [[(.ty 0, fresh 3)], [(.ty 0, fresh 1)]]

def samekeyBody : Prog := .cons (.hold (.ty 0) 2 true .nil) .nil

theorem holding_samekey_counterexample :
    cellAt (execStmt samekeyReg (.hold (.ty 0) 1 true samekeyBody)).1 0 (.ty 0) = some (fresh 3) ∧
    cellAt (execStmt samekeyReg (.hold (.ty 0) 1 true samekeyBody)).1 1 (.ty 0) = some (fresh 4) := by
  decide +kernel

theorem holding_restores_all_bodies_fails : ¬ holding_restores_all_bodies := by
  intro h
  have := h samekeyReg (.ty 0) 1 true samekeyBody 0 (fresh 3) ⟨by decide, by decide⟩
    (by simp [samekeyReg, nodupKeys, Scope.nodupKeys, Scope.keys]) (by decide) (by decide)
    (by intro j; match j with
      | 0 | 1 => decide
      | j + 2 => simp [samekeyReg, scopeAt, Scope.has])
  rw [holding_samekey_counterexample.1] at this
  exact absurd this (by decide)

/-- The wire-level witness of the finding: the predicate of step O is false on the model's (= the code's)
outputs. -/
def samekeyWitness : List MOp :=
  [.ex (.op (.ins (.ty 0) 1)), .ex (.op .push), .ex (.op (.ins (.ty 0) 3)),
   .ex (.hold (.ty 0) 1 true samekeyBody), .locks]

theorem holding_samekey_violates : holdsOn samekeyWitness = false := by decide +kernel

/-- The second recorded symptom of the same finding (class `err`): the body re-inserts the held type into the
scope it was taken from and nests a `holding` of that type; the inner call removes the outer call's marker, the
outer call ends with `NotFound` and its value is dropped. -/
def samekeyWitnessErr : List MOp :=
  [.ex (.op (.ins (.ty 0) 1)),
   .ex (.hold (.ty 0) 1 true (.cons (.op (.ins (.ty 0) 9)) (.cons (.hold (.ty 0) 2 true .nil) .nil))), .locks]

theorem holding_samekey_err_violates :
    holdsOn samekeyWitnessErr = false ∧
    -- the outer `holding` ends with `NotFound` …
    (match (mrun M.init samekeyWitnessErr).2[3]? with | some (.err .notFound) => true | _ => false) = true ∧
    -- … and its value (1 + 1) is dropped: what stays is the body's re-inserted value as the inner call left it
    cellAt (mrun M.init samekeyWitnessErr).1.reg 0 (.ty 0) = some (fresh 11) := by
  decide +kernel

/-! ### PROPOSED REPAIR of `holding` (`Model/BorrowRepair.lean`; NOT what `/repo` does)

Remember the level of the source scope counted from the root instead of leaving a per-type marker. For this
variant the full statement holds: every body, including nested holdings of the same type. -/

/-- The repaired `holding` (and everything around it: registry operations, `with_inner_state`, nested holdings of
ANY type) is the abstract machine, for every program whose scopes are opened by `with_inner_state` only. -/
theorem repaired_holding_refines (p : Prog) (r : Reg) (h : Inv r) (hf : Prog.flat p) :
    (execProgFix r p).2 = (specExecProg (abs r) p).2 ∧ abs (execProgFix r p).1 = (specExecProg (abs r) p).1 ∧
      Inv (execProgFix r p).1 ∧ (execProgFix r p).1.length = r.length := by
  obtain ⟨a, b, c, d⟩ := execProgFix_refines p r h hf
  exact ⟨b, c, a, d⟩

/-- The full statement `holding_restores_all_bodies` (false of the code, see above) is true of the repair: for
EVERY body — ok or err, nesting holdings of the same or of other types, inner scopes — the held type is back
in the scope it was taken from with the value the body left in it, and every other cell is as the body left
it. No marker exists. -/
theorem repaired_holding_restores_all_bodies (r : Reg) (k : Key) (d : Nat) (ok : Bool) (body : Prog) (i : Nat)
    (c : Cell) (hI : Inv r) (hf : find r k = some i) (hc : cellAt r i k = some c) (hb : Prog.flat body) :
    (execStmtFix r (.hold k d ok body)).2 = (execProgFix (modifyAt r i (·.erase k)) body).2 ++ [resOut ok] ∧
    cellAt (execStmtFix r (.hold k d ok body)).1 i k = some (fresh (c.val + d)) ∧
    (∀ j q, ¬ (j = i ∧ q = k) →
      cellAt (execStmtFix r (.hold k d ok body)).1 j q =
        cellAt (execProgFix (modifyAt r i (·.erase k)) body).1 j q) := by
  obtain ⟨_, _, _, i4⟩ := execProgFix_refines body (modifyAt r i (·.erase k)) (inv_erase_at r i k hI) hb
  rw [modifyAt_length] at i4
  have hi3 : i < (execProgFix (modifyAt r i (·.erase k)) body).1.length := by rw [i4]; exact find_lt r k i hf
  rw [execStmtFix_hold r k d ok body i c hf hc i4]
  refine ⟨rfl, ?_, fun j q hjq => ?_⟩
  · rw [cellAt_put_at _ i k _ i k hi3, if_pos ⟨rfl, rfl⟩]
  · rw [cellAt_put_at _ i k _ j q hi3, if_neg hjq]

/-- On both recorded witnesses the repaired machine answers what the abstract machine answers. -/
theorem repaired_holding_on_witnesses :
    holdsOnFix samekeyWitness = true ∧ holdsOnFix samekeyWitnessErr = true ∧
    cellAt (execStmtFix samekeyReg (.hold (.ty 0) 1 true samekeyBody)).1 0 (.ty 0) = some (fresh 4) ∧
    cellAt (execStmtFix samekeyReg (.hold (.ty 0) 1 true samekeyBody)).1 1 (.ty 0) = some (fresh 3) := by
  decide +kernel

/-! Non-vacuity of the hypotheses. -/

-- a reachable state with two live shared guards on one cell and an exclusive one on another
example : (mrun M.init [.ex (.op (.ins (.ty 0) 1)), .ex (.op (.ins (.ty 1) 2)), .bor (.ty 0), .bor (.ty 0),
    .borMut (.ty 1)]).1.guards.length = 3 := by decide +kernel

-- `holding` with a body that fails, nests another type's `holding` and an inner scope
example : Prog.avoids (markerOf (.ty 0))
    (.cons (.hold (.ty 1) 1 false (.cons (.inner true (.cons (.op (.ins (.ty 0) 9)) .nil)) .nil)) .nil) :=
  ⟨⟨by decide, by decide, ⟨⟨by decide, rfl⟩, trivial⟩, trivial⟩, trivial⟩

example : find [[(.ty 1, fresh 2)], [(.ty 0, fresh 1)]] (.ty 0) = some 1 := by decide

example : holdsOn [.ex (.op (.ins (.ty 0) 1)), .ex (.hold (.ty 0) 1 false .nil), .borMut (.ty 0), .bor (.ty 0),
    .locks] = true := by decide +kernel

example : ∃ g, g ∈ (mrun M.init [.ex (.op (.ins (.ty 0) 1)), .borMut (.ty 0)]).1.guards ∧ g.excl = true :=
  ⟨⟨0, 0, .ty 0, true⟩, by decide, rfl⟩

example : nonWriting (.bor (.ty 0)) = true ∧ nonWriting (.drop 0) = true ∧ nonWriting (.sh (.tryGet (.ty 0))) = true ∧
    nonWriting (.sh (.set (.ty 0) 1)) = false := ⟨rfl, rfl, rfl, rfl⟩

example : find (mrun M.init [.ex (.op (.ins (.ty 0) 1)), .ex (.op .push), .ex (.op (.ins (.ty 1) 1)),
    .borMut (.ty 1)]).1.reg (.ty 0) = some 1 := by decide +kernel

example : nodupKeys [[(.ty 1, fresh 2), (.ty 0, fresh 4)], [(.ty 0, fresh 1)]] := by
  simp [nodupKeys, Scope.nodupKeys, Scope.keys]

-- a request through `parent()`: the child shadows type 0, an exclusive guard lives on the CHILD's cell, the
-- parent's cell of the same type is granted
example : find ((mrun M.init [.ex (.op (.ins (.ty 0) 1)), .ex (.op .push), .ex (.op (.ins (.ty 0) 3)),
    .borMut (.ty 0)]).1.reg.drop 1) (.ty 0) = some 0 := by decide +kernel

example : ((mrun M.init [.ex (.op (.ins (.ty 0) 1)), .ex (.op .push), .ex (.op (.ins (.ty 0) 3)),
    .borMut (.ty 0), .parBorMut 1 (.ty 0), .sh (.tryGet (.ty 0)), .sh (.parGet 1 (.ty 0))]).2.drop 3).map
    (fun o => (o.toSexp nTypes).render) = ["(g 0)", "(g 1)", "(e conflict_imm)", "(e conflict_imm)"] := by decide +kernel

-- a body that nests a holding of the SAME type is a flat program
example : Prog.flat (.cons (.hold (.ty 0) 1 true (.cons (.op (.ins (.ty 0) 9))
    (.cons (.hold (.ty 0) 2 false (.cons (.inner true .nil) .nil)) .nil))) .nil) :=
  ⟨⟨rfl, ⟨trivial, trivial⟩, trivial⟩, trivial⟩

example : fallible (.parBorMut 2 (.ty 0)) = true ∧ fallible (.sh (.set (.ty 0) 1)) = true ∧
    fallible (.borP (.ty 0)) = false ∧ fallible (.sh (.get (.ty 0))) = false := ⟨rfl, rfl, rfl, rfl⟩

end MahfModel.Props.C02
