/-
C12 — Replacement merges the two top populations as its name says.
The lemmas the theorems rest on are in `Proofs/C12.lean` and `Proofs/C12Uniform.lean`.

`F` is the carrier of objective values: a preorder in which any two values are comparable
(`TotalLE F`) — antisymmetry is not assumed, so the theorems apply to `f64` without NaN, where `0.0`
and `-0.0` are different values that compare equal.  `w` is the witness permutation standing for the
shuffle of `RandomReplacement` and for the tie order of `sort_unstable` in `MuPlusLambda`
(`Legal w n` : `w` is a permutation of `0 … n-1`).  All theorems hold for every legal witness.
-/
import MahfModel.Proofs.C12
import MahfModel.Props.C12Data
import MahfModel.Proofs.C12Uniform
namespace MahfModel.Props.C12
open MahfModel.Replacement

variable {F : Type} [Preorder F] [DecidableLE F] [DecidableLT F]

/-- Every individual of both populations carries an objective value. -/
def Evaluated (parents offspring : Pop F) : Prop := ∀ x ∈ parents ++ offspring, x.obj.isSome

/-- Two populations are consumed and exactly one is pushed when `replace` succeeds; when it fails
(`Err`, or a panic) both are gone and nothing is pushed; everything below is untouched. -/
theorem replace_frame (op : Op) (w : List Nat) (offspring parents : Pop F) (rest : List (Pop F)) :
    (∃ r, replace op w parents offspring = .ok r ∧
          step op w (offspring :: parents :: rest) = (r :: rest, .ok)) ∨
    (replace op w parents offspring = .error .exec ∧
          step op w (offspring :: parents :: rest) = (rest, .err)) ∨
    (replace op w parents offspring = .error .panic ∧
          step op w (offspring :: parents :: rest) = (rest, .panic)) := by
  cases h : replace op w parents offspring with
  | ok r => exact .inl ⟨r, rfl, by simp only [step, h]⟩
  | error e =>
    cases e
    · exact .inr (.inl ⟨rfl, by simp only [step, h]⟩)
    · exact .inr (.inr ⟨rfl, by simp only [step, h]⟩)

/-- On evaluated populations no operator panics, and the only `Err` is `KeepBetterAtIndex` on
populations of unequal size. -/
theorem replace_outcome (op : Op) (w : List Nat) (parents offspring : Pop F)
    (hev : Evaluated parents offspring) :
    replace op w parents offspring ≠ .error .panic ∧
    (replace op w parents offspring = .error .exec ↔
      op = .keepBetterAtIndex ∧ parents.length ≠ offspring.length) := by
  have hany := any_isNone_eq_false.mpr hev
  cases op with
  | muPlusLambda mu =>
    rw [replace_muPlusLambda mu w _ _ hany]
    simp
  | keepBetterAtIndex =>
    rw [replace_keepBetter, keepBetter_ok hev]
    by_cases hl : parents.length = offspring.length
    · rw [if_pos hl]; simp [hl]
    · rw [if_neg hl]; simp [hl]
  | _ => simp [replace]

/-- The result contains only individuals (tag *and* objective) of parents and offspring, each at
most as often as it occurred there. -/
theorem replace_subbag (op : Op) (w : List Nat) (parents offspring r : Pop F)
    (hw : Legal w (parents ++ offspring).length)
    (h : replace op w parents offspring = .ok r) : SubBag r (parents ++ offspring) := by
  cases op with
  | discardOffspring => cases h; exact ⟨offspring, List.Perm.refl _⟩
  | generational => cases h; exact ⟨parents, List.perm_append_comm⟩
  | merge => cases h; exact subBag_refl _
  | muPlusLambda mu =>
    simp only [replace] at h
    split at h
    · cases h
    · cases h
      exact subBag_take_of_perm ((List.mergeSort_perm _ _).trans (permute_perm _ w hw)) mu
  | randomReplacement mu => cases h; exact subBag_take_of_perm (permute_perm _ w hw) mu
  | keepBetterAtIndex =>
    simp only [replace] at h
    split at h
    · rw [keepBetter_eq_of_ok h]; exact zipWith_better_subBag _ _
    · cases h

theorem discard_offspring_eq_parents (w : List Nat) (parents offspring : Pop F) :
    replace .discardOffspring w parents offspring = .ok parents := rfl

theorem generational_eq_offspring (w : List Nat) (parents offspring : Pop F) :
    replace .generational w parents offspring = .ok offspring := rfl

theorem merge_eq_append (w : List Nat) (parents offspring : Pop F) :
    replace .merge w parents offspring = .ok (parents ++ offspring) := rfl

/-- `MuPlusLambda(μ)` keeps `min μ (a+b)` individuals, the kept and the discarded ones together are
exactly parents + offspring, and no discarded individual is strictly better than a kept one —
whatever order `sort_unstable` gives to equal keys. -/
theorem mu_plus_lambda_k_best (tot : TotalLE F) (mu : Nat) (w : List Nat) (parents offspring : Pop F)
    (hw : Legal w (parents ++ offspring).length) (hev : Evaluated parents offspring) :
    ∃ kept discarded, replace (.muPlusLambda mu) w parents offspring = .ok kept ∧
      kept.length = min mu (parents.length + offspring.length) ∧
      (kept ++ discarded).Perm (parents ++ offspring) ∧
      ∀ x ∈ kept, ∀ y ∈ discarded, ∀ a b, x.obj = some a → y.obj = some b → ¬ b < a := by
  have hany := any_isNone_eq_false.mpr hev
  let sorted := (permute (parents ++ offspring) w).mergeSort leInd
  refine ⟨sorted.take mu, sorted.drop mu, ?_, ?_, ?_, ?_⟩
  · exact replace_muPlusLambda mu w _ _ hany
  · simp only [sorted, List.length_take, List.length_mergeSort, permute_length _ w hw, List.length_append]
  · rw [List.take_append_drop]
    exact (List.mergeSort_perm _ _).trans (permute_perm _ w hw)
  · have hs : List.Pairwise (fun a b => leInd a b = true) sorted :=
      List.pairwise_mergeSort (le := leInd) (fun a b c => leO_trans a.obj b.obj c.obj)
        (fun a b => leO_total tot a.obj b.obj) _
    rw [← List.take_append_drop mu sorted, List.pairwise_append] at hs
    intro x hx y hy a b ha hb
    have := hs.2.2 x hx y hy
    simp only [leInd, ha, hb, leO, decide_eq_true_eq] at this
    exact not_lt_of_ge this

/-- `RandomReplacement(μ)` keeps `min μ (a+b)` individuals, each taken from parents + offspring at
most as often as it occurred there. -/
theorem random_replacement_subbag_len (mu : Nat) (w : List Nat) (parents offspring : Pop F)
    (hw : Legal w (parents ++ offspring).length) :
    ∃ r, replace (.randomReplacement mu) w parents offspring = .ok r ∧
      r.length = min mu (parents.length + offspring.length) ∧ SubBag r (parents ++ offspring) := by
  refine ⟨_, rfl, ?_, subBag_take_of_perm (permute_perm _ w hw) mu⟩
  simp only [List.length_take, permute_length _ w hw, List.length_append]

/-- `RandomReplacement(μ)` keeps exactly the individuals at the positions named by the first `μ`
entries of the witness. -/
theorem random_replacement_kept_positions (mu : Nat) (w : List Nat) (parents offspring : Pop F)
    (hw : Legal w (parents ++ offspring).length) :
    replace (.randomReplacement mu) w parents offspring
      = .ok (permute (parents ++ offspring) (w.take mu)) := by
  simp only [replace]
  rw [permute_take _ w mu hw]

/-- "μ *random* ones": the legal witnesses for `n` individuals are exactly the members of
`witnesses n`, each listed once, `n!` in all — a uniform shuffle picks each with the same
probability — and exactly `min μ n · (n-1)!` of them keep position `i` (written without division).
So under a uniform shuffle every parent and every offspring survives with the same probability
`min μ n / n`.  (That `SliceRandom::shuffle` is uniform is trusted and tied by the frequency oracle
of the check, sites `RandomReplacement/freq`.) -/
theorem random_replacement_uniform_survival (mu n i : Nat) (hi : i < n) :
    (∀ w, w ∈ witnesses n ↔ Legal w n) ∧ (witnesses n).Nodup ∧
    (witnesses n).length = n.factorial ∧
    (witnesses n).countP (fun w => decide (i ∈ w.take mu)) * n = min mu n * n.factorial :=
  ⟨fun _ => mem_witnesses, witnesses_nodup n, witnesses_length n, keeps_mul n mu i hi⟩

/-- `KeepBetterAtIndex`: unequal sizes are an `Err`; otherwise position `i` of the result is the
offspring iff it is strictly better than the parent at `i` — ties and worse offspring keep the parent
(third conjunct: the second one read with `≤`). -/
theorem keep_better_at_index (w : List Nat) (parents offspring : Pop F)
    (hev : Evaluated parents offspring) :
    (parents.length ≠ offspring.length →
      replace .keepBetterAtIndex w parents offspring = .error .exec) ∧
    (parents.length = offspring.length →
      ∃ r, replace .keepBetterAtIndex w parents offspring = .ok r ∧ r.length = parents.length ∧
        ∀ i (hp : i < parents.length) (ho : i < offspring.length) (hr : i < r.length) (a b : F),
          parents[i].obj = some a → offspring[i].obj = some b →
          (b < a → r[i] = offspring[i]) ∧ (¬ b < a → r[i] = parents[i]) ∧
          (a ≤ b → r[i] = parents[i])) := by
  constructor
  · intro hl; exact if_neg hl
  · intro hl
    refine ⟨List.zipWith better parents offspring, by rw [replace_keepBetter, if_pos hl, keepBetter_ok hev],
      by rw [List.length_zipWith, hl, Nat.min_self], ?_⟩
    intro i hp ho hri a b ha hb
    rw [List.getElem_zipWith, better_of_some ha hb]
    exact ⟨fun hlt => if_pos hlt, fun hnlt => if_neg hnlt, fun hle => if_neg (not_lt_of_ge hle)⟩

/-- The property predicate cannot tell two orders of `MuPlusLambda`'s result apart: which
individuals survive is fixed (up to ties), their order inside the population is not part of the
statement.  This is what allows the correspondence check to compare `MuPlusLambda` results as
multisets (`agreeUpToOrder`). -/
theorem mu_plus_lambda_order_free {G : Type} [DecidableEq G] [LT G] [DecidableLT G] (mu : Nat)
    (stack : List (Pop G)) (r r' : Pop G) (rest' : List (Pop G)) (h : r.Perm r') :
    violation (.muPlusLambda mu) stack (r :: rest') .ok
      = violation (.muPlusLambda mu) stack (r' :: rest') .ok := by
  match stack with
  | [] => rfl
  | [_] => rfl
  | offspring :: parents :: rest =>
    dsimp only [violation]
    rw [subBagB_perm _ h, h.length_eq, bagDiff_perm_right _ h,
      noBetterDiscardedB_perm h (List.Perm.refl _)]

/-- Soundness of the order-insensitive comparison used for `MuPlusLambda` in step K: whenever it
accepts, the implementation's result is a permutation of the model's result over the same rest of
the stack, and the property predicate gives the same verdict on both. -/
theorem agree_up_to_order_sound (op : Op) (stack mstack stack' : List (Pop Bits)) (mout out : Outcome)
    (h : agreeUpToOrder op mstack mout stack' out = true) :
    (∃ mu m r rest, op = .muPlusLambda mu ∧ mout = .ok ∧ out = .ok ∧ mstack = m :: rest ∧
      stack' = r :: rest ∧ m.Perm r) ∧
    violation op stack stack' out = violation op stack mstack mout := by
  unfold agreeUpToOrder at h
  split at h
  · next mu m mrest r rest =>
    simp only [Bool.and_eq_true, decide_eq_true_eq] at h
    obtain ⟨hrest, hp⟩ := h
    subst hrest
    have hp := permB_iff.1 hp
    exact ⟨⟨mu, m, r, mrest, rfl, rfl, rfl, rfl, rfl, hp⟩,
      (mu_plus_lambda_order_free mu stack m r mrest hp).symm⟩
  · cases h

/-- The second relaxation of step K (`agreeOutsideDomain`: the exact point at which `MuPlusLambda`
panics on an unevaluated individual is not pinned) can only ever accept inputs outside the
property's quantifier — a stack whose two top populations contain an unevaluated individual, on
which the property predicate does not judge. -/
theorem agree_outside_domain_is_outside (op : Op) (w : List Nat) (stack stack' : List (Pop Bits))
    (out : Outcome) (h : agreeOutsideDomain op w stack stack' out = true) :
    (∃ o p rest, stack = o :: p :: rest ∧ ∃ x ∈ p ++ o, x.obj = none) ∧
    violation op stack stack' out = none := by
  unfold agreeOutsideDomain at h
  split at h
  · next mu o p rest =>
    have hany := (Bool.and_eq_true_iff.mp h).1
    obtain ⟨x, hx, hn⟩ := List.any_eq_true.1 hany
    exact ⟨⟨o, p, rest, rfl, x, hx, Option.isNone_iff_eq_none.mp hn⟩, violation_unevaluated _ _ _ _ _ _ hany⟩
  · cases h

/-- The executable predicate the correspondence check evaluates on the implementation's output
(`violation … = none` ⇔ "C12 holds on this observation") is satisfied by the model on every stack,
for every legal witness. -/
theorem model_satisfies_predicate [DecidableEq F] (tot : TotalLE F) (op : Op) (w : List Nat) (stack : List (Pop F))
    (hw : ∀ o p rest, stack = o :: p :: rest → Legal w (p ++ o).length) :
    violation op stack (step op w stack).1 (step op w stack).2 = none := by
  match stack, hw with
  | [], _ => rfl
  | [_], _ => rfl
  | offspring :: parents :: rest, hw =>
    have hw := hw _ _ _ rfl
    by_cases hany : (parents ++ offspring).any (fun i => i.obj.isNone) = true
    · exact violation_unevaluated op _ _ _ _ _ hany
    · have hany := eq_false_of_ne_true hany
      have hev : Evaluated parents offspring := any_isNone_eq_false.mp hany
      have hout := replace_outcome op w parents offspring hev
      rcases replace_frame op w offspring parents rest with ⟨r, hr, hs⟩ | ⟨hr, hs⟩ | ⟨hr, _⟩
      · have hl : op = .keepBetterAtIndex → parents.length = offspring.length := by
          intro hop
          by_contra hc
          have := hout.2.mpr ⟨hop, hc⟩
          rw [hr] at this; cases this
        rw [hs, violation_ok op _ _ _ _ hany hl
          (subBagB_iff.2 (replace_subbag op w parents offspring r hw hr))]
        cases op with
        | discardOffspring => cases hr; exact if_pos rfl
        | generational => cases hr; exact if_pos rfl
        | merge => cases hr; exact if_pos rfl
        | muPlusLambda mu =>
          obtain ⟨kept, disc, h1, h2, h3, h4⟩ := mu_plus_lambda_k_best tot mu w parents offspring hw hev
          rw [hr] at h1; cases h1
          have hnb : noBetterDiscardedB r (bagDiff (parents ++ offspring) r) = true :=
            noBetterDiscardedB_iff.mpr fun x hx y hy =>
              h4 x hx y ((bagDiff_perm r disc _ h3).mem_iff.mp hy)
          simp only [List.length_append, h2, hnb, ne_eq, not_true_eq_false, Bool.not_true, Bool.false_eq_true,
            if_false]
        | randomReplacement mu =>
          obtain ⟨r', h1, h2, _⟩ := random_replacement_subbag_len mu w parents offspring hw
          rw [hr] at h1; cases h1
          simp only [List.length_append, h2, ne_eq, not_true_eq_false, if_false]
        | keepBetterAtIndex =>
          rw [replace_keepBetter, if_pos (hl rfl)] at hr
          rw [keepBetter_eq_of_ok hr]
          exact if_pos (keepBetterSpecB_zipWith parents offspring (hl rfl))
      · rw [hs, hout.2.mp hr |>.1]
        exact violation_err _ _ _ hany (hout.2.mp hr).2
      · exact absurd hr hout.1

/-! Non-vacuity: concrete evaluated populations and a legal, non-identity witness. -/
def exParents : Pop Int := [⟨1, some 5⟩, ⟨2, some 3⟩]
def exOffspring : Pop Int := [⟨3, some 3⟩, ⟨4, some 9⟩]
example : Legal [2, 0, 3, 1] (exParents ++ exOffspring).length := by unfold Legal; decide
example : Evaluated exParents exOffspring := by
  intro x hx; simp [exParents, exOffspring] at hx; rcases hx with h | h | h | h <;> subst h <;> rfl
example : replace (.muPlusLambda 2) [2, 0, 3, 1] exParents exOffspring
    = .ok [⟨3, some 3⟩, ⟨2, some 3⟩] := by
  have hp : permute (exParents ++ exOffspring) [2, 0, 3, 1]
      = [⟨3, some 3⟩, ⟨1, some 5⟩, ⟨4, some 9⟩, ⟨2, some 3⟩] := by decide +kernel
  rw [replace_muPlusLambda _ _ _ _ (by decide +kernel), hp]
  -- `mergeSort` is defined by well-founded recursion: the kernel cannot run it, its equations can
  simp [List.mergeSort, List.MergeSort.Internal.splitInTwo, leInd, leO]
example : replace .keepBetterAtIndex [] exParents [⟨3, some 3⟩, ⟨4, some 3⟩]
    = .ok [⟨3, some 3⟩, ⟨2, some 3⟩] := by decide +kernel
example : replace .keepBetterAtIndex [] exParents [] = .error .exec := by decide +kernel

example : TotalLE Int := fun a b => Int.le_total a b
example : Legal [2, 0, 1] 3 := by unfold Legal; decide
/-- 3 individuals, μ = 2: 4 of the 6 witnesses keep position 1 (`4 · 3 = 2 · 3!`). -/
example : (witnesses 3).countP (fun w => decide (1 ∈ w.take 2)) * 3 = 2 * 6 :=
  (random_replacement_uniform_survival 2 3 1 (by omega)).2.2.2

/-! `SZ` (Props/C12Data.lean): a carrier that is *not* a linear order — two different values tie. -/
example : TotalLE SZ := fun a b => Int.le_total a.v b.v
example : (⟨0, true⟩ : SZ) ≤ ⟨0, false⟩ ∧ (⟨0, false⟩ : SZ) ≤ ⟨0, true⟩ ∧ (⟨0, true⟩ : SZ) ≠ ⟨0, false⟩ := by
  refine ⟨?_, ?_, by decide⟩ <;> exact Int.le_refl 0
example : replace .keepBetterAtIndex [] [(⟨1, some ⟨0, false⟩⟩ : Ind SZ)] [⟨2, some ⟨0, true⟩⟩]
    = .ok [⟨1, some ⟨0, false⟩⟩] := by decide +kernel

end MahfModel.Props.C12
