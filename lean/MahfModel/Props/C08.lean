/-
C08 — Same seed, same run: independent of evaluator, threads, scheduling and cloning.
Property theorems only; helper lemmas are in `Proofs/C08.lean` (and `Proofs/C15Export.lean` for the export).

What is PROVED here is schedule-independence of evaluation (for every population size, every division
of the slice among workers and every interleaving; with the exact condition under which an evaluator
that visits only part of the slice still agrees with `Sequential`) and of seed derivation ON THE MODEL, that
`Random` is a transparent wrapper of its backend (seed passed through unchanged, all four RngCore
methods delegated, descendants at any depth), and which generator `optimize_with` / a `par_experiment`
job draws from. The generator theorems are tied to the code (sites stream, seedmap, children, exp,
exp-user), the evaluation theorems by the evaluate-* sites (real `Sequential` / `Parallel` /
`PopulationEvaluator` on prepared populations of up to thousands of individuals under pools of 1–16
threads, with the observed schedule as witness). The run-level property itself (rayon's real scheduler, cloned trait objects, reuse of a
configuration object, process boundaries) is decided by exploration: digests of complete final states
(see checklib/c08.py). There is no theorem for the cloning clause: the model has no mutable component
state to copy.
-/
import MahfModel.Proofs.C08
import MahfModel.Proofs.C15Export
namespace MahfModel.Props.C08
open MahfModel.Determinism

/-- Parallel evaluation equals sequential evaluation for EVERY completion order: writes go to
distinct slots, the objective function is pure (assumption), and no draw is taken during evaluation
(the evaluators have no generator argument). -/
theorem evalPar_eq_evalSeq {S O : Type} (f : S → O) (pop : List (Ind S O)) (sched : List Nat)
    (h : sched.Perm (List.range pop.length)) : evalPar f pop sched = pop.map (evalInd f) :=
  evalPar_eq f pop sched h

/-- What does depend on the schedule is only the ORDER in which the objective function is called:
the completion-order record is a permutation of the sequential one. -/
theorem eval_calls_perm {S O : Type} (pop : List (Ind S O)) (sched : List Nat)
    (h : sched.Perm (List.range pop.length)) : (callsPar pop sched).Perm (pop.map (·.sol)) :=
  perm_filterMap_getElem?_map _ h

/-- EXACTLY when a completion order reproduces the sequential result — no assumption on `sched` at all
(entries outside the slice write nothing, repeated entries are idempotent): every slot is visited, or
already holds the value the objective function gives. So an evaluator that skips even one slot holding
an unevaluated (or stale) individual — for whatever population size, thread count or block size —
differs from `Sequential`; conversely visiting every slot suffices, whatever else happens. -/
theorem evalPar_eq_evalSeq_iff {S O : Type} (f : S → O) (pop : List (Ind S O)) (sched : List Nat) :
    evalPar f pop sched = pop.map (evalInd f) ↔
      ∀ j (h : j < pop.length), j ∈ sched ∨ pop[j].obj = some (f pop[j].sol) :=
  evalPar_eq_iff f pop sched

/-- Thread-count independence of one evaluation: however the pool divides the slice (ANY split trees
`t₁`, `t₂` — their shape is where the number of threads enters), whichever worker takes which block and
however the workers' writes interleave (ANY worker-tagged event lists whose indices are a rearrangement
of the leaves' indices; the worker tags are unconstrained, i.e. any number of threads), the result is
the sequential one, hence the same under both pools. No side condition on the population size: a
split tree divides the slice without remainder by construction (`Split.blocks_tile`). -/
theorem thread_count_independent {S O : Type} (f : S → O) (pop : List (Ind S O)) (t₁ t₂ : Split)
    (w₁ w₂ : List (Nat × Nat))
    (h₁ : (w₁.map (·.2)).Perm ((t₁.blocks 0 pop.length).flatMap blockIdx))
    (h₂ : (w₂.map (·.2)).Perm ((t₂.blocks 0 pop.length).flatMap blockIdx)) :
    evalParW f pop w₁ = pop.map (evalInd f) ∧ evalParW f pop w₂ = evalParW f pop w₁ := by
  have r : ∀ t : Split, (t.blocks 0 pop.length).flatMap blockIdx = List.range pop.length := fun t => by
    rw [Split.blocks_tile, List.range_eq_range']
  rw [r] at h₁ h₂
  have e₁ := evalPar_eq f pop _ h₁
  have e₂ := evalPar_eq f pop _ h₂
  exact ⟨e₁, e₂.trans e₁.symm⟩

/-- Blockwise evaluation (`par_chunks_mut(size)`, one block per task, e.g. `size = len / threads`): for
every block size > 0, every population size (divisible by the block size or not) and every completion
order of the blocks' indices the result is the sequential one. -/
theorem blockwise_eq_evalSeq {S O : Type} (f : S → O) (pop : List (Ind S O)) (size : Nat) (hs : 0 < size)
    (sched : List Nat) (h : sched.Perm ((chunks size pop.length).flatMap blockIdx)) :
    evalPar f pop sched = pop.map (evalInd f) := by
  rw [chunks_tile size pop.length hs] at h
  exact evalPar_eq f pop sched h

/-- … whereas with `par_chunks_exact_mut(size)` the result is the sequential one IFF every individual
in the remainder `[⌊len / size⌋ · size, len)` already holds its objective value: for a freshly generated
population exactly when `size ∣ len`. -/
theorem blockwise_exact_eq_iff {S O : Type} (f : S → O) (pop : List (Ind S O)) (size : Nat)
    (sched : List Nat) (h : sched.Perm ((chunksExact size pop.length).flatMap blockIdx)) :
    evalPar f pop sched = pop.map (evalInd f) ↔
      ∀ j (hj : j < pop.length), pop.length / size * size ≤ j → pop[j].obj = some (f pop[j].sol) := by
  rw [chunksExact_cover] at h
  rw [evalPar_eq_evalSeq_iff]
  refine forall₂_congr fun j hj => ?_
  rw [h.mem_iff, List.mem_range, Decidable.or_iff_not_imp_left, Nat.not_lt]

/-- The `PopulationEvaluator` component (pop the top population, evaluate, `Evaluations += len`, push
back) leaves the same stack and the same counter with the parallel evaluator under any legal
schedule as with the sequential one; populations below the top are not touched. -/
theorem population_evaluator_schedule_independent {S O : Type} (f : S → O) (stack : List (List (Ind S O)))
    (evals : Nat) (sched : List Nat) (h : sched.Perm (List.range (stack.headD []).length)) :
    popEvaluate (fun q => evalPar f q sched) stack evals = popEvaluate (evalSeq f) stack evals ∧
    (popEvaluate (evalSeq f) stack evals).1.drop 1 = stack.drop 1 ∧
    (popEvaluate (evalSeq f) stack evals).2 = evals + (stack.headD []).length := by
  cases stack with
  | nil => simp [popEvaluate]
  | cons top rest =>
    simp only [List.headD_cons] at h
    simp [popEvaluate, evalPar_eq f top sched h]

/-- Runs of the step language (steps that draw from the generator between evaluations, push and merge
populations, update the best individual, log): with every evaluation step completing in an
arbitrary legal order, the final state — population stack, generator position, evaluation count,
best individual, log — is that of the sequential run; only the order of the call record differs. -/
theorem run_schedule_independent (f : Nat → Nat) (stream : Nat → Nat) (ops : List Op)
    (schs : List (List Nat)) (s : RunSt) (h : Legal f stream ops schs s) :
    SameUpToCallOrder (runPar f stream ops schs s) (runSeq f stream ops s) :=
  runPar_rel f stream ops schs s s ⟨rfl, rfl, rfl, rfl, rfl, List.Perm.refl _⟩ h

/-- Runs under two different pools: with every evaluation step completing in an arbitrary legal order
under the one pool (`schs₁`) and in another under the other (`schs₂`), the final states — population
stack, generator position, evaluation count, best individual, log — coincide. -/
theorem run_thread_count_independent (f : Nat → Nat) (stream : Nat → Nat) (ops : List Op)
    (schs₁ schs₂ : List (List Nat)) (s : RunSt) (h₁ : Legal f stream ops schs₁ s) (h₂ : Legal f stream ops schs₂ s) :
    SameUpToCallOrder (runPar f stream ops schs₁ s) (runPar f stream ops schs₂ s) :=
  (run_schedule_independent f stream ops schs₁ s h₁).trans (run_schedule_independent f stream ops schs₂ s h₂).symm

/-- Child generators are a deterministic function of the parent's stream and position — for EVERY way
`d` of deriving a child's seed from the word drawn (the code uses the word itself; the tie reads the
seed off the child instead of demanding that): the i-th child is the generator constructed from `d` of
the parent's i-th next word, and deriving `k` children advances the parent by exactly `k` words. -/
theorem children_deterministic (ctor : Nat → Nat → Nat) (d : Nat → Nat) (k : Nat) (r : Rng) :
    (children ctor d k r).1 = (List.range k).map (fun i => mkRng ctor (d (r.stream (r.pos + i)))) ∧
    (children ctor d k r).2 = { r with pos := r.pos + k } := by
  obtain ⟨h1, h2⟩ := children_eq ctor d k r
  refine ⟨?_, h2⟩
  rw [h1, childSeeds_eq, List.map_map]; rfl

/-- Different seeds, different streams — RELATIVE to the assumptions that the constructor (ChaCha12
seeding) maps different seeds to different streams and that the seed derivation `d` is injective (the
identity in the code; a bijective scrambler would do as well): then children derived from pairwise
different parent words have pairwise different streams. -/
theorem children_pairwise_distinct (ctor : Nat → Nat → Nat) (hinj : ∀ a b, ctor a = ctor b → a = b)
    (d : Nat → Nat) (hd : ∀ a b, d a = d b → a = b)
    (k : Nat) (r : Rng) (hw : ((List.range k).map (fun i => r.stream (r.pos + i))).Nodup) :
    (((children ctor d k r).1).map (·.stream)).Nodup := by
  rw [(children_deterministic ctor d k r).1, List.map_map]
  have : ((fun c : Rng => c.stream) ∘ fun i => mkRng ctor (d (r.stream (r.pos + i))))
      = (fun w => ctor (d w)) ∘ fun i => r.stream (r.pos + i) := rfl
  rw [this, ← List.map_map]
  exact List.Pairwise.map _ (fun a b h e => h (hd a b (hinj _ _ e))) hw

/-- `Random` is a transparent wrapper of its backend: whatever mix of `next_u64`, `next_u32`,
`fill_bytes`, `try_fill_bytes` is drawn from `Random::with_rng::<B>(seed)`, the answers are those of the
backend seeded with exactly `seed` — the seed `config()` reports — and of nothing else. (The tie checks
this against the code for the counter backend, whose stream the model computes, and against rand's own
`seed_from_u64` for ChaCha8/12/20 and StdRng.) -/
theorem random_is_backend (B : Backend) (seed : Nat) (script : List Draw) :
    (Random.withRng B seed).run script = B.run script (B.seedFrom seed) ∧
    (Random.withRng B seed).cfgSeed = seed :=
  ⟨Random.run_eq script _, rfl⟩

/-- Different seeds, different streams — what follows from the above GIVEN that the backend's own
seeding is injective on 64-bit seeds (`hinj`; an assumption about rand_chacha for the default backend,
a theorem for the counter backend, see `ctr_different_seeds`): two generators constructed from
different user seeds differ in some word. -/
theorem different_seeds_different_streams (B : Backend)
    (hinj : ∀ a b, a < 2 ^ 64 → b < 2 ^ 64 →
      (∀ n, B.nthWord n (B.seedFrom a) = B.nthWord n (B.seedFrom b)) → a = b)
    (a b : Nat) (ha : a < 2 ^ 64) (hb : b < 2 ^ 64) (hab : a ≠ b) :
    ∃ n, B.nthWord n (Random.withRng B a).inner ≠ B.nthWord n (Random.withRng B b).inner :=
  Classical.not_forall.1 fun hall => hab (hinj a b ha hb hall)

/-- For the counter backend no assumption is needed: the first word of `with_rng::<Ctr>(s)` is `s`. -/
theorem ctr_different_seeds (a b : Nat) (ha : a < 2 ^ 64) (hb : b < 2 ^ 64) (hab : a ≠ b) :
    (Random.withRng ctr a).run [.u64] = [[a]] ∧ (Random.withRng ctr b).run [.u64] = [[b]] ∧
    (Random.withRng ctr a).run [.u64] ≠ (Random.withRng ctr b).run [.u64] := by
  have run : ∀ s, (Random.withRng ctr s).run [.u64] = [[s % 2 ^ 64]] := fun _ => rfl
  rw [run, run, Nat.mod_eq_of_lt ha, Nat.mod_eq_of_lt hb]
  exact ⟨rfl, rfl, fun h => hab (by simpa using h)⟩

/-- Descendants at any nesting depth, for every seed derivation `d`: the generator reached from
`with_rng::<B>(seed)` by taking child number i₁, of that one child number i₂, … is the PRISTINE generator
`with_rng::<B>(s')` (same backend) whose seed `s'` is computed from `seed` and the path on the backend
alone; `s'` is the last seed reported on the way down (what the tie uses as witness). -/
theorem descendant_deterministic (B : Backend) (d : Nat → Nat) (seed : Nat) (path : List Nat) :
    (Random.withRng B seed).descend d path = Random.withRng B (B.descendSeed d path seed) ∧
    ((Random.withRng B seed).descendSeeds d path).getLastD seed = B.descendSeed d path seed := by
  induction path generalizing seed with
  | nil => exact ⟨rfl, rfl⟩
  | cons i path ih =>
    simp only [Random.descend, Random.descendSeeds, Backend.descendSeed, Random.nthChild_eq, List.getLastD_cons]
    exact ih _

/-- `optimize_with`: the run draws from the generator the user's initialiser put into the state —
whatever the default (entropy-seeded) generator is; the default is used iff none was supplied; a
failing initialiser means no run. -/
theorem user_generator_decides_run {R : Type} (userInit : Reg → Except Unit Reg) (run : Rng → R) :
    (∀ s g, userInit { random := none } = .ok s → s.random = some g →
        ∀ dflt, optimizeWith userInit dflt run = .ok (run g)) ∧
    (∀ s, userInit { random := none } = .ok s → s.random = none →
        ∀ dflt, optimizeWith userInit dflt run = .ok (run dflt)) ∧
    (∀ e, userInit { random := none } = .error e → ∀ dflt, optimizeWith userInit dflt run = .error e) := by
  refine ⟨?_, ?_, ?_⟩
  · intro s g hs hg dflt; simp [optimizeWith, hs, hg]
  · intro s hs hn dflt; simp [optimizeWith, hs, hn]
  · intro e he dflt; simp [optimizeWith, he]

/-- `par_experiment`, the user's `setup`: the job's initialiser is `insert(Random::new(run)); setup(state)`,
so a generator that `setup` supplies is the one the run draws from — whatever the run number and the
entropy-seeded default are; if `setup` leaves the generator alone the run draws from `Random::new(run)`;
a failing `setup` means no run. -/
theorem experiment_user_generator_kept {G : Type} (newG : Nat → G) (setup : Option G → Except Unit (Option G))
    (dflt : G) (run : Nat) :
    (∀ g, setup (some (newG run)) = .ok (some g) → jobGenerator newG setup dflt run = .ok g) ∧
    ((∀ s, setup s = .ok s) → jobGenerator newG setup dflt run = .ok (newG run)) ∧
    (∀ e, setup (some (newG run)) = .error e → jobGenerator newG setup dflt run = .error e) := by
  rw [jobGenerator_eq]
  exact ⟨fun g h => by rw [h]; rfl, fun h => by rw [h]; rfl, fun e h => by rw [h]; rfl⟩

/-- `par_experiment`: the file of (problem p, run r) holds the single run of problem p seeded with r —
for every number of runs, every number of problems and every completion order of the jobs. -/
theorem experiment_seed_independent {R : Type} (single : Nat → Nat → R) (runs nprob : Nat) (sched : List Nat)
    (hs : sched.Perm (List.range (jobs runs nprob).length)) (p r : Nat) (hr : r < runs) (hp : p < nprob) :
    fileOf (experiment single runs nprob sched) p r = some (single p r) := by
  -- every file holds the run its name says, and the file of (p, r) is written
  have hval : ∀ x ∈ experiment single runs nprob sched, x.2 = single x.1.1 x.1.2 := fun x hx => by
    obtain ⟨j, _, hj⟩ := List.mem_filterMap.1 hx
    obtain ⟨job, _, rfl⟩ := Option.map_eq_some_iff.1 hj
    rfl
  have hmem : ((p, r), single p r) ∈ experiment single runs nprob sched := by
    obtain ⟨j, hj, hjj⟩ := List.getElem_of_mem ((mem_jobs runs nprob r p).2 ⟨hr, hp⟩)
    exact List.mem_filterMap.2 ⟨j, hs.mem_iff.2 (List.mem_range.2 hj), by rw [List.getElem?_eq_getElem hj, hjj]; rfl⟩
  unfold fileOf
  cases hf : List.find? (fun x => decide (x.1 = (p, r))) (experiment single runs nprob sched) with
  | none => exact absurd (decide_eq_true rfl) (List.find?_eq_none.1 hf _ hmem)
  | some x =>
    have hx : x.1 = (p, r) := of_decide_eq_true (List.find?_some (p := fun y : (Nat × Nat) × R => decide (y.1 = (p, r))) hf)
    rw [Option.map_some, hval x (List.mem_of_find?_eq_some hf), hx]

/-- The exported per-step maps are hash maps: any iteration order of a step's entries decodes to the
same name → value map (shared with C15). -/
theorem export_order_independent {N V : Type} [DecidableEq N] (names : List N)
    (m m' : List (Nat × Option V)) (s : Log.Step N V)
    (hp : m.Perm m') (hd : Log.decodeStep names m = some s) (hn : (s.map Prod.fst).Nodup) :
    ∃ s', Log.decodeStep names m' = some s' ∧ s.Perm s' ∧ Log.sameMap s s' :=
  Log.decodeStep_perm_sameMap names hp hd hn

/-! Non-vacuity -/
example : ([2, 0, 3, 1] : List Nat).Perm (List.range ([⟨5, none⟩, ⟨6, some 1⟩, ⟨7, none⟩, ⟨8, none⟩] : List (Ind Nat Nat)).length) := by
  decide +kernel
example : evalPar (fun x => x * x) [⟨5, none⟩, ⟨6, some 1⟩, ⟨7, none⟩, ⟨8, none⟩] [2, 0, 3, 1]
    = [⟨5, some 25⟩, ⟨6, some 36⟩, ⟨7, some 49⟩, ⟨8, some 64⟩] := by decide +kernel
example : callsPar ([⟨5, none⟩, ⟨6, some 1⟩, ⟨7, none⟩, ⟨8, none⟩] : List (Ind Nat Nat)) [2, 0, 3, 1] = [7, 5, 8, 6] := by decide +kernel
/-- a run that draws, evaluates two individuals in reverse order, selects, evaluates, merges, logs -/
example : Legal (fun x => x + 1) (fun i => 5 * i + 1)
    [.spawn, .spawn, .eval, .best, .log, .select, .perturb, .eval, .merge, .best, .log]
    [[1, 0], [1, 0]] ⟨[], 0, 0, none, [], []⟩ :=
  show _ ∧ _ ∧ _ from ⟨by decide +kernel, by decide +kernel, rfl⟩
example : (runPar (fun x => x + 1) (fun i => 5 * i + 1)
    [.spawn, .spawn, .eval, .best, .log, .select, .perturb, .eval, .merge, .best, .log]
    [[1, 0], [1, 0]] ⟨[], 0, 0, none, [], []⟩).calls = [6, 1, 22, 1] := by decide +kernel
example : (runSeq (fun x => x + 1) (fun i => 5 * i + 1)
    [.spawn, .spawn, .eval, .best, .log, .select, .perturb, .eval, .merge, .best, .log]
    ⟨[], 0, 0, none, [], []⟩).calls = [1, 6, 1, 22] := by decide +kernel
/-- a concrete constructor that maps different seeds to different streams -/
example : ∀ a b : Nat, (fun seed i => seed * (i + 1) + i) a = (fun seed i => seed * (i + 1) + i) b → a = b := by
  intro a b h; simpa using congrFun h 0
example : ((List.range 3).map (fun i => (⟨fun i => 10 * i + 1, 2⟩ : Rng).stream (2 + i))).Nodup := by decide +kernel
example : (children (fun seed i => seed + i) id 3 ⟨fun i => 10 * i, 2⟩).1.map (fun c => c.stream 1) = [21, 31, 41] := by decide +kernel
/-- an injective derivation other than the identity -/
example : (children (fun seed i => seed + i) (· * 2 + 1) 3 ⟨fun i => 10 * i, 2⟩).1.map (fun c => c.stream 1) = [42, 62, 82] := by decide +kernel
example : ∀ a b : Nat, (fun x => x * 2 + 1) a = (fun x => x * 2 + 1) b → a = b := by intro a b h; simp at h; omega
example : ([3, 0, 5, 1, 4, 2] : List Nat).Perm (List.range (jobs 3 2).length) := by decide +kernel
example : fileOf (experiment (fun p seed => 100 * p + seed) 3 2 [3, 0, 5, 1, 4, 2]) 1 2 = some 102 := by decide +kernel

/-- the counter backend satisfies the injectivity hypothesis -/
example : ∀ a b, a < 2 ^ 64 → b < 2 ^ 64 →
    (∀ n, ctr.nthWord n (ctr.seedFrom a) = ctr.nthWord n (ctr.seedFrom b)) → a = b := by
  intro a b ha hb h
  have := h 0
  rwa [ctr_first_word a ha, ctr_first_word b hb] at this
/-- grandchild 1 of child 2 of child 0 of seed 2^64 - 2 (wraps around), then a mixed draw script -/
example : ctr.descendSeed id [0, 2, 1] (2 ^ 64 - 2) = 1 := by decide +kernel
example : (Random.withRng ctr (2 ^ 64 - 2)).descendSeeds id [0, 2, 1] = [2 ^ 64 - 2, 0, 1] := by decide +kernel
example : ((Random.withRng ctr (2 ^ 64 - 2)).descend id [0, 2, 1]).run [.u64, .u32, .fill 3, .tryFill 9, .u64]
    = [[1], [2], [3, 0, 0], [4, 0, 0, 0, 0, 0, 0, 0, 5], [6]] := by decide +kernel
/-- a `setup` that supplies a ChaCha8 generator with seed 7; one that leaves the generator alone -/
example : jobGenerator (fun run => (⟨0, run⟩ : GenId)) (setupSupply ⟨1, 7⟩) ⟨99, 0⟩ 3 = .ok ⟨1, 7⟩ := by decide +kernel
example : jobGenerator (fun run => (⟨0, run⟩ : GenId)) setupKeep ⟨99, 0⟩ 3 = .ok ⟨0, 3⟩ := by decide +kernel
example : ∀ s, setupKeep s = .ok s := fun _ => rfl


/-- 7 individuals in blocks of 3 with `par_chunks_mut`: blocks (0,3) (3,3) (6,1); with `par_chunks_exact_mut`
the last individual is never visited and stays unevaluated -/
example : chunks 3 7 = [(0, 3), (3, 3), (6, 1)] ∧ chunksExact 3 7 = [(0, 3), (3, 3)] := by decide +kernel
example : ([3, 4, 0, 5, 1, 2] : List Nat).Perm ((chunksExact 3 7).flatMap blockIdx) := by decide +kernel
example : (evalPar (fun x => x * x) ((List.range 7).map fun i => (⟨i, none⟩ : Ind Nat Nat)) [3, 4, 0, 5, 1, 2]).map (·.obj)
    = [some 0, some 1, some 4, some 9, some 16, some 25, none] := by decide +kernel
/-- … and is the sequential result when the remainder was already evaluated -/
example : evalPar (fun x => x * x) (((List.range 6).map fun i => (⟨i, none⟩ : Ind Nat Nat)) ++ [(⟨6, some 36⟩ : Ind Nat Nat)]) [3, 4, 0, 5, 1, 2]
    = (((List.range 6).map fun i => (⟨i, none⟩ : Ind Nat Nat)) ++ [(⟨6, some 36⟩ : Ind Nat Nat)]).map (evalInd fun x => x * x) := by decide +kernel
/-- two pools: an unbalanced split tree processed by workers 0 and 1, and a balanced one by workers 0..2 -/
example : (Split.node 5 .leaf (.node 1 .leaf .leaf)).blocks 0 7 = [(0, 5), (5, 1), (6, 1)]
    ∧ (Split.node 3 (.node 1 .leaf .leaf) (.node 2 .leaf .leaf)).blocks 0 7 = [(0, 1), (1, 2), (3, 2), (5, 2)] := by decide +kernel
example : (([(1, 5), (0, 0), (1, 6), (0, 1), (0, 2), (0, 3), (0, 4)] : List (Nat × Nat)).map (·.2)).Perm
    (((Split.node 5 .leaf (.node 1 .leaf .leaf)).blocks 0 7).flatMap blockIdx) := by decide +kernel
example : (([(2, 3), (0, 0), (1, 1), (2, 4), (0, 5), (1, 2), (0, 6)] : List (Nat × Nat)).map (·.2)).Perm
    (((Split.node 3 (.node 1 .leaf .leaf) (.node 2 .leaf .leaf)).blocks 0 7).flatMap blockIdx) := by decide +kernel
example : ([2, 0, 1] : List Nat).Perm (List.range (([[⟨5, none⟩, ⟨6, some 1⟩, ⟨7, none⟩], [⟨9, none⟩]] : List (List (Ind Nat Nat))).headD []).length) := by decide +kernel
example : popEvaluate (fun q => evalPar (fun x => x * x) q [2, 0, 1]) ([[⟨5, none⟩, ⟨6, some 1⟩, ⟨7, none⟩], [⟨9, none⟩]] : List (List (Ind Nat Nat))) 10
    = (([[⟨5, some 25⟩, ⟨6, some 36⟩, ⟨7, some 49⟩], [⟨9, none⟩]] : List (List (Ind Nat Nat))), 13) := by decide +kernel
/-- two legal schedule lists for the same run (the second evaluates in slice order) -/
example : Legal (fun x => x + 1) (fun i => 5 * i + 1)
    [.spawn, .spawn, .eval, .best, .log, .select, .perturb, .eval, .merge, .best, .log]
    [[0, 1], [0, 1]] ⟨[], 0, 0, none, [], []⟩ :=
  show _ ∧ _ ∧ _ from ⟨by decide +kernel, by decide +kernel, rfl⟩

end MahfModel.Props.C08
