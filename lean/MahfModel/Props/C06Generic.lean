/-
C06 on the template level, part two — a template applies ONLY the evaluator it was asked to use.

The generic loop functions `heuristics::xx::xx::<P, I>` (`ga::ga`, `es::es`, `de::de`, `pso::pso`, `sa::sa`,
`ls::ls`, `ils::ils`, `rs::rs`, `rw::rw`, `iwo::iwo`, `fa::fa`, `bh::bh`, `cro::cro`) take the evaluator
identifier as a type parameter.  The shipped constructors all pass `Global`, so a generic function that
hard-codes `.evaluate()` (= `Global`) in one of its evaluation steps is invisible to everything built from
them.  Here each generic function is instantiated with `identifier::A` (complete configuration: the
initialisation prefix of the shipped constructor with `.evaluate_with::<A>()`, then `xx::<P, A>(…)`), its
tree is re-extracted from the code's own `Serialize` output on every run
(`Generated/TemplatesGenericA.lean`, identifiers kept), and the kernel evaluates the verified checker on it.

* `uses_only_requested`, `other_evaluators_irrelevant`, `requested_registered_passes_require`,
  `requested_missing_fails_before_executing`: soundness of `usesOnlyTop` for EVERY execution of the abstract
  interpreter `runI` (all condition outcomes, iteration counts, population sizes, failure points, registries).
* `mixed_identifiers_*`: the shape of a generic function that names `Global` in one evaluation step, as a
  concrete model execution (what the checker rejects, and why it matters).
* `generic_<fn>_v<i>_uses_only_A`: the checker on the regenerated tree: every evaluation-performing component
  (`PopulationEvaluator<I>`, `FireflyPositionsUpdate<I>`) names `A`, none names `Global`, every component is known.
* `generic_<fn>_v<i>_counter_exact`: the `counterExact` analysis of `Props/C06Templates.lean` on the same trees
  (identifiers forgotten); `false` for `ils::ils` — the recorded scoped-counter finding is a property of the
  generic function, not of its `Global` instantiation.

`aco::aco::<P, I>` is not covered: `aco::Parameters<P>` has only private fields and no constructor, so the
generic function cannot be called from outside the crate.
-/
import MahfModel.Proofs.TemplatesId
import MahfModel.Generated.TemplatesGenericA
namespace MahfModel.Props.C06.Generic
open MahfModel.Tpl MahfModel.Generated.GenericA

/-- Every application of an evaluator during a finished run of a `usesOnlyTop w` tree is an application of
the evaluator registered as `w` — whatever else is registered. -/
theorem uses_only_requested (w : EvId) (reg : List EvId) (o : IOracle) (fuel : Nat) (c : IComp) (s : ISt)
    (hc : usesOnlyTop w c = true) (h : runI reg o fuel c = .done s) :
    ∀ e ∈ s.log, e.1 = w := by
  simp only [usesOnlyTop, Bool.and_eq_true] at hc
  unfold runI at h
  split at h
  · cases h1 : execI reg o fuel c { log := [], tick := 0 } with
    | none => simp [h1] at h
    | some s1 =>
      simp only [h1] at h
      injection h with h; subst h
      obtain ⟨l, e1, e2⟩ := execI_sound w reg o fuel c _ s1 hc.2 h1
      intro e he
      rw [e1] at he
      exact e2 e (by simpa using he)
  · cases h

/-- As soon as the requested evaluator is registered, no other registered evaluator makes a difference: the
run is the run on the state that holds only `w` (in particular, no `Global` evaluator is needed). -/
theorem other_evaluators_irrelevant (w : EvId) (reg : List EvId) (o : IOracle) (fuel : Nat) (c : IComp)
    (hc : usesOnlyTop w c = true) (hw : reg.contains w = true) :
    runI reg o fuel c = runI [w] o fuel c := by
  simp only [usesOnlyTop, Bool.and_eq_true] at hc
  unfold runI
  rw [requireOk_of_usesOnly w reg c hc.2 hw, requireOk_of_usesOnly w [w] c hc.2 (by simp),
    execI_reg_irrelevant w reg o hw fuel c _ hc.2]

/-- With the requested evaluator registered the requirement check passes — nothing else has to be registered —
so the run is never refused before it starts. -/
theorem requested_registered_passes_require (w : EvId) (reg : List EvId) (o : IOracle) (fuel : Nat) (c : IComp)
    (hc : usesOnlyTop w c = true) (hw : reg.contains w = true) :
    requireOk reg c = true ∧ runI reg o fuel c ≠ .requireFailed := by
  simp only [usesOnlyTop, Bool.and_eq_true] at hc
  have hr := requireOk_of_usesOnly w reg c hc.2 hw
  refine ⟨hr, ?_⟩
  unfold runI
  simp only [hr, if_true]
  cases execI reg o fuel c { log := [], tick := 0 } <;> simp

/-- Without the requested evaluator the run fails in `require`, before anything executes — whatever else is
registered, for every oracle. -/
theorem requested_missing_fails_before_executing (w : EvId) (reg : List EvId) (o : IOracle) (fuel : Nat) (c : IComp)
    (hc : usesOnlyTop w c = true) (hw : reg.contains w = false) :
    runI reg o fuel c = .requireFailed := by
  unfold runI
  simp [requireOk_false_of_missing w reg c hc hw]

/-- The black-hole loop with `Global` in its second evaluation step (first step and prefix name `A`). -/
def mixedBh : IComp :=
  .seq (.cons (.leaf .RandomSpread none) (.cons (.leaf .PopulationEvaluator (some .A)) (.cons (.leaf .BestIndividualUpdate none)
    (.cons (.loop (.seq (.cons (.leaf .BlackHoleParticlesUpdate (some .Global)) (.cons (.leaf .Saturation none)
      (.cons (.leaf .PopulationEvaluator (some .A)) (.cons (.leaf .BestIndividualUpdate none) (.cons (.leaf .EventHorizon none)
      (.cons (.leaf .PopulationEvaluator (some .Global)) (.cons (.leaf .BestIndividualUpdate none) (.cons (.leaf .Logger none) .nil))))))))))
    .nil))))

def isRequireFailed : IRun → Bool
  | .requireFailed => true
  | _ => false

/-- The checker rejects it. -/
theorem mixed_identifiers_rejected : usesOnlyTop .A mixedBh = false := by decide +kernel

/-- With only the requested evaluator `A` registered it is refused although everything requested is present. -/
theorem mixed_identifiers_refused_with_requested_only :
    isRequireFailed (runI [.A] ⟨fun t => t < 3, fun _ => false, fun _ => 4, fun _ => .other⟩ 100 mixedBh) = true := by decide +kernel

/-- With both registered it runs and applies the evaluator registered as `Global`: one pass, three
evaluation steps, the last one on the wrong evaluator. -/
theorem mixed_identifiers_apply_other_evaluator :
    (match runI [.A, .Global] ⟨fun t => t < 4, fun _ => false, fun _ => 4, fun _ => .other⟩ 100 mixedBh with
     | .done s => s.log
     | _ => []) = [(.A, 4), (.A, 4), (.Global, 4)] := by decide +kernel

/-- The scoped-counter finding is a property of the generic `ils::ils` (here with identifier `A`, as regenerated
from the code, scoped `ls` loop as in `real_ils` since 364645e): one outer pass with one pass of the scoped local
search, every evaluation of one individual: 2 evaluations reported, 3 calls made. -/
theorem generic_ils_counter_violates :
    (runC ⟨fun t => t == 3 || t == 8, fun _ => false, fun _ => 1⟩ 200 (IComp.erase generic_ils_v0)).map
      (fun s => (visible s.counters, s.calls, decide (visible s.counters = some s.calls))) = some (some 2, 3, false) := by decide +kernel

/-! Non-vacuity: the hypotheses hold on a regenerated tree, runs of it finish, and they log applications of `A`. -/
example : usesOnlyTop .A generic_bh_v0 = true := by decide +kernel
example : (match runI [.A] ⟨fun t => t < 30, fun _ => false, fun t => t % 5, fun _ => .other⟩ 300 generic_bh_v0 with
    | .done s => s.log.length
    | _ => 0) = 7 := by decide +kernel
example : isRequireFailed (runI [.Global] ⟨fun t => t < 30, fun _ => false, fun t => t % 5, fun _ => .other⟩ 300 generic_bh_v0) = true := by
  decide +kernel

/-! ### Per-template obligations on the regenerated trees -/
theorem generic_ga_v0_uses_only_A : usesOnlyTop .A generic_ga_v0 = true := by decide +kernel
theorem generic_ga_v1_uses_only_A : usesOnlyTop .A generic_ga_v1 = true := by decide +kernel
theorem generic_ga_v2_uses_only_A : usesOnlyTop .A generic_ga_v2 = true := by decide +kernel
theorem generic_ga_v3_uses_only_A : usesOnlyTop .A generic_ga_v3 = true := by decide +kernel
theorem generic_es_v0_uses_only_A : usesOnlyTop .A generic_es_v0 = true := by decide +kernel
theorem generic_es_v1_uses_only_A : usesOnlyTop .A generic_es_v1 = true := by decide +kernel
theorem generic_es_v2_uses_only_A : usesOnlyTop .A generic_es_v2 = true := by decide +kernel
theorem generic_es_v3_uses_only_A : usesOnlyTop .A generic_es_v3 = true := by decide +kernel
theorem generic_de_v0_uses_only_A : usesOnlyTop .A generic_de_v0 = true := by decide +kernel
theorem generic_de_v1_uses_only_A : usesOnlyTop .A generic_de_v1 = true := by decide +kernel
theorem generic_de_v2_uses_only_A : usesOnlyTop .A generic_de_v2 = true := by decide +kernel
theorem generic_de_v3_uses_only_A : usesOnlyTop .A generic_de_v3 = true := by decide +kernel
theorem generic_pso_v0_uses_only_A : usesOnlyTop .A generic_pso_v0 = true := by decide +kernel
theorem generic_pso_v1_uses_only_A : usesOnlyTop .A generic_pso_v1 = true := by decide +kernel
theorem generic_pso_v2_uses_only_A : usesOnlyTop .A generic_pso_v2 = true := by decide +kernel
theorem generic_pso_v3_uses_only_A : usesOnlyTop .A generic_pso_v3 = true := by decide +kernel
theorem generic_sa_v0_uses_only_A : usesOnlyTop .A generic_sa_v0 = true := by decide +kernel
theorem generic_sa_v1_uses_only_A : usesOnlyTop .A generic_sa_v1 = true := by decide +kernel
theorem generic_sa_v2_uses_only_A : usesOnlyTop .A generic_sa_v2 = true := by decide +kernel
theorem generic_sa_v3_uses_only_A : usesOnlyTop .A generic_sa_v3 = true := by decide +kernel
theorem generic_ls_v0_uses_only_A : usesOnlyTop .A generic_ls_v0 = true := by decide +kernel
theorem generic_ls_v1_uses_only_A : usesOnlyTop .A generic_ls_v1 = true := by decide +kernel
theorem generic_ls_v2_uses_only_A : usesOnlyTop .A generic_ls_v2 = true := by decide +kernel
theorem generic_ls_v3_uses_only_A : usesOnlyTop .A generic_ls_v3 = true := by decide +kernel
theorem generic_ils_v0_uses_only_A : usesOnlyTop .A generic_ils_v0 = true := by decide +kernel
theorem generic_ils_v1_uses_only_A : usesOnlyTop .A generic_ils_v1 = true := by decide +kernel
theorem generic_ils_v2_uses_only_A : usesOnlyTop .A generic_ils_v2 = true := by decide +kernel
theorem generic_ils_v3_uses_only_A : usesOnlyTop .A generic_ils_v3 = true := by decide +kernel
theorem generic_rs_v0_uses_only_A : usesOnlyTop .A generic_rs_v0 = true := by decide +kernel
theorem generic_rs_v1_uses_only_A : usesOnlyTop .A generic_rs_v1 = true := by decide +kernel
theorem generic_rs_v2_uses_only_A : usesOnlyTop .A generic_rs_v2 = true := by decide +kernel
theorem generic_rs_v3_uses_only_A : usesOnlyTop .A generic_rs_v3 = true := by decide +kernel
theorem generic_rw_v0_uses_only_A : usesOnlyTop .A generic_rw_v0 = true := by decide +kernel
theorem generic_rw_v1_uses_only_A : usesOnlyTop .A generic_rw_v1 = true := by decide +kernel
theorem generic_rw_v2_uses_only_A : usesOnlyTop .A generic_rw_v2 = true := by decide +kernel
theorem generic_rw_v3_uses_only_A : usesOnlyTop .A generic_rw_v3 = true := by decide +kernel
theorem generic_iwo_v0_uses_only_A : usesOnlyTop .A generic_iwo_v0 = true := by decide +kernel
theorem generic_iwo_v1_uses_only_A : usesOnlyTop .A generic_iwo_v1 = true := by decide +kernel
theorem generic_iwo_v2_uses_only_A : usesOnlyTop .A generic_iwo_v2 = true := by decide +kernel
theorem generic_iwo_v3_uses_only_A : usesOnlyTop .A generic_iwo_v3 = true := by decide +kernel
theorem generic_fa_v0_uses_only_A : usesOnlyTop .A generic_fa_v0 = true := by decide +kernel
theorem generic_fa_v1_uses_only_A : usesOnlyTop .A generic_fa_v1 = true := by decide +kernel
theorem generic_fa_v2_uses_only_A : usesOnlyTop .A generic_fa_v2 = true := by decide +kernel
theorem generic_fa_v3_uses_only_A : usesOnlyTop .A generic_fa_v3 = true := by decide +kernel
theorem generic_bh_v0_uses_only_A : usesOnlyTop .A generic_bh_v0 = true := by decide +kernel
theorem generic_bh_v1_uses_only_A : usesOnlyTop .A generic_bh_v1 = true := by decide +kernel
theorem generic_bh_v2_uses_only_A : usesOnlyTop .A generic_bh_v2 = true := by decide +kernel
theorem generic_bh_v3_uses_only_A : usesOnlyTop .A generic_bh_v3 = true := by decide +kernel
theorem generic_cro_v0_uses_only_A : usesOnlyTop .A generic_cro_v0 = true := by decide +kernel
theorem generic_cro_v1_uses_only_A : usesOnlyTop .A generic_cro_v1 = true := by decide +kernel
theorem generic_cro_v2_uses_only_A : usesOnlyTop .A generic_cro_v2 = true := by decide +kernel
theorem generic_cro_v3_uses_only_A : usesOnlyTop .A generic_cro_v3 = true := by decide +kernel
theorem generic_ga_v0_counter_exact : counterExactTop (IComp.erase generic_ga_v0) = true := by decide +kernel
theorem generic_ga_v1_counter_exact : counterExactTop (IComp.erase generic_ga_v1) = true := by decide +kernel
theorem generic_ga_v2_counter_exact : counterExactTop (IComp.erase generic_ga_v2) = true := by decide +kernel
theorem generic_ga_v3_counter_exact : counterExactTop (IComp.erase generic_ga_v3) = true := by decide +kernel
theorem generic_es_v0_counter_exact : counterExactTop (IComp.erase generic_es_v0) = true := by decide +kernel
theorem generic_es_v1_counter_exact : counterExactTop (IComp.erase generic_es_v1) = true := by decide +kernel
theorem generic_es_v2_counter_exact : counterExactTop (IComp.erase generic_es_v2) = true := by decide +kernel
theorem generic_es_v3_counter_exact : counterExactTop (IComp.erase generic_es_v3) = true := by decide +kernel
theorem generic_de_v0_counter_exact : counterExactTop (IComp.erase generic_de_v0) = true := by decide +kernel
theorem generic_de_v1_counter_exact : counterExactTop (IComp.erase generic_de_v1) = true := by decide +kernel
theorem generic_de_v2_counter_exact : counterExactTop (IComp.erase generic_de_v2) = true := by decide +kernel
theorem generic_de_v3_counter_exact : counterExactTop (IComp.erase generic_de_v3) = true := by decide +kernel
theorem generic_pso_v0_counter_exact : counterExactTop (IComp.erase generic_pso_v0) = true := by decide +kernel
theorem generic_pso_v1_counter_exact : counterExactTop (IComp.erase generic_pso_v1) = true := by decide +kernel
theorem generic_pso_v2_counter_exact : counterExactTop (IComp.erase generic_pso_v2) = true := by decide +kernel
theorem generic_pso_v3_counter_exact : counterExactTop (IComp.erase generic_pso_v3) = true := by decide +kernel
theorem generic_sa_v0_counter_exact : counterExactTop (IComp.erase generic_sa_v0) = true := by decide +kernel
theorem generic_sa_v1_counter_exact : counterExactTop (IComp.erase generic_sa_v1) = true := by decide +kernel
theorem generic_sa_v2_counter_exact : counterExactTop (IComp.erase generic_sa_v2) = true := by decide +kernel
theorem generic_sa_v3_counter_exact : counterExactTop (IComp.erase generic_sa_v3) = true := by decide +kernel
theorem generic_ls_v0_counter_exact : counterExactTop (IComp.erase generic_ls_v0) = true := by decide +kernel
theorem generic_ls_v1_counter_exact : counterExactTop (IComp.erase generic_ls_v1) = true := by decide +kernel
theorem generic_ls_v2_counter_exact : counterExactTop (IComp.erase generic_ls_v2) = true := by decide +kernel
theorem generic_ls_v3_counter_exact : counterExactTop (IComp.erase generic_ls_v3) = true := by decide +kernel
theorem generic_ils_v0_counter_exact : counterExactTop (IComp.erase generic_ils_v0) = false := by decide +kernel
theorem generic_ils_v1_counter_exact : counterExactTop (IComp.erase generic_ils_v1) = false := by decide +kernel
theorem generic_ils_v2_counter_exact : counterExactTop (IComp.erase generic_ils_v2) = false := by decide +kernel
theorem generic_ils_v3_counter_exact : counterExactTop (IComp.erase generic_ils_v3) = false := by decide +kernel
theorem generic_rs_v0_counter_exact : counterExactTop (IComp.erase generic_rs_v0) = true := by decide +kernel
theorem generic_rs_v1_counter_exact : counterExactTop (IComp.erase generic_rs_v1) = true := by decide +kernel
theorem generic_rs_v2_counter_exact : counterExactTop (IComp.erase generic_rs_v2) = true := by decide +kernel
theorem generic_rs_v3_counter_exact : counterExactTop (IComp.erase generic_rs_v3) = true := by decide +kernel
theorem generic_rw_v0_counter_exact : counterExactTop (IComp.erase generic_rw_v0) = true := by decide +kernel
theorem generic_rw_v1_counter_exact : counterExactTop (IComp.erase generic_rw_v1) = true := by decide +kernel
theorem generic_rw_v2_counter_exact : counterExactTop (IComp.erase generic_rw_v2) = true := by decide +kernel
theorem generic_rw_v3_counter_exact : counterExactTop (IComp.erase generic_rw_v3) = true := by decide +kernel
theorem generic_iwo_v0_counter_exact : counterExactTop (IComp.erase generic_iwo_v0) = true := by decide +kernel
theorem generic_iwo_v1_counter_exact : counterExactTop (IComp.erase generic_iwo_v1) = true := by decide +kernel
theorem generic_iwo_v2_counter_exact : counterExactTop (IComp.erase generic_iwo_v2) = true := by decide +kernel
theorem generic_iwo_v3_counter_exact : counterExactTop (IComp.erase generic_iwo_v3) = true := by decide +kernel
theorem generic_fa_v0_counter_exact : counterExactTop (IComp.erase generic_fa_v0) = true := by decide +kernel
theorem generic_fa_v1_counter_exact : counterExactTop (IComp.erase generic_fa_v1) = true := by decide +kernel
theorem generic_fa_v2_counter_exact : counterExactTop (IComp.erase generic_fa_v2) = true := by decide +kernel
theorem generic_fa_v3_counter_exact : counterExactTop (IComp.erase generic_fa_v3) = true := by decide +kernel
theorem generic_bh_v0_counter_exact : counterExactTop (IComp.erase generic_bh_v0) = true := by decide +kernel
theorem generic_bh_v1_counter_exact : counterExactTop (IComp.erase generic_bh_v1) = true := by decide +kernel
theorem generic_bh_v2_counter_exact : counterExactTop (IComp.erase generic_bh_v2) = true := by decide +kernel
theorem generic_bh_v3_counter_exact : counterExactTop (IComp.erase generic_bh_v3) = true := by decide +kernel
theorem generic_cro_v0_counter_exact : counterExactTop (IComp.erase generic_cro_v0) = true := by decide +kernel
theorem generic_cro_v1_counter_exact : counterExactTop (IComp.erase generic_cro_v1) = true := by decide +kernel
theorem generic_cro_v2_counter_exact : counterExactTop (IComp.erase generic_cro_v2) = true := by decide +kernel
theorem generic_cro_v3_counter_exact : counterExactTop (IComp.erase generic_cro_v3) = true := by decide +kernel

end MahfModel.Props.C06.Generic
