/-
C08 — thread / scheduling independence of the components that compute and publish a value (the diversity
measures, whose value is logged and, through a lens and a mapping, steers the search).

Model: `Model/DeterminismMeasure.lean` (code-shaped left folds for the four measures, tied to the code by
the measure-* sites; tree reductions `treeSum` for what a reduction handed to the ambient rayon pool does;
configurations whose leaves may look at the execution context).
-/
import MahfModel.Model.DeterminismMeasure
import Mathlib.Algebra.BigOperators.Group.List.Basic
namespace MahfModel.Props.C08Measure
open MahfModel.Determinism MahfModel.DeterminismMeasure

/-- A run is independent of the execution contexts (pool size, inside / outside a pool, schedule — a
possibly different one at every single component execution) as soon as every leaf component is: for all
configurations (sequences, nested loops), all context assignments and all start states. -/
theorem run_context_independent {C σ : Type} (cfg : Cfg C σ) (h : cfg.ContextFree) (ctx ctx' : Nat → C)
    (p : Nat × σ) : cfg.exec ctx p = cfg.exec ctx' p := by
  induction cfg generalizing p with
  | leaf c => obtain ⟨i, s⟩ := p; simp only [Cfg.exec]; rw [h (ctx i) (ctx' i) s]
  | seq a b iha ihb => simp only [Cfg.exec]; rw [iha h.1, ihb h.2]
  | loop n body ih =>
    have hb : body.ContextFree := h
    simp only [Cfg.exec]
    clear h
    induction n with
    | zero => rfl
    | succ k ihk => simp only []; rw [ihk, ih hb]

/-- The feedback loop is context-free as soon as its measure is: the other three leaves never look. -/
theorem _root_.MahfModel.DeterminismMeasure.feedbackLoop_contextFree {C F : Type} [Add F] [Sub F] [Mul F] [Div F] [OfNat F 0] [LT F] [DecidableLT F]
    {m : C → List (List F) → F} (h : ∀ c c' sols, m c sols = m c' sols) (start stop : F) (stream : Nat → F) (n : Nat) :
    (feedbackLoop m start stop stream n).ContextFree :=
  ⟨fun c c' s => by simp only [measureLeaf, h c c'], fun _ _ _ => rfl, fun _ _ _ => rfl, fun _ _ _ => rfl⟩

/-- The measure → mapping → mutation → log loop with any of the four measures AS THEY ARE (left folds that
do not look at the context): population, diversity state, mutation strength, generator position and log
are the same under all context assignments, for every carrier (in particular `Float`), every start state,
every number of passes. -/
theorem feedback_loop_thread_independent {C F : Type} [Add F] [Sub F] [Mul F] [Div F] [OfNat F 0] [LT F]
    [DecidableLT F] (o : Ops F) (m d : Nat) (start stop : F) (stream : Nat → F) (n : Nat) (ctx ctx' : Nat → C)
    (p : Nat × MSt F) :
    (feedbackLoop (fun _ => measure o m d) start stop stream n).exec ctx p
      = (feedbackLoop (fun _ => measure o m d) start stop stream n).exec ctx' p :=
  run_context_independent _ (feedbackLoop_contextFree (fun _ _ _ => rfl) ..) ctx ctx' p

/-- In exact arithmetic (any additive monoid, e.g. a field) the shape of a reduction is irrelevant: every
tree reduction equals the left fold. This is why a parallel sum LOOKS harmless — -/
theorem treeSum_eq_sumL {F : Type} [AddMonoid F] (xs : List F) (t : Split) : treeSum xs t = sumL xs := by
  have hs : ∀ ys : List F, sumL ys = ys.sum := fun ys => by
    simp only [sumL]; exact (List.sum_eq_foldl).symm
  induction t generalizing xs with
  | leaf => rfl
  | node k l r ihl ihr =>
    simp only [treeSum, ihl, ihr, hs]
    rw [← List.sum_append, List.take_append_drop]

/-- — and why it is not: with rounding (two significant digits) the same four numbers reduce to different
values under different split trees, … -/
theorem rounding_sum_depends_on_tree :
    treeSum ([⟨950⟩, ⟨40⟩, ⟨40⟩, ⟨40⟩] : List R2) .leaf ≠ treeSum [⟨950⟩, ⟨40⟩, ⟨40⟩, ⟨40⟩] (.node 1 .leaf .leaf) := by
  decide +kernel

/-- … so a measure whose sum is handed to the pool (`dtapPar`, the split tree being part of the context) gives
runs of the feedback loop that differ in population AND log between two contexts: such a component violates the
property; `Cfg.ContextFree` is exactly what it lacks. -/
theorem parallel_sum_measure_violates :
    let cfg : Cfg Split (MSt R2) :=
      feedbackLoop (fun t sols => dtapPar r2ops 1 sols t) ⟨100⟩ ⟨300⟩ (fun i => if i % 8 = 0 then ⟨0⟩ else ⟨100⟩) 3
    let s0 : MSt R2 := ⟨[[⟨1000⟩], [⟨400⟩], [⟨400⟩], [⟨400⟩], [⟨400⟩], [⟨0⟩], [⟨0⟩], [⟨0⟩]], ⟨0⟩, ⟨0⟩, ⟨0⟩, 0, []⟩
    ((cfg.exec (fun _ => .leaf) (0, s0)).2.pop ≠ (cfg.exec (fun _ => .node 1 .leaf .leaf) (0, s0)).2.pop)
    ∧ ((cfg.exec (fun _ => .leaf) (0, s0)).2.log ≠ (cfg.exec (fun _ => .node 1 .leaf .leaf) (0, s0)).2.log) := by
  decide +kernel

-- the hypotheses are satisfiable / the objects are not degenerate
example : (Cfg.seq (.leaf fun (_ : Nat) (s : Nat) => s + 1) (.loop 3 (.leaf fun _ s => 2 * s))).ContextFree :=
  ⟨fun _ _ _ => rfl, fun _ _ _ => rfl⟩
example : ((Cfg.seq (.leaf fun (_ : Nat) (s : Nat) => s + 1) (.loop 3 (.leaf fun _ s => 2 * s))).exec id (0, 1)) = (4, 16) := by
  decide +kernel
example : ¬ (Cfg.leaf fun (c : Nat) (s : Nat) => s + c).ContextFree := fun h => by simpa using h 0 1 0
example : measure r2ops 3 1 [[⟨1000⟩], [⟨2000⟩], [⟨6000⟩]] = ⟨30000⟩ := by decide +kernel
example : measure r2ops 1 1 [[⟨1000⟩], [⟨2000⟩], [⟨6000⟩]] = ⟨230000⟩ := by decide +kernel
example : measure r2ops 0 1 [[⟨1000⟩], [⟨2000⟩], [⟨6000⟩]] = ⟨1000⟩ := by decide +kernel
example : measure r2ops 2 1 [[⟨1000⟩], [⟨2000⟩], [⟨6000⟩]] = ⟨50000⟩ := by decide +kernel

end MahfModel.Props.C08Measure
