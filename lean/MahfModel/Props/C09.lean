/-
C09 — Objective values are never NaN or −inf and are ordered soundly.
Property theorems only; the lemmas they rest on are in `Proofs/C09Basic.lean`, `Proofs/C09.lean` (single objectives),
`Proofs/C09Vec.lean` (vectors) and `Proofs/C09Float.lean` (decoder, operators); the sort, minimum and maximum are read off
`Props/C09Sort.lean` (`sort_is_stable`, the tie rules `min_first_max_last`).

`F64` is the exact value of a double (`fin k` = `k · 2^-1074`); `legal` = "not NaN, not −inf".
-/
import MahfModel.Props.C09Sort
import MahfModel.Proofs.C09Vec
import MahfModel.Proofs.C09Float
namespace MahfModel.Props.C09
open MahfModel.Objective

def bInf : UInt64 := 0x7ff0000000000000
def bNegInf : UInt64 := 0xfff0000000000000
def bNan : UInt64 := 0x7ff8000000000000
def bZero : UInt64 := 0x0000000000000000
def bNegZero : UInt64 := 0x8000000000000000
def bOne : UInt64 := 0x3ff0000000000000
def bNegOne : UInt64 := 0xbff0000000000000
def bNegMax : UInt64 := 0xffefffffffffffff
def bMax : UInt64 := 0x7fefffffffffffff
def bTwo : UInt64 := 0x4000000000000000
def bHalf : UInt64 := 0x3fe0000000000000

/-! ### the decoder is exact -/

/-- The decoder (`ofNatBits`, on the pattern as a number) is strictly monotone on the patterns below
`+inf`: non-negative finite doubles are ordered like their bit patterns (exponent and fraction are
placed correctly: every step to the next pattern is a strict increase, across binade borders and
from the subnormals into the normals). -/
theorem ofBits_order_embedding (m n : Nat) (hmn : m < n) (hn : n < 0x7ff0000000000000) :
    lt (ofNatBits m) (ofNatBits n) = true := ofNatBits_mono m n hmn hn

/-- The sign bit is exact negation; zero, the smallest subnormal, the two infinities and the NaN
patterns are where IEEE-754 puts them. -/
theorem ofBits_sign_specials (n : Nat) (h : n < 2 ^ 63) :
    ofNatBits (n + 2 ^ 63) = negF (ofNatBits n) ∧
    ofNatBits 0 = .fin 0 ∧ ofNatBits 1 = .fin 1 ∧
    ofNatBits 0x7ff0000000000000 = .pinf ∧ ofNatBits 0xfff0000000000000 = .ninf ∧
    (0x7ff0000000000000 < n → ofNatBits n = .nan) := by
  exact ⟨ofNatBits_sign n h, by decide, by decide, ofNatBits_pinf, by decide, fun hn => ofNatBits_nan n hn h⟩

/-- The bit patterns that are not legal objective values are exactly −inf and the NaNs. -/
theorem ofBits_illegal_iff (n : Nat) :
    legal (ofNatBits n) = false ↔
      (n / 2 ^ 52 % 2048 = 2047 ∧ (n % 2 ^ 52 ≠ 0 ∨ n / 2 ^ 63 % 2 = 1)) := by
  rw [ofNatBits_eq_dec, legal_dec, beq_iff_eq]

/-- `1.0` is `2^1074` units; `f64::MAX` is `(2^53 − 1) · 2^2045` units, exactly half an ulp (`2^2044`
units, i.e. `2^970`) below the overflow bound `ovf`. -/
theorem ofBits_one_and_max :
    ofBits bOne = .fin scale ∧ (∃ k : Int, ofBits bMax = .fin k ∧ k < ovf ∧ (ovf : Int) - k = 2 ^ 2044) := by
  refine ⟨by decide +kernel, (2 ^ 53 - 1) * 2 ^ 2045, by decide +kernel, by decide +kernel, by decide +kernel⟩

/-! ### construction -/

/-- Whatever the single-objective constructor lets through is the input itself and is legal. -/
theorem tryFrom_sound (x v : F64) (h : tryFrom x = .ok v) : v = x ∧ v ≠ .nan ∧ v ≠ .ninf := by
  cases x <;> simp [tryFrom, isNan, isInfinite, infIsNegative] at h <;> (subst h; simp)

/-- Every value other than NaN and −inf is accepted unchanged; those two are rejected with their own error. -/
theorem tryFrom_complete (x : F64) :
    (x ≠ .nan → x ≠ .ninf → tryFrom x = .ok x) ∧
    tryFrom .nan = .error .nan ∧ tryFrom .ninf = .error .negInf := by
  refine ⟨?_, rfl, rfl⟩
  cases x <;> simp [tryFrom, isNan, isInfinite, infIsNegative]

/-- Legality is exactly acceptance. -/
theorem tryFrom_ok_iff_legal (x : F64) : (∃ v, tryFrom x = .ok v) ↔ legal x = true := by
  cases x <;> simp [tryFrom, isNan, isInfinite, infIsNegative, legal]

theorem default_and_INFINITY_legal : legal objDefault = true ∧ objDefault = .pinf := ⟨rfl, rfl⟩

/-- The multi-objective constructor: accepted ⇒ unchanged and every coordinate legal;
every all-legal vector is accepted; NaN is reported in preference to −inf. -/
theorem tryFromVec_sound (x v : List F64) (h : tryFromVec x = .ok v) : v = x ∧ legalVec v = true := by
  unfold tryFromVec at h
  split at h
  · cases h -- a NaN was found
  · split at h
    · cases h -- a −inf was found
    · rename_i h1 h2
      injection h with h; subst h
      exact ⟨rfl, by simp [legalVec_eq, h1, h2]⟩

theorem tryFromVec_complete (x : List F64) :
    (legalVec x = true → tryFromVec x = .ok x) ∧
    (.nan ∈ x → tryFromVec x = .error .nan) ∧
    (.nan ∉ x → .ninf ∈ x → tryFromVec x = .error .negInf) := by
  refine ⟨fun h => ?_, fun h => ?_, fun hn h => ?_⟩
  · simp only [legalVec_eq, Bool.and_eq_true, Bool.not_eq_true'] at h
    simp [tryFromVec, h.1, h.2]
  · have h1 : x.any isNan = true := List.any_eq_true.mpr ⟨.nan, h, rfl⟩
    simp [tryFromVec, h1]
  · have h1 : x.any isNan = false := by
      rw [List.any_eq_false]; intro y hy
      cases y <;> simp_all [isNan]
    have h2 : x.any (fun o => isInfinite o && infIsNegative o) = true :=
      List.any_eq_true.mpr ⟨.ninf, h, rfl⟩
    simp [tryFromVec, h1, h2]

/-- Acceptance by the multi-objective constructor is exactly legality of every coordinate; *which*
error a vector with several illegal coordinates is rejected with is not part of the property. -/
theorem tryFromVec_ok_iff_legal (x : List F64) : (∃ v, tryFromVec x = .ok v) ↔ legalVec x = true := by
  constructor
  · rintro ⟨v, h⟩
    obtain ⟨h1, h2⟩ := tryFromVec_sound x v h
    subst h1; exact h2
  · intro h
    exact ⟨x, (tryFromVec_complete x).1 h⟩

/-! ### single objectives: a total order that is the numeric order -/

/-- On legal values `partial_cmp` never answers `None`, so the `unwrap` in `Ord::cmp` cannot fail. -/
theorem cmp_total (a b : F64) (ha : legal a = true) (hb : legal b = true) :
    objPartialCmp a b ≠ none ∧ objCmp a b ≠ .panic := by
  have h : objCmp a b ≠ .panic := by rw [objCmp_of_legal a b ha hb]; exact fun h => nomatch h
  refine ⟨fun hn => h ?_, h⟩
  simp [objCmp, hn]

/-- `cmp` panics exactly when a NaN is involved. -/
theorem cmp_panics_iff_nan (a b : F64) : objCmp a b = .panic ↔ (a = .nan ∨ b = .nan) :=
  (objCmp_iff a b).2.2.2

/-- The order is the order of the numeric values: finite values compare like the integers they are
multiples of (unit 2^-1074), +inf is above every finite value and equal to itself; `<` and `==`
say the same as `cmp`. -/
theorem cmp_agrees_with_value (a b : F64) (ha : legal a = true) (hb : legal b = true) :
    objPartialCmp a b = valueCmp a b ∧
    (∀ o, objCmp a b = .ok o ↔ valueCmp a b = some o) ∧
    (objLt a b = true ↔ valueCmp a b = some .lt) ∧
    (objEq a b = true ↔ valueCmp a b = some .eq) := by
  have hv := objPartialCmp_eq_valueCmp a b ha hb
  refine ⟨hv, fun o => ?_, by simp [objLt, hv], ?_⟩
  · rw [objCmp, hv]; cases valueCmp a b <;> simp
  · rw [objEq_eq_valueCmp a b ha hb, beq_iff_eq]

theorem valueCmp_fin (x y : Int) :
    valueCmp (.fin x) (.fin y) = some (compare x y) ∧
    valueCmp (.fin x) .pinf = some .lt ∧ valueCmp .pinf (.fin x) = some .gt ∧
    valueCmp .pinf .pinf = some .eq := ⟨rfl, rfl, rfl, rfl⟩

/-- Antisymmetry: swapping the arguments mirrors the answer, and `Equal` means equal values. -/
theorem cmp_antisymm (a b : F64) :
    (objCmp a b = .ok .lt ↔ objCmp b a = .ok .gt) ∧
    (objCmp a b = .ok .eq ↔ objCmp b a = .ok .eq) ∧
    (legal a = true → (objCmp a b = .ok .eq ↔ a = b)) := by
  refine ⟨?_, ?_, ?_⟩
  · rw [objCmp_lt_iff, objCmp_gt_iff]
  · rw [objCmp_eq_iff, objCmp_eq_iff, eq_symm']
  · intro ha
    rw [objCmp_eq_iff, eq_iff_of_not_nan a b (legal_not_nan a ha)]

/-- Transitivity of `<`, of `≤`, and compatibility with `==` — for all values for which the
comparisons succeed at all (so in particular for all legal ones). -/
theorem cmp_trans (a b c : F64) :
    (objCmp a b = .ok .lt → objCmp b c = .ok .lt → objCmp a c = .ok .lt) ∧
    (objCmp a b = .ok .lt → objCmp b c = .ok .eq → objCmp a c = .ok .lt) ∧
    (objCmp a b = .ok .eq → objCmp b c = .ok .lt → objCmp a c = .ok .lt) ∧
    (objCmp a b = .ok .eq → objCmp b c = .ok .eq → objCmp a c = .ok .eq) ∧
    (objLe a b = true → objLe b c = true → objLe a c = true) := by
  simp only [objCmp_lt_iff, objCmp_eq_iff]
  exact ⟨lt_trans' a b c, fun h1 h2 => eq_of_eq b c h2 ▸ h1, fun h1 h2 => eq_of_eq a b h1 ▸ h2,
    fun h1 h2 => eq_of_eq a b h1 ▸ h2, objLe_trans a b c⟩

/-- `≤` is total on legal values. -/
theorem le_total (a b : F64) (ha : legal a = true) (hb : legal b = true) :
    objLe a b = true ∨ objLe b a = true := by
  cases h : lt b a with
  | false => exact .inl ((objLe_iff_not_gt a b ha hb).mpr h)
  | true => exact .inr (objLe_of_lt b a h)

/-- Sorting, minimum and maximum of legal values never fail; the sorted sequence is an ordered
permutation, the minimum / maximum are members that bound every element. (`sortObjs`, `minObjs`,
`maxObjs` are stand-ins for std's `slice::sort` / `Iterator::min` / `max`: a stable insertion sort and
folds that, like std, consult nothing but `Ord::cmp`; what the theorem really uses is that `cmp` never
fails on legal values and the order laws. The real algorithms are exercised by the harness.) -/
theorem sort_min_max_safe {α : Type} (key : α → F64) (l : List α)
    (hl : ∀ y ∈ l, legal (key y) = true) :
    (∃ r, sortObjs key l = .ok r ∧ r.Perm l ∧
        r.Pairwise (fun a b => objLe (key a) (key b) = true)) ∧
    (l = [] → minObjs key l = .ok none ∧ maxObjs key l = .ok none) ∧
    (l ≠ [] → ∃ mn mx, minObjs key l = .ok (some mn) ∧ maxObjs key l = .ok (some mx) ∧
        mn ∈ l ∧ mx ∈ l ∧ ∀ y ∈ l, objLe (key mn) (key y) = true ∧ objLe (key y) (key mx) = true) := by
  refine ⟨(C09Ord.sort_is_stable key l hl).imp fun _ h => ⟨h.1, h.2.1, h.2.2.1⟩, ?_, ?_⟩
  · intro h; subst h; exact ⟨rfl, rfl⟩
  · intro hne
    cases l with
    | nil => exact absurd rfl hne
    | cons x xs =>
      obtain ⟨⟨mn, pre, post, h1, hs, p1, q1⟩, mx, pre', post', h2, hs', p2, q2⟩ :=
        C09Ord.min_first_max_last key x xs hl
      have m1 : mn ∈ x :: xs := hs ▸ by simp
      have m2 : mx ∈ x :: xs := hs' ▸ by simp
      exact ⟨mn, mx, h1, h2, m1, m2, fun y hy =>
        ⟨List.forall_mem_append.mpr ⟨fun y h => objLe_of_lt _ _ (p1 y h),
            List.forall_mem_cons.mpr ⟨objLe_refl _ (hl _ m1), q1⟩⟩ y (hs ▸ hy),
          List.forall_mem_append.mpr ⟨p2,
            List.forall_mem_cons.mpr ⟨objLe_refl _ (hl _ m2), fun y h => objLe_of_lt _ _ (q2 y h)⟩⟩ y (hs' ▸ hy)⟩⟩

/-! ### multi objectives: Pareto dominance -/

/-- The code's loop-and-flags comparison is the specification-level Pareto order. -/
theorem pareto_refines_spec (a b : List F64) (ha : legalVec a = true) (hb : legalVec b = true) :
    paretoCmp a b = paretoSpec a b := by
  have na := legalVec_noNan a ha
  have nb := legalVec_noNan b hb
  rw [paretoCmp, flagLoop_eq]
  unfold paretoSpec dominates
  by_cases he : vecEq a b = true
  · simp [he, vecEq_length a b he]
  · by_cases hl : a.length = b.length
    · -- with equal lengths and no NaN both sides are the same function of the two flags
      rw [allLe_eq_not_anyLt a b na nb, allLe_eq_not_anyLt b a nb na]
      simp only [he, hl, bne_self_eq_false, beq_self_eq_true, Bool.true_and, Bool.and_false,
        Bool.false_eq_true, if_false, Bool.false_or]
      cases anyLt a b <;> cases anyLt b a <;> rfl
    · have hl' : ¬ b.length = a.length := fun h => hl h.symm
      simp [he, hl, hl']

/-- `Equal` is exactly the derived `==` of the wrapped vectors (same length, all coordinates `==`),
for arbitrary (also illegal) vectors. -/
theorem pareto_eq_iff_vecEq (a b : List F64) : paretoCmp a b = some .eq ↔ vecEq a b = true :=
  (paretoCmp_iff a b).1

/-- Identical vectors compare equal, and only they do. -/
theorem pareto_eq_iff (a b : List F64) (ha : legalVec a = true) :
    paretoCmp a b = some .eq ↔ a = b := by
  rw [pareto_eq_iff_vecEq, vecEq_iff a b (legalVec_noNan a ha)]

theorem pareto_refl (a : List F64) (ha : legalVec a = true) : paretoCmp a a = some .eq :=
  (pareto_eq_iff a a ha).mpr rfl

/-- Domination is antisymmetric: `a` dominates `b` iff `b` is dominated by `a`; never both ways. -/
theorem pareto_antisymm (a b : List F64) :
    (paretoCmp a b = some .lt ↔ paretoCmp b a = some .gt) ∧
    (paretoCmp a b = some .lt → paretoCmp b a ≠ some .lt) := by
  have key : paretoCmp a b = some .lt ↔ paretoCmp b a = some .gt := by
    rw [(paretoCmp_iff a b).2.1, (paretoCmp_iff b a).2.2.1, eq_comm, and_comm (a := anyLt a b = true)]
  exact ⟨key, fun h1 h2 => by rw [key.mp h1] at h2; cases h2⟩

/-- `a` dominates `b` exactly when they have the same length, `a` is nowhere worse and somewhere better. -/
theorem pareto_dominates_iff (a b : List F64) (ha : legalVec a = true) (hb : legalVec b = true) :
    paretoCmp a b = some .lt ↔
      (a.length = b.length ∧ (∀ p ∈ List.zip a b, le p.1 p.2 = true) ∧
        ∃ p ∈ List.zip a b, lt p.1 p.2 = true) := by
  rw [← allLe_iff_zip, ← anyLt_iff_zip, paretoCmp_lt_iff a b ha hb, dominates, Bool.and_eq_true, Bool.and_eq_true,
    beq_iff_eq, and_assoc]

/-- Transitivity of domination, and compatibility with equality. -/
theorem pareto_trans (a b c : List F64) (ha : legalVec a = true) (hb : legalVec b = true)
    (hc : legalVec c = true) :
    (paretoCmp a b = some .lt → paretoCmp b c = some .lt → paretoCmp a c = some .lt) ∧
    (paretoCmp a b = some .eq → paretoCmp b c = some .lt → paretoCmp a c = some .lt) ∧
    (paretoCmp a b = some .lt → paretoCmp b c = some .eq → paretoCmp a c = some .lt) ∧
    (paretoCmp a b = some .eq → paretoCmp b c = some .eq → paretoCmp a c = some .eq) := by
  refine ⟨?_, ?_, ?_, ?_⟩
  · rw [paretoCmp_lt_iff a b ha hb, paretoCmp_lt_iff b c hb hc, paretoCmp_lt_iff a c ha hc]
    exact dominates_trans a b c (legalVec_noNan a ha) (legalVec_noNan b hb) (legalVec_noNan c hc)
  · intro h1 h2
    rw [pareto_eq_iff a b ha] at h1; subst h1; exact h2
  · intro h1 h2
    rw [pareto_eq_iff b c hb] at h2; subst h2; exact h1
  · intro h1 h2
    rw [pareto_eq_iff a b ha] at h1; subst h1; exact h2

/-- Vectors of different length are incomparable. -/
theorem pareto_len_mismatch_none (a b : List F64) (h : a.length ≠ b.length) : paretoCmp a b = none :=
  (paretoCmp_iff a b).2.2.2.mpr ⟨Bool.eq_false_iff.mpr fun hv => h (vecEq_length a b hv), fun hl => absurd hl h⟩

/-- Vectors that trade off (better in one coordinate, worse in another) are incomparable. -/
theorem pareto_tradeoff_none (a b : List F64)
    (h1 : ∃ p ∈ List.zip a b, lt p.1 p.2 = true) (h2 : ∃ p ∈ List.zip a b, lt p.2 p.1 = true) :
    paretoCmp a b = none := by
  rw [← anyLt_iff_zip] at h1
  rw [← anyGt_iff_zip] at h2
  exact (paretoCmp_iff a b).2.2.2.mpr
    ⟨Bool.eq_false_iff.mpr fun hv => by simp [(vecEq_anyLt a b hv).1] at h1, fun _ => h1.trans h2.symm⟩

/-! ### the derived arithmetic operators are NOT closed on legal values (recorded finding)

`arith_closed` is the statement the property asks for; it is false of model and code.
The counterexamples below are the recorded witnesses (`known_findings.d/C09.json`), stated on the
exact bit patterns the harness uses. -/

def arith_closed : Prop :=
  ∀ a b : F64, legal a = true → legal b = true → ∀ s : Bool,
    (addC a b).legal = true ∧ (subC a b).legal = true ∧ (mulC a b).legal = true ∧
    (divC a b s).legal = true ∧ (negC a).legal = true

/-- `INFINITY − INFINITY = NaN`. -/
theorem sub_inf_inf_nan :
    legal (ofBits bInf) = true ∧ subC (ofBits bInf) (ofBits bInf) = .nan := by decide +kernel
/-- `1 − INFINITY = −inf`. -/
theorem sub_fin_inf_ninf :
    legal (ofBits bOne) = true ∧ legal (ofBits bInf) = true ∧ subC (ofBits bOne) (ofBits bInf) = .ninf := by decide +kernel
/-- `−INFINITY = −inf`. -/
theorem neg_inf_ninf : legal (ofBits bInf) = true ∧ negC (ofBits bInf) = .ninf := by decide +kernel
/-- `INFINITY · 0 = NaN`. -/
theorem mul_zero_inf_nan :
    legal (ofBits bInf) = true ∧ legal (ofBits bZero) = true ∧ mulC (ofBits bInf) (ofBits bZero) = .nan := by decide +kernel
/-- `INFINITY · (−1) = −inf`. -/
theorem mul_inf_neg_ninf :
    legal (ofBits bNegOne) = true ∧ mulC (ofBits bInf) (ofBits bNegOne) = .ninf := by decide +kernel
/-- `0 / 0 = NaN`. -/
theorem div_zero_zero_nan :
    legal (ofBits bZero) = true ∧ divC (ofBits bZero) (ofBits bZero) (signBit bZero) = .nan := by decide +kernel
/-- `INFINITY / INFINITY = NaN`. -/
theorem div_inf_inf_nan : divC (ofBits bInf) (ofBits bInf) (signBit bInf) = .nan := by decide +kernel
/-- `1 / −0 = −inf` and `−1 / 0 = −inf`. -/
theorem div_by_zero_ninf :
    legal (ofBits bNegZero) = true ∧ divC (ofBits bOne) (ofBits bNegZero) (signBit bNegZero) = .ninf ∧
    divC (ofBits bNegOne) (ofBits bZero) (signBit bZero) = .ninf := by decide +kernel
/-- Overflow towards −inf: `−MAX + −MAX`, `−MAX − MAX`, `−MAX · 2`, `−MAX / 0.5` (all operands legal);
overflow towards +inf stays legal. -/
theorem add_overflow_ninf :
    legal (ofBits bNegMax) = true ∧ addC (ofBits bNegMax) (ofBits bNegMax) = .ninf ∧
    addC (ofBits bMax) (ofBits bMax) = .pinf := by decide +kernel
theorem sub_overflow_ninf :
    legal (ofBits bMax) = true ∧ subC (ofBits bNegMax) (ofBits bMax) = .ninf := by decide +kernel
theorem mul_overflow_ninf :
    legal (ofBits bTwo) = true ∧ mulC (ofBits bNegMax) (ofBits bTwo) = .ninf := by decide +kernel
theorem div_overflow_ninf :
    legal (ofBits bHalf) = true ∧ divC (ofBits bNegMax) (ofBits bHalf) (signBit bHalf) = .ninf := by
  decide +kernel
/-- The rounding boundary is exact: `MAX + 2^970` (half an ulp) rounds to +inf, anything less does not:
`MAX + pred(2^970)` and `MAX + 2^969` stay finite. -/
theorem overflow_boundary_exact :
    addC (ofBits bMax) (ofBits 0x7c90000000000000) = .pinf ∧
    addC (ofBits bMax) (ofBits 0x7c8fffffffffffff) = .fin ∧
    addC (ofBits bMax) (ofBits 0x7c80000000000000) = .fin ∧
    addC (ofBits bNegMax) (ofBits 0xfc90000000000000) = .ninf ∧
    addC (ofBits bNegMax) (ofBits 0xfc8fffffffffffff) = .fin := by decide +kernel
/-- A raw NaN / −inf scalar on the right of `*` and `/` (the operators take `f64`). -/
theorem mul_scalar_nan_ninf :
    mulC (ofBits bOne) (ofBits bNan) = .nan ∧ mulC (ofBits bOne) (ofBits bNegInf) = .ninf ∧
    divC (ofBits bOne) (ofBits bNan) (signBit bNan) = .nan ∧
    divC (ofBits bInf) (ofBits bNegInf) (signBit bNegInf) = .nan := by decide +kernel

/-- ∀-form for a raw illegal scalar on the right of `*` and `/` (the operators take any `f64`):
a NaN scalar always gives NaN; a −inf scalar gives −inf for every positive finite objective and for
+inf, NaN for 0; dividing +inf by ±inf gives NaN. -/
theorem scalar_illegal_forall (a : F64) (s : Bool) :
    mulC a .nan = .nan ∧ divC a .nan s = .nan ∧
    (∀ k : Int, 0 < k → mulC (.fin k) .ninf = .ninf) ∧ mulC .pinf .ninf = .ninf ∧
    mulC (.fin 0) .ninf = .nan ∧ divC .pinf .ninf s = .nan ∧
    (∀ k : Int, divC (.fin k) .ninf s = .fin) := by
  refine ⟨by cases a <;> rfl, by cases a <;> rfl, ?_, rfl, by simp [mulC, infMul], rfl, fun _ => rfl⟩
  intro k hk
  have h0 : k ≠ 0 := Int.ne_of_gt hk
  have h1 : ¬ k < 0 := Int.not_lt.mpr (Int.le_of_lt hk)
  simp [mulC, infMul, sgnInf, h0, h1]

theorem arith_not_closed : ¬ arith_closed := by
  intro h
  have := (h .pinf .pinf rfl rfl false).2.1
  simp [subC, Cls.legal] at this

/-- Closure holds exactly here (`a`, `b` legal; `ovf` = 2^1024 − 2^970 in units of 2^-1074):
* `a + b` is legal unless both are finite with exact sum ≤ −ovf;
* `a − b` is legal iff `b` is finite and (if `a` is finite) the exact difference is > −ovf;
* `−a` is legal iff `a` is finite. -/
theorem arith_closed_partial (a b : F64) (ha : legal a = true) (hb : legal b = true) :
    ((addC a b).legal = true ↔ ∀ x y, a = .fin x → b = .fin y → -(ovf : Int) < x + y) ∧
    ((subC a b).legal = true ↔ b ≠ .pinf ∧ ∀ x y, a = .fin x → b = .fin y → -(ovf : Int) < x - y) ∧
    ((negC a).legal = true ↔ a ≠ .pinf) := by
  rcases legal_cases a ha with rfl | ⟨x, rfl⟩ <;> rcases legal_cases b hb with rfl | ⟨y, rfl⟩
  · simp [addC, subC, negC, Cls.legal]
  · simp [addC, subC, negC, Cls.legal]
  · simp [addC, subC, negC, Cls.legal]
  · exact ⟨by simp [addC, roundCls_legal_iff], by simp [subC, roundCls_legal_iff], by simp [negC, Cls.legal]⟩

/-- Multiplication and division by a legal scalar `b` (sign bit `s`):
* `a · b` is legal iff neither `0 · inf` nor a negative infinite / overflowing product occurs;
* `a / b` likewise, with `x / ±0` following the sign bit of the divisor. -/
theorem arith_closed_partial_mul_div (a b : F64) (s : Bool) (ha : legal a = true) (hb : legal b = true) :
    ((mulC a b).legal = true ↔
      (a = .pinf → (b = .pinf ∨ ∃ y, b = .fin y ∧ 0 < y)) ∧
      (b = .pinf → (a = .pinf ∨ ∃ x, a = .fin x ∧ 0 < x)) ∧
      (∀ x y, a = .fin x → b = .fin y → -((ovf * scale : Nat) : Int) < x * y)) ∧
    ((divC a b s).legal = true ↔
      (a = .pinf → ∃ y, b = .fin y ∧ (0 < y ∨ (y = 0 ∧ s = false))) ∧
      (∀ x y, a = .fin x → b = .fin y →
        (y = 0 → (0 < x ∧ s = false) ∨ (x < 0 ∧ s = true)) ∧
        (y ≠ 0 → -((ovf * y.natAbs : Nat) : Int) < (if y < 0 then -x else x) * scale))) := by
  rcases legal_cases a ha with rfl | ⟨x, rfl⟩ <;> rcases legal_cases b hb with rfl | ⟨y, rfl⟩
  · simp [mulC, divC, infMul, sgnInf, Cls.legal]
  · exact ⟨by simp [mulC, infMul_fin_legal], by simp [divC_pinf_fin_legal]⟩
  · exact ⟨by simp [mulC, infMul_fin_legal], by simp [divC, Cls.legal]⟩
  · exact ⟨by simp [mulC, roundCls_legal_iff _ _ scale_pos], by simp [divC_fin_legal]⟩

/-- A digestible corollary: on non-negative operands addition never leaves the legal values, and
on finite operands with `a ≥ b` neither does subtraction. -/
theorem arith_closed_nonneg (x y : Int) (hx : 0 ≤ x) (hy : 0 ≤ y) :
    (addC (.fin x) (.fin y)).legal = true ∧ (addC (.fin x) .pinf).legal = true ∧
    (addC .pinf (.fin y)).legal = true ∧ (addC .pinf .pinf).legal = true ∧
    (y ≤ x → (subC (.fin x) (.fin y)).legal = true) ∧ (subC .pinf (.fin y)).legal = true := by
  have := ovf_pos
  refine ⟨?_, rfl, rfl, rfl, ?_, rfl⟩
  · simp [addC, roundCls_legal_iff]; omega
  · intro h; simp [subC, roundCls_legal_iff]; omega

/-! Non-vacuity: concrete non-trivial inputs satisfy the hypotheses. -/
example : legal (ofBits bOne) = true ∧ legal (ofBits bInf) = true := by decide +kernel
example : objCmp (ofBits bNegZero) (ofBits bZero) = .ok .eq := by decide +kernel
example : objCmp (ofBits bNegMax) (ofBits 0x0000000000000001) = .ok .lt := by decide +kernel
example : legalVec [ofBits bZero, ofBits bInf] = true := by decide +kernel
example : paretoCmp [ofBits bZero, ofBits bOne] [ofBits bOne, ofBits bOne] = some .lt := by decide +kernel
example : paretoCmp [ofBits bZero, ofBits bOne] [ofBits bOne, ofBits bZero] = none := by decide +kernel
example : paretoCmp [ofBits bZero] [ofBits bZero, ofBits bZero] = none := by decide +kernel
example : (addC (ofBits bMax) (ofBits bMax)).legal = true := by decide +kernel

example : sortObjs id [F64.fin 3, .pinf, .fin (-1), .fin 3] = .ok [.fin (-1), .fin 3, .fin 3, .pinf] ∧
    minObjs id [F64.fin 3, .pinf, .fin (-1)] = .ok (some (.fin (-1))) ∧
    maxObjs id [F64.fin 3, .pinf, .fin (-1)] = .ok (some .pinf) := by decide +kernel
example : sortObjs id [F64.fin 3, .nan] = .panic := by decide +kernel
example : (tryFromVec [ofBits bOne, ofBits bNegInf, ofBits bNan]).toOption = none := by decide +kernel
example : (0 : Int) ≤ 5 ∧ (addC (.fin 5) (.fin 7)).legal = true := by decide +kernel
example : ofNatBits 0x3ff0000000000000 = .fin scale ∧ (0x3ff0000000000000 : Nat) < 0x7ff0000000000000 := by
  decide +kernel

end MahfModel.Props.C09
