/-
C02 — "asking for several exclusive references at once fails if a type repeats or is missing and otherwise yields
references to distinct objects", for EVERY public entry point of the multi-borrow (`Model/BorrowMulti.lean`):
the trait method `MultiStateTuple::try_get_mut` called directly, `StateRegistry::try_get_multiple_mut`, the panicking
`StateRegistry::get_multiple_mut`; on the current registry, on any registry reached by `parent_mut()`, and on the
`State` wrapper (same functions). First the clause for `try_get_multiple_mut` on one registry, key lists of any length;
then every entry point. The property theorems; the lemmas they share are in `Proofs/C02Multi.lean`.
-/
import MahfModel.Proofs.C02Multi
namespace MahfModel.Props.C02
open MahfModel.Registry MahfModel.Borrow

/-! ### `try_get_multiple_mut` on a registry -/

/-- Multi-borrow, key lists of ANY length: succeeds iff no type repeats and every type is present. -/
theorem multi_ok_iff (r : Reg) (ks : List Key) :
    (∃ cs, tryGetMultipleMut r ks = .ok cs) ↔ ks.Nodup ∧ ∀ k ∈ ks, contains r k = true := by
  unfold tryGetMultipleMut
  by_cases hd : ks.Nodup
  · have hdist : distinct ks = true := (distinct_iff ks).mpr hd
    simp only [hdist, Bool.not_true, Bool.false_eq_true, if_false, hd, true_and]
    by_cases hall : ∀ k ∈ ks, (find r k).isSome = true
    · rw [getAllMut_ok r ks hall]; simp only [contains]; exact ⟨fun _ => hall, fun _ => ⟨_, rfl⟩⟩
    · rw [getAllMut_err r ks hall]; simp only [contains]
      constructor
      · rintro ⟨cs, h⟩; cases h
      · intro h; exact absurd h hall
  · have hdist := distinct_eq_false ks hd
    simp only [hdist, Bool.not_false, if_true, hd, false_and, iff_false]
    rintro ⟨cs, h⟩; cases h

/-- The error is decided by the first failing check: repetition first, then absence. -/
theorem multi_error_kind (r : Reg) (ks : List Key) :
    (¬ ks.Nodup → tryGetMultipleMut r ks = .error .multi) ∧
    (ks.Nodup → (¬ ∀ k ∈ ks, contains r k = true) → tryGetMultipleMut r ks = .error .notFound) := by
  unfold tryGetMultipleMut
  constructor
  · intro hd
    have hdist := distinct_eq_false ks hd
    simp [hdist]
  · intro hd hall
    have hdist : distinct ks = true := (distinct_iff ks).mpr hd
    simp only [hdist, Bool.not_true, Bool.false_eq_true, if_false]
    exact getAllMut_err r ks hall

/-- The panicking accessor `get_multiple_mut` panics exactly when `try_get_multiple_mut` is an error (a type
repeats or is missing) — it never hands out references then, and changes nothing — and otherwise behaves as
the fallible one (same cells, same writes). -/
theorem multi_panicking (r : Reg) (ks : List Key) (d : Nat) :
    ((∃ cs, tryGetMultipleMut r ks = .ok cs) → step r (.multiP ks d) = step r (.multi ks d)) ∧
    ((¬ ∃ cs, tryGetMultipleMut r ks = .ok cs) → step r (.multiP ks d) = (r, .panic)) ∧
    (step r (.multiP ks d) = (r, .panic) ↔ ¬ (ks.Nodup ∧ ∀ k ∈ ks, contains r k = true)) := by
  have hiff := multi_ok_iff r ks
  cases h : tryGetMultipleMut r ks with
  | ok cs =>
    have hok : ks.Nodup ∧ ∀ k ∈ ks, contains r k = true := hiff.mp ⟨cs, h⟩
    refine ⟨fun _ => by simp [step, h], fun hn => absurd ⟨cs, rfl⟩ hn, ?_⟩
    constructor
    · intro hc
      simp only [step, h] at hc
      cases (Prod.ext_iff.mp hc).2
    · intro hx; exact absurd hok hx
  | error e =>
    have hno : ¬ (ks.Nodup ∧ ∀ k ∈ ks, contains r k = true) := by
      intro hx; obtain ⟨cs, hc⟩ := hiff.mpr hx; rw [h] at hc; cases hc
    refine ⟨?_, fun _ => by simp [step, h], ?_⟩
    · rintro ⟨cs, hc⟩; cases hc
    · exact ⟨fun _ => hno, fun _ => by simp [step, h]⟩

/-- On success the returned references point to pairwise distinct existing cells, the `j`-th one being the
innermost cell of the `j`-th type — the aliasing-freedom the `unsafe` block relies on. -/
theorem multi_distinct_cells (r : Reg) (ks : List Key) (cs : List (Nat × Key))
    (h : tryGetMultipleMut r ks = .ok cs) :
    cs.Nodup ∧ cs.map (·.2) = ks ∧ ∀ c ∈ cs, find r c.2 = some c.1 ∧ (cellAt r c.1 c.2).isSome = true := by
  have hok := (multi_ok_iff r ks).mp ⟨cs, h⟩
  have hall : ∀ k ∈ ks, (find r k).isSome = true := hok.2
  unfold tryGetMultipleMut at h
  have hdist : distinct ks = true := (distinct_iff ks).mpr hok.1
  simp only [hdist, Bool.not_true, Bool.false_eq_true, if_false, getAllMut_ok r ks hall] at h
  cases h
  refine ⟨resolved_nodup r ks hok.1, by simp [resolved, List.map_map, Function.comp_def], ?_⟩
  intro c hc
  obtain ⟨k, hk, he⟩ := List.mem_map.mp hc
  subst he
  obtain ⟨i, hi⟩ := Option.isSome_iff_exists.mp (hall k hk)
  obtain ⟨c0, hc0⟩ := find_cell r k i hi
  simp [hi, hc0]

/-- Writing through the references of a successful multi-borrow is writing each type's innermost binding
once (refinement to the stack of maps; from `Proofs/C01Refine.lean`). -/
theorem multi_refines (r : Reg) (ks : List Key) (d : Nat) (h : Inv r) :
    Inv (step r (.multi ks d)).1 ∧ (step r (.multi ks d)).2 = (specStep (abs r) (.multi ks d)).2 ∧
      abs (step r (.multi ks d)).1 = (specStep (abs r) (.multi ks d)).1 :=
  (step_multi r ks d h).1

/-! ### Every public entry point, on any registry of the chain -/
open MahfModel.BorrowMulti

/-- No entry point ever hands out references for a tuple in which a type repeats — whatever the registry holds —
and each says so in its own way: the two fallible ones with the multiple-borrow-conflict error, the panicking
accessor with a panic. In particular the trait method, which contains the `unsafe` block, refuses by itself. -/
theorem multi_every_entry_refuses_repeats (via : Via) (r : Reg) (ks : List Key) (h : ¬ ks.Nodup) :
    askVia via r ks = (if via = .regP then .panic else .err .multi) ∧ ∀ cs, askVia via r ks ≠ .refs cs := by
  rw [askVia_eq, (multi_error_kind r ks).1 h]
  exact ⟨rfl, fun cs hc => by dsimp only at hc; split at hc <;> cases hc⟩

/-- Every entry point grants exactly when no type repeats and every type is visible from the registry the request
is issued on. -/
theorem multi_every_entry_ok_iff (via : Via) (r : Reg) (ks : List Key) :
    (∃ cs, askVia via r ks = .refs cs) ↔ ks.Nodup ∧ ∀ k ∈ ks, contains r k = true := by
  rw [← multi_ok_iff r ks]
  exact exists_congr (askVia_refs_iff via r ks)

/-- A missing type (no repetition) is `NotFound` from the fallible entry points and a panic from the panicking one. -/
theorem multi_every_entry_missing (via : Via) (r : Reg) (ks : List Key) (hn : ks.Nodup)
    (hm : ¬ ∀ k ∈ ks, contains r k = true) :
    askVia via r ks = (if via = .regP then .panic else .err .notFound) := by
  rw [askVia_eq, (multi_error_kind r ks).2 hn hm]

/-- Whatever the entry point, the references it hands out point to pairwise distinct existing cells, the `j`-th one
being the innermost cell of the `j`-th type — the aliasing-freedom the `unsafe` block relies on. -/
theorem multi_every_entry_distinct_cells (via : Via) (r : Reg) (ks : List Key) (cs : List (Nat × Key))
    (h : askVia via r ks = .refs cs) :
    cs.Nodup ∧ cs.map (·.2) = ks ∧ ∀ c ∈ cs, find r c.2 = some c.1 ∧ (cellAt r c.1 c.2).isSome = true :=
  multi_distinct_cells r ks cs ((askVia_refs_iff via r ks cs).mp h)

/-- The entry points agree: the registry front-end answers what the trait method answers (and what the base model's
`tryGetMultipleMut` answers), the panicking accessor hands out the same references and panics where they err. -/
theorem multi_entries_agree (r : Reg) (ks : List Key) :
    askVia .reg r ks = askVia .tuple r ks ∧ askVia .reg r ks = Answer.ofRes (tryGetMultipleMut r ks) ∧
    (∀ cs, askVia .regP r ks = .refs cs ↔ askVia .tuple r ks = .refs cs) ∧
    (askVia .regP r ks = .panic ↔ ∃ e, askVia .tuple r ks = .err e) := by
  refine ⟨rfl, rfl, fun cs => by rw [askVia_refs_iff, askVia_refs_iff], ?_⟩
  simp only [askVia, regGetMultipleMut, regTryGetMultipleMut]
  cases tupleTryGetMut r ks <;> simp [Answer.ofRes]

/-- A request through any entry point, issued on the registry `dist` × `parent_mut()` away, is granted iff that
registry exists, no type repeats and every type is visible from THERE. -/
theorem multi_via_granted_iff (r : Reg) (q : Req) :
    (∃ vs, (stepVia r q).2 = .vals vs) ↔
      q.dist < r.length ∧ q.ks.Nodup ∧ ∀ k ∈ q.ks, contains (r.drop q.dist) k = true := by
  by_cases hd : q.dist < r.length
  · rw [← multi_every_entry_ok_iff q.via (r.drop q.dist) q.ks]
    simp only [stepVia, parentN, hd, if_true, true_and]
    cases h : askVia q.via (r.drop q.dist) q.ks with
    | refs cs => exact ⟨fun _ => ⟨cs, rfl⟩, fun _ => ⟨_, rfl⟩⟩
    | err e | panic => exact ⟨fun ⟨vs, hv⟩ => (by cases hv), fun ⟨cs, hc⟩ => (by cases hc)⟩
  · rw [stepVia_noParent r q hd]
    exact ⟨fun ⟨vs, hv⟩ => (by cases hv), fun h => absurd h.1 hd⟩

/-- A request that is not granted changes nothing. -/
theorem multi_via_refused_unchanged (r : Reg) (q : Req) (h : ∀ vs, (stepVia r q).2 ≠ .vals vs) :
    (stepVia r q).1 = r := by
  by_cases hd : q.dist < r.length
  · simp only [stepVia, parentN, hd, if_true] at h ⊢
    cases he : askVia q.via (r.drop q.dist) q.ks with
    | refs cs => simp only [he] at h; exact absurd rfl (h _)
    | err e | panic => rfl
  · rw [stepVia_noParent r q hd]

/-- A request on the `dist`-th parent neither touches nor sees the scopes below it: they are left as they were, and
the answer is the same whatever they contain. -/
theorem multi_via_frame (r : Reg) (q : Req) :
    (stepVia r q).1.take q.dist = r.take q.dist ∧
    ∀ r' : Reg, r'.drop q.dist = r.drop q.dist → r'.length = r.length → (stepVia r' q).2 = (stepVia r q).2 := by
  constructor
  · by_cases hd : q.dist < r.length
    · rw [stepVia_under r q hd, under_fst]
      exact List.take_left' (List.length_take_of_le (Nat.le_of_lt hd))
    · rw [stepVia_noParent r q hd]
  · intro r' hdrop hlen
    by_cases hd : q.dist < r.length
    · rw [stepVia_under r q hd, stepVia_under r' q (hlen ▸ hd)]
      exact congrArg (fun p => (step p (q.via.rop q.ks q.d)).2) hdrop
    · rw [stepVia_noParent r q hd, stepVia_noParent r' q (hlen ▸ hd)]

/-- Refinement to the stack of partial maps, for every entry point and every `parent_mut()` distance: on a quiescent
registry the outputs are those of the property's reading (`specVia`), the new registry abstracts to the new stack
(each type's innermost binding seen from the addressed registry written exactly once), and it stays quiescent. -/
theorem multi_via_refines (r : Reg) (q : Req) (h : Inv r) :
    Inv (stepVia r q).1 ∧ (stepVia r q).2 = (specVia (abs r) q).2 ∧ abs (stepVia r q).1 = (specVia (abs r) q).1 :=
  stepVia_refines r q h

/-- `flag_inv` for histories that also contain multi-borrow requests through any entry point. -/
theorem flag_inv_with_multi (ops : List XOp) : FlagInv (xmrun M.init ops).1 :=
  xmrun_inv M.init ops flagInv_init

/-- The extended machine is the base machine on histories without the new requests (so every theorem of
`Props/C02.lean` about `mrun` is a theorem about it). -/
theorem multi_machine_conservative (ops : List MOp) :
    xmrun M.init (ops.map .base) = mrun M.init ops ∧ holdsOnX (ops.map .base) = holdsOn ops := by
  refine ⟨xmrun_base _ _, ?_⟩
  simp only [holdsOnX, holdsOn, xmrun_base, xsrun_base]

/-! Non-vacuity. -/
example : ∃ cs, tryGetMultipleMut [[(.ty 1, fresh 2)], [(.ty 0, fresh 1)]] [.ty 0, .ty 1] = .ok cs := ⟨_, rfl⟩
-- a repeated type, refused by each entry point
example : askVia .tuple [[(.ty 0, fresh 1)]] [.ty 0, .ty 0] = .err .multi ∧
    askVia .reg [[(.ty 0, fresh 1)]] [.ty 0, .ty 0] = .err .multi ∧
    askVia .regP [[(.ty 0, fresh 1)]] [.ty 0, .ty 0] = .panic := by decide +kernel
example : ¬ [Key.ty 0, .ty 1, .ty 0].Nodup := by decide
-- a grant through the trait method on a parent whose child shadows one of the types
example : askVia .tuple [[(.ty 1, fresh 2)], [(.ty 0, fresh 1)]] [.ty 0, .ty 1] = .refs [(1, .ty 0), (0, .ty 1)] := by decide +kernel
example : (stepVia [[(.ty 0, fresh 5)], [(.ty 0, fresh 1), (.ty 1, fresh 2)]] ⟨.tuple, 1, [.ty 0, .ty 1], 1⟩).1 =
    [[(.ty 0, fresh 5)], [(.ty 0, fresh 2), (.ty 1, fresh 3)]] := by decide +kernel
-- a missing type
example : ¬ ∀ k ∈ [Key.ty 0, .ty 2], contains [[(.ty 0, fresh 1)]] k = true := by decide
example : Inv [[(.ty 0, fresh 5)], [(.ty 0, fresh 1), (.ty 1, fresh 2)]] := ⟨by decide, by decide⟩
-- step O holds on a history that asks through all three entry points, at two distances, with and without repeats
example : holdsOnX [.base (.ex (.op (.ins (.ty 0) 1))), .base (.ex (.op (.ins (.ty 1) 2))), .base (.ex (.op .push)),
    .base (.ex (.op (.ins (.ty 0) 5))), .multiVia ⟨.tuple, 0, [.ty 0, .ty 1], 1⟩, .multiVia ⟨.tuple, 0, [.ty 0, .ty 0], 1⟩,
    .multiVia ⟨.reg, 1, [.ty 1, .ty 0], 1⟩, .multiVia ⟨.regP, 1, [.ty 1, .ty 1], 1⟩, .multiVia ⟨.tuple, 2, [.ty 0, .ty 1], 1⟩,
    .base (.bor (.ty 0)), .multiVia ⟨.tuple, 0, [.ty 0, .ty 1], 1⟩, .base .locks] = true := by decide +kernel

end MahfModel.Props.C02
