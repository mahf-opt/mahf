/-
C10 — the conditions decide what their names say ABOUT THE STATE THEY ARE EVALUATED ON: nested
states (`State::with_inner_state`, `Scope`), in which an inner registry shadows what the enclosing
registries hold; and a search loop nested in scopes, which makes the passes its own state calls for. Property theorems
only (namespace `MahfModel.Props.C10`, continuing `Props/C10.lean`); the lemmas they rest on are in `Proofs/C10Nested.lean`
(and `Arith.exists_first_stop`).
-/
import MahfModel.Proofs.C10Nested
import MahfModel.Props.C10
import Mathlib.Algebra.Order.Ring.Rat
namespace MahfModel.Props.C10
open MahfModel.Conditions

/-! `Innermost sel fs i a`: registry `i` of the chain `fs` (innermost first) is the FIRST that holds
the state type picked by `sel`, and it holds `a` — "the value of the state the condition is evaluated on". -/

/-- What the code's walk along the parents finds is exactly that value; it finds nothing exactly when
no registry of the chain holds the state type. -/
theorem lookup_is_innermost {F α : Type} (sel : NFrame F → Option α) (fs : List (NFrame F)) :
    (∀ a, nLook sel fs = some a ↔ ∃ i, Innermost sel fs i a) ∧
    (nLook sel fs = none ↔ ∀ g ∈ fs, sel g = none) ∧
    nLook sel fs = visible sel fs :=
  ⟨nLook_some_iff sel fs, nLook_none_iff sel fs, nLook_eq_visible sel fs⟩

/-! ### OptimumReached -/

/-- optimum-reached, evaluated on ANY registry chain, is true exactly when the innermost registry that
holds a `BestIndividual` holds a value, and that value is within `eps` of the known optimum — whatever
the registries outside of it hold. (`hlb`: the known optimum is a lower bound of every best value in
the chain.) -/
theorem optimumReached_nested_iff {F : Type} [Field F] [LinearOrder F] [IsStrictOrderedRing F]
    (toF : Nat → F) (eps optimum : F) (fs : List (NFrame F))
    (hlb : ∀ g ∈ fs, ∀ b, g.best = some (some b) → optimum ≤ b) :
    (nEval toF optimum (.opt eps) fs).1 = some true ↔
      ∃ i b, Innermost (fun f => f.best) fs i (some b) ∧ |b - optimum| ≤ eps := by
  have hlb' : ∀ b, nBest fs = some b → optimum ≤ b := fun b hb => by
    obtain ⟨i, fr, hfr, hs, _⟩ := (nLook_some_iff _ fs (some b)).mp ((nBest_eq_some_iff fs b).mp hb)
    exact hlb fr (List.mem_of_getElem? hfr) b hs
  rw [show (nEval toF optimum (.opt eps) fs).1 = some (optimumReached eps (nBest fs) optimum) from rfl,
    Option.some.injEq, optimumReached_iff eps (nBest fs) optimum hlb', exists_comm]
  simp only [nBest_eq_some_iff, nLook_some_iff, exists_and_right]

/-- The shadowing clause spelled out: if the innermost `BestIndividual` (below any number of inner
registries that hold none) is still EMPTY, no best value exists in that state and optimum-reached is
false — for every content of the enclosing registries `outer`, in particular an outer best value that
sits exactly on the optimum. Needs no hypothesis on the values. -/
theorem optimumReached_shadowed_empty {F : Type} [Add F] [Sub F] [Div F] [LT F] [LE F] [DecidableLT F] [DecidableLE F] [BEq F]
    (toF : Nat → F) (eps optimum : F) (inner : List (NFrame F)) (fr : NFrame F) (outer : List (NFrame F))
    (h1 : ∀ g ∈ inner, g.best = none) (h2 : fr.best = some none) :
    (nEval toF optimum (.opt eps) (inner ++ fr :: outer)).1 = some false := by
  simp [nEval, nBest, nLook_append_holder (fun f => f.best) inner fr outer none h1 h2, optimumReached]

/-- …and once that innermost `BestIndividual` holds `b`, the verdict is about `b` alone. -/
theorem optimumReached_shadowed_value {F : Type} [Add F] [Sub F] [Div F] [LT F] [LE F] [DecidableLT F] [DecidableLE F] [BEq F]
    (toF : Nat → F) (eps optimum b : F) (inner : List (NFrame F)) (fr : NFrame F) (outer : List (NFrame F))
    (h1 : ∀ g ∈ inner, g.best = none) (h2 : fr.best = some (some b)) :
    (nEval toF optimum (.opt eps) (inner ++ fr :: outer)).1 = some (decide (b ≤ optimum + eps)) := by
  simp [nEval, nBest, nLook_append_holder (fun f => f.best) inner fr outer (some b) h1 h2, optimumReached]

/-! ### LessThanN / EveryN over a (possibly shadowed) counter -/

/-- less-than-n on any registry chain: true exactly when the innermost registry that holds the observed
state holds a value below `n`; false exactly when it holds a value that is not; an error exactly when
no registry of the chain holds the state. -/
theorem lessThanN_nested_iff {F : Type} [Add F] [Sub F] [Div F] [LT F] [LE F] [DecidableLT F] [DecidableLE F] [BEq F]
    (toF : Nat → F) (optimum : F) (key n : Nat) (fs : List (NFrame F)) :
    ((nEval toF optimum (.lt key n) fs).1 = some true ↔ ∃ i v, Innermost (fun f => f.obs key) fs i v ∧ v < n) ∧
    ((nEval toF optimum (.lt key n) fs).1 = some false ↔ ∃ i v, Innermost (fun f => f.obs key) fs i v ∧ n ≤ v) ∧
    ((nEval toF optimum (.lt key n) fs).1 = none ↔ ∀ g ∈ fs, g.obs key = none) := by
  rw [exists_innermost_iff, exists_innermost_iff, ← nLook_none_iff (fun f => f.obs key)]
  cases h : nLook (fun f => f.obs key) fs with
  | none => simp [nEval, h]
  | some v => simp only [nEval, h, lessThanN, Option.some.injEq, exists_eq_left', decide_eq_true_eq, decide_eq_false_iff_not, Nat.not_lt, reduceCtorEq, and_self]

/-- …and it reports progress `value / n` where the state keeps its progress: the innermost registry
that holds a `Progress` (index `j`) afterwards holds `value / n`, nothing else in the chain changes;
if no registry holds one the chain is unchanged. -/
theorem lessThanN_nested_progress {F : Type} [Add F] [Sub F] [Div F] [LT F] [LE F] [DecidableLT F] [DecidableLE F] [BEq F]
    (toF : Nat → F) (optimum : F) (key n : Nat) (fs : List (NFrame F)) (i v : Nat)
    (hv : Innermost (fun f => f.obs key) fs i v) :
    (∀ j p, Innermost (fun f => f.prog key) fs j p →
      ∃ fr, fs[j]? = some fr ∧
        (nEval toF optimum (.lt key n) fs).2 = fs.set j { fr with prog := upd fr.prog key (some (toF v / toF n)) } ∧
        nLook (fun f => f.prog key) (nEval toF optimum (.lt key n) fs).2 = some (toF v / toF n)) ∧
    ((∀ g ∈ fs, g.prog key = none) → (nEval toF optimum (.lt key n) fs).2 = fs) := by
  have h : nLook (fun f => f.obs key) fs = some v := (nLook_some_iff _ fs v).mpr ⟨i, hv⟩
  constructor
  · intro j p hj
    have hp := (nLook_some_iff _ fs p).mpr ⟨j, hj⟩
    obtain ⟨fr, h1, h2, h3⟩ := hj
    refine ⟨fr, h1, by simp [nEval, h, lessThanN, nWrite_eq_set (fun f => f.prog key) _ fs j fr p h1 h2 h3], ?_⟩
    simp only [nEval, h, lessThanN]
    rw [nLook_nWrite_same (fun f => f.prog key) _ (fun _ => toF v / toF n) (by intro f a _; simp [upd]), hp]; rfl
  · intro hall
    simp only [nEval, h, lessThanN]
    exact nWrite_none _ _ fs ((nLook_none_iff _ fs).mpr hall)

/-- every-n on any registry chain: true exactly when the innermost registry that holds the observed
state holds a multiple of `n`. -/
theorem everyN_nested_iff {F : Type} [Add F] [Sub F] [Div F] [LT F] [LE F] [DecidableLT F] [DecidableLE F] [BEq F]
    (toF : Nat → F) (optimum : F) (key n : Nat) (fs : List (NFrame F)) :
    ((nEval toF optimum (.every key n) fs).1 = some true ↔ ∃ i v, Innermost (fun f => f.obs key) fs i v ∧ n ∣ v) ∧
    ((nEval toF optimum (.every key n) fs).1 = none ↔ ∀ g ∈ fs, g.obs key = none) := by
  rw [exists_innermost_iff, ← nLook_none_iff (fun f => f.obs key)]
  cases h : nLook (fun f => f.obs key) fs with
  | none => simp [nEval, h]
  | some v => simp only [nEval, h, Option.some.injEq, exists_eq_left', everyN_iff, reduceCtorEq, and_self]

/-! ### ChangeOf over a (possibly shadowed) lens target, with a (possibly shadowed) memory -/

/-- One evaluation of change-of on any registry chain: it compares the value of the innermost registry
that holds the observed state with the memory of the innermost registry that holds a `Previous` —
fires iff that memory is empty or the value differs from it by the checker —, records a reported
value in THAT registry and changes nothing else. It cannot answer (error) exactly when the state sees
no value or no memory. -/
theorem changeOf_nested_step {F : Type} [Add F] [Sub F] [Div F] [LT F] [LE F] [DecidableLT F] [DecidableLE F] [BEq F]
    (toF : Nat → F) (optimum : F) (key : Nat) (th : Option Nat) (fs : List (NFrame F)) :
    (∀ i v j prev, Innermost (fun f => f.obs key) fs i v → Innermost (fun f => f.prevN key) fs j prev →
      (nEval toF optimum (.chg key th) fs).1 =
        some (match prev with
          | none => true
          | some p => !chkN th v p) ∧
      ∃ fr, fs[j]? = some fr ∧
        (nEval toF optimum (.chg key th) fs).2 =
          fs.set j { fr with prevN := upd fr.prevN key (some (changeOfStep (chkN th) prev v).2) }) ∧
    ((nEval toF optimum (.chg key th) fs).1 = none ↔
      (∀ g ∈ fs, g.obs key = none) ∨ (∀ g ∈ fs, g.prevN key = none)) := by
  constructor
  · intro i v j prev hi hj
    have h1 := (nLook_some_iff _ fs v).mpr ⟨i, hi⟩
    have h2 := (nLook_some_iff _ fs prev).mpr ⟨j, hj⟩
    obtain ⟨fr, e1, e2, e3⟩ := hj
    refine ⟨?_, fr, e1, by simp [nEval, h1, h2, nWrite_eq_set (fun f => f.prevN key) _ fs j fr prev e1 e2 e3]⟩
    simp only [nEval, h1, h2, changeOfStep]
    cases prev <;> rfl
  · rw [← nLook_none_iff (fun f => f.obs key), ← nLook_none_iff (fun f => f.prevN key)]
    cases h1 : nLook (fun f => f.obs key) fs <;> cases h2 : nLook (fun f => f.prevN key) fs <;>
      simp [nEval, h1, h2]

/-- A condition initialised inside a nested state starts afresh there: after `init` on a chain
`top :: outer`, its first evaluation fires for every value the state sees — whatever memory the
enclosing registries hold — and only `top` is written. -/
theorem changeOf_nested_fresh {F : Type} [OfNat F 0] [Add F] [Sub F] [Div F] [LT F] [LE F] [DecidableLT F] [DecidableLE F] [BEq F]
    (toF : Nat → F) (optimum : F) (key : Nat) (th : Option Nat) (top : NFrame F) (outer : List (NFrame F)) (v : Nat)
    (hv : nLook (fun f => f.obs key) (top :: outer) = some v) :
    let fs := nInit (.chg key th) (top :: outer)
    (nEval toF optimum (.chg key th) fs).1 = some true ∧
    (nEval toF optimum (.chg key th) fs).2 =
      { top with prevN := upd top.prevN key (some (some v)) } :: outer := by
  have hv' : nLook (fun f => f.obs key) ({ top with prevN := upd top.prevN key (some none) } :: outer) = some v := by
    simpa [nLook] using hv
  simp only [nInit, nTop, nEval, hv', nLook, upd, if_true, changeOfStep, nWrite]
  refine ⟨trivial, ?_⟩
  have e : upd (upd top.prevN key (some none)) key (some (some v)) = upd top.prevN key (some (some v)) := by
    funext x
    by_cases hx : x = key <;> simp [upd, hx]
  rw [e]

/-! Non-vacuity: concrete chains. `shadow` holds an empty best individual and its own counter 7; the
root holds a best value ON the optimum and the counter 1. -/
section examples
def exRoot (F : Type) [OfNat F 0] : NFrame F :=
  { obs := upd (fun _ => none) 0 (some 1), best := some (some 0), prog := upd (fun _ => none) 0 (some 0),
    prevN := upd (fun _ => none) 0 (some (some 1)), prevB := none }
def exShadow (F : Type) : NFrame F :=
  { obs := upd (fun _ => none) 0 (some 7), best := some none, prog := fun _ => none, prevN := fun _ => none, prevB := none }

example : (nEval (F := Int) Int.ofNat 0 (.opt 0) [exRoot Int]).1 = some true ∧
    (nEval (F := Int) Int.ofNat 0 (.opt 0) [NFrame.empty, exRoot Int]).1 = some true ∧
    (nEval (F := Int) Int.ofNat 0 (.opt 0) [NFrame.empty, exShadow Int, NFrame.empty, exRoot Int]).1 = some false := by decide +kernel
example : (nEval (F := Int) Int.ofNat 0 (.lt 0 3) [exRoot Int]).1 = some true ∧
    (nEval (F := Int) Int.ofNat 0 (.lt 0 3) [NFrame.empty, exShadow Int, exRoot Int]).1 = some false ∧
    (nEval (F := Int) Int.ofNat 0 (.lt 0 3) [NFrame.empty]).1 = none ∧
    (nEval (F := Int) Int.ofNat 0 (.every 0 7) [exShadow Int, exRoot Int]).1 = some true ∧
    (nEval (F := Int) Int.ofNat 0 (.every 0 7) [exRoot Int]).1 = some false := by decide +kernel
example : Innermost (fun f => f.obs 0) [NFrame.empty, exShadow Int, exRoot Int] 1 7 :=
  ⟨exShadow Int, rfl, rfl, fun j hj g hg => by
    have : j = 0 := Nat.lt_one_iff.mp hj
    subst this; simp at hg; subst hg; rfl⟩
example : Innermost (fun f => f.prevN 0) [NFrame.empty, exShadow Int, exRoot Int] 2 (some 1) :=
  ⟨exRoot Int, rfl, rfl, fun j hj g hg => by
    have : j = 0 ∨ j = 1 := by omega
    rcases this with rfl | rfl <;> simp at hg <;> subst hg <;> rfl⟩
example : (nEval (F := Int) Int.ofNat 0 (.chg 0 none) [exRoot Int]).1 = some false ∧
    (nEval (F := Int) Int.ofNat 0 (.chg 0 none) [exShadow Int, exRoot Int]).1 = some true ∧
    (nEval (F := Int) Int.ofNat 0 (.chg 0 none) (nInit (.chg 0 none) [NFrame.empty, exRoot Int])).1 = some true := by decide +kernel
/-- the hypothesis of `optimumReached_nested_iff` on a chain over ℚ with a shadowing empty best individual -/
example : ∀ g ∈ [exShadow ℚ, exRoot ℚ], ∀ b, g.best = some (some b) → (0 : ℚ) ≤ b := by
  intro g hg b hb
  simp only [List.mem_cons, List.not_mem_nil, or_false] at hg
  rcases hg with rfl | rfl
  · simp [exShadow] at hb
  · simp only [exRoot, Option.some.injEq] at hb; rw [← hb]
end examples

/-! ### A search nested in scopes: `scope_`* around `while !OptimumReached(eps) & iterations < k` -/

/-- **The nested search makes exactly the passes its own state calls for.** For every outer best
value, every stack of scopes (each keeping its own best individual or not), every script of
objective values the search finds and every `k`: the loop tests at the pass counts `0 … p` where `p`
is the FIRST count at which "`j < k` and the best value THE SEARCH'S STATE SEES after `j` passes is
not within `eps` of the optimum" fails; it makes exactly `p` passes; at test `j` that state sees the
best of the first `j` scripted values on top of `searchStart` — which is NOTHING as soon as one scope
keeps its own best individual, the outer best otherwise; afterwards the root's best individual is
untouched in the first case and has taken the scripted values in the second. -/
theorem nested_search_exact {F : Type} [OfNat F 0] [Add F] [Sub F] [Div F] [LT F] [LE F] [DecidableLT F] [DecidableLE F] [BEq F]
    (toF : Nat → F) (optimum eps : F) (k : Nat) (outer : Option F) (shadow : List Bool) (script : List F) (p fuel : Nat)
    (hstop : searchGoesOn optimum eps k (searchStart outer shadow) script p = false)
    (hgo : ∀ q, q < p → searchGoesOn optimum eps k (searchStart outer shadow) script q = true)
    (hf : p + 1 ≤ fuel) :
    nsRun toF optimum eps k outer shadow script fuel =
      some (p, (List.range' 0 (p + 1)).map (fun j =>
          { verdict := searchGoesOn optimum eps k (searchStart outer shadow) script j, iters := j,
            best := runningBest (searchStart outer shadow) script j }),
        if shadow.any id then outer else runningBest outer script p) := by
  let root : NFrame F := { (NFrame.empty : NFrame F) with best := some outer }
  let fs0 := nTop (fun f : NFrame F => { f with obs := upd f.obs 0 (some 0), prog := upd f.prog 0 (some (0 : F)) })
    (nsScopes shadow [root])
  obtain ⟨t, rest, hs⟩ := List.exists_cons_of_ne_nil (nsScopes_ne_nil shadow [root] (List.cons_ne_nil _ _))
  have hB0 : fs0.map (fun f => f.best) = shadow.reverse.map slotOf ++ [some outer] := by
    have := map_best_nsScopes shadow [root]
    simp only [fs0, hs, nTop] at this ⊢
    simpa using this
  have hobs : nLook (fun f => f.obs 0) fs0 = some 0 := by
    simp [fs0, hs, nTop, nLook, upd]
  have hsl := findSome?_slots (F := F) shadow.reverse
  simp only [List.any_reverse] at hsl
  have hbest : nLook (fun f => f.best) fs0 = some (searchStart outer shadow) := by
    rw [nLook_eq_findSome?_map, hB0, hsl]
    by_cases h : shadow.any id = true <;> simp [h, searchStart]
  obtain ⟨fs', e, hB⟩ := nsGo_least toF optimum eps k p fs0 script 0 (searchStart outer shadow) 0 [] fuel hobs hbest
    (by simpa [searchGoesOn] using hstop) (fun q hq => by simpa [searchGoesOn] using hgo q hq) hf
  show (match nsGo toF optimum eps k fuel fs0 script 0 [] with
    | none => none
    | some (fs', passes, log) => some (passes, log, nBest (fs'.drop shadow.length))) = _
  rw [e]
  refine congrArg some (Prod.ext (Nat.zero_add p) (Prod.ext (by simp [searchGoesOn]) ?_))
  dsimp only
  -- below the scopes only the root is left; whether the updates reached it is whether no scope holds a best individual
  have hl : shadow.length = (shadow.reverse.map (slotOf (F := F))).length := by simp
  have h0 := hsl []
  rw [List.append_nil] at h0
  rw [nBest_eq_join, nLook_eq_findSome?_map, List.map_drop, hB, hB0, hl, drop_updFirst_append, h0]
  by_cases h : shadow.any id = true
  · cases outer <;> simp [h]
  · cases hr : runningBest outer script p <;> simp [h, updFirst, hr]

/-- Such a `p ≤ k` always exists (the iteration bound stops the search at the latest), so the run is
determined for every input. -/
theorem nested_search_total {F : Type} [OfNat F 0] [Add F] [Sub F] [Div F] [LT F] [LE F] [DecidableLT F] [DecidableLE F] [BEq F]
    (toF : Nat → F) (optimum eps : F) (k : Nat) (outer : Option F) (shadow : List Bool) (script : List F) (fuel : Nat)
    (hf : k + 1 ≤ fuel) :
    ∃ p log root, p ≤ k ∧ nsRun toF optimum eps k outer shadow script fuel = some (p, log, root) ∧ log.length = p + 1 ∧
      (p < k → optimumReached eps (runningBest (searchStart outer shadow) script p) optimum = true) := by
  have hk : searchGoesOn optimum eps k (searchStart outer shadow) script k = false := by simp [searchGoesOn]
  obtain ⟨p, hp, h1, h2⟩ := Arith.exists_first_stop (searchGoesOn optimum eps k (searchStart outer shadow) script) k hk
  refine ⟨p, _, _, hp, nested_search_exact toF optimum eps k outer shadow script p fuel h1 h2 (by omega),
    by simp, ?_⟩
  intro hpk
  simpa [searchGoesOn, hpk] using h1

/-- The shadowing clause for the search: once a scope keeps its own best individual, NOTHING the
enclosing scopes have found influences the search — passes and log are the same for every outer
best value (in particular for one that already sits on the optimum), and the outer best comes back unchanged. -/
theorem nested_search_ignores_outer_best {F : Type} [OfNat F 0] [Add F] [Sub F] [Div F] [LT F] [LE F] [DecidableLT F] [DecidableLE F] [BEq F]
    (toF : Nat → F) (optimum eps : F) (k : Nat) (outer outer' : Option F) (shadow : List Bool) (script : List F) (fuel : Nat)
    (hsh : shadow.any id = true) (hf : k + 1 ≤ fuel) :
    ∃ p log, nsRun toF optimum eps k outer shadow script fuel = some (p, log, outer) ∧
      nsRun toF optimum eps k outer' shadow script fuel = some (p, log, outer') := by
  have hs : ∀ o : Option F, searchStart o shadow = none := by intro o; simp [searchStart, hsh]
  have hk : searchGoesOn optimum eps k (none : Option F) script k = false := by simp [searchGoesOn]
  obtain ⟨p, hp, h1, h2⟩ := Arith.exists_first_stop (searchGoesOn optimum eps k (none : Option F) script) k hk
  have key : ∀ o : Option F, nsRun toF optimum eps k o shadow script fuel =
      some (p, (List.range' 0 (p + 1)).map (fun j =>
        { verdict := searchGoesOn optimum eps k (none : Option F) script j, iters := j,
          best := runningBest (none : Option F) script j }), o) := fun o => by
    have := nested_search_exact toF optimum eps k o shadow script p fuel (by rw [hs]; exact h1) (by rw [hs]; exact h2)
      (by omega)
    simpa [hs, hsh] using this
  exact ⟨p, _, key outer, key outer'⟩

/-! Non-vacuity (carrier `Int`): outer best ON the optimum, one scope with its own best individual,
`k = 5`, the search finds 3, 3, 1, …: it must use three passes (until it has found 1 ≤ 0 + 1 itself). -/
example : searchGoesOn (0 : Int) 1 5 (searchStart (some 0) [true]) [3, 3, 1, 7] 3 = false ∧
    ∀ q, q < 3 → searchGoesOn (0 : Int) 1 5 (searchStart (some 0) [true]) [3, 3, 1, 7] q = true := by decide +kernel
example : (nsRun (F := Int) Int.ofNat 0 1 5 (some 0) [true] [3, 3, 1, 7] 7).map (fun r => (r.1, r.2.2)) = some (3, some 0) ∧
    (nsRun (F := Int) Int.ofNat 0 1 5 (some 0) [false] [3, 3, 1, 7] 7).map (fun r => (r.1, r.2.2)) = some (0, some 0) ∧
    (nsRun (F := Int) Int.ofNat 0 1 5 (some 9) [false, false] [3, 3, 1, 7] 7).map (fun r => (r.1, r.2.2)) = some (3, some 1) ∧
    (nsRun (F := Int) Int.ofNat 0 1 2 (some 0) [false, true, false] [3, 3, 1, 7] 7).map (fun r => (r.1, r.2.2)) = some (2, some 0) := by
  decide +kernel

end MahfModel.Props.C10
