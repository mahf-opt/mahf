/-
C05 — second part: partial mutations, the recombination executor, DE mutation, the swarm and molecule
memories, and the transition relations the driver evaluates on real before/after snapshots.
Property theorems only; definitions (`AllValidX`) and helper lemmas are in `Proofs/C05Mem.lean`.
-/
import MahfModel.Props.C05
import MahfModel.Proofs.C05Mem
namespace MahfModel.Props.C05
open MahfModel.PopMachine

variable {O : Type}

/-! ### Solution-modifying executors that are not a plain `as_solutions_mut` -/

/-- A component may take `solution_mut` on ANY subset of the members (EventHorizon; a repair that leaves
feasible individuals alone): every touched member is unevaluated whatever is (not) written, every other
member is the very same individual (solution and objective together), and validity is preserved — for all
witnesses. -/
theorem partial_mutation_spec (f : Nat → O) (p : List (Ind O)) (ts : List Touch) :
    (mutateSome p ts).length = p.length ∧
    (∀ (k : Nat) (a b : Ind O), p[k]? = some a → (mutateSome p ts)[k]? = some b → b = a ∨ b.obj = none) ∧
    (∀ (k : Nat) (w : Option Nat) (b : Ind O), k < p.length → ts[k]? = some (.mut w) → (mutateSome p ts)[k]? = some b → b.obj = none) ∧
    (AllValid f p → AllValid f (mutateSome p ts)) := by
  refine ⟨by rw [mutateSome_eq_mapIdx, List.length_mapIdx], fun k a b h1 h2 => ?_, fun k w b _ h h2 => ?_,
    fun h => forall_mem_mutateSome p ts h (valid_solutionMut f)⟩
  · rw [mutateSome_eq_mapIdx, List.getElem?_mapIdx, h1] at h2
    cases h2
    unfold touch
    split
    · exact Or.inr rfl
    · exact Or.inl rfl
  · rw [mutateSome_eq_mapIdx, List.getElem?_mapIdx] at h2
    obtain ⟨a, _, rfl⟩ := Option.map_eq_some_iff.mp h2
    rw [touch, h]
    rfl

/-- The shared recombination executor hands out only unevaluated individuals — children AND parents that
were passed on unchanged (`OptionalPair::None`, the odd remainder), whatever the operator returns. With no
pair recombined the solutions are exactly the parents' solutions. -/
theorem recombination_exec_unevaluated (p : List (Ind O)) (ws : List PairOut) :
    (∀ i ∈ recombineExec p ws, i.obj = none) ∧ (recombineExec p []).map (·.sol) = p.map (·.sol) := by
  refine ⟨recombineExec_unevaluated p ws, ?_⟩
  simp [recombineExec, recombineSols_none, intoIndividuals, intoSolutions, Ind.newUnevaluated, Ind.intoSolution, Function.comp_def]

/-- What `DEMutation` keeps (the bases) is unevaluated (it took `as_solutions_mut` on the whole population) and no
longer than the population. -/
theorem de_mutation_unevaluated (size : Nat) (p p' : List (Ind O)) (ws : List (Option Nat))
    (h : deMutation size p ws = some p') : (∀ i ∈ p', i.obj = none) ∧ p'.length ≤ p.length := by
  exact ⟨deMutation_unevaluated size p p' ws h,
    asSolutionsMut_length p ws ▸ (deMutation_sublist size p p' ws h).length_le⟩

/-- Selecting and moving between populations keeps solution and objective together: every member of a
selection is the very same individual as a member of the population it was selected from, every member
that survives a replacement is the very same individual as a parent or an offspring. -/
theorem selection_replacement_exact (p off par : List (Ind O)) (idx keep : List Nat) :
    (∀ x ∈ pick p idx, x ∈ p) ∧ (∀ x ∈ pick (par ++ off) keep, x ∈ par ∨ x ∈ off) :=
  ⟨pick_mem p idx, fun x hx => List.mem_append.mp (pick_mem _ keep x hx)⟩

/-! ### Swarm and molecule memories -/

section Mem
variable [LinearOrder O]

/-- The memories are fed with exact copies only: after a personal-best update every memory entry is the old
entry or a current particle (same length), after a global-best update the entry is
the old one or a member of the current population. -/
theorem memories_fed_by_copies (bs cs r : List (Ind O)) (best cand g : Option (Ind O))
    (h1 : pbestUpd bs cs = some r) (h2 : gbestUpd best cand = some g) :
    r.length = bs.length ∧ (∀ x ∈ r, x ∈ bs ∨ x ∈ cs) ∧ (g = best ∨ (g = cand ∧ cand.isSome)) :=
  ⟨(pbestUpd_spec bs cs r h1).1, (pbestUpd_spec bs cs r h1).2, gbestUpd_cases best cand g h2⟩

/-- Every step of the machine with memories — all `PMOp` steps, partial mutations, the recombination
executor, DE mutation, duplication, the PSO personal/global best components, `ChemicalReactionInit` and the
four CRO reactions for every outcome of their energy balance — keeps every individual anywhere in the state
(population stack, best-so-far, archive, swarm memories, molecule memories) valid; also when the step ends
with an `Err` (the state it leaves behind is valid, too). -/
theorem memstep_preserves_valid (f : Nat → O) (x x' : PMX O) (op : MemOp)
    (hv : AllValidX f x) (hs : (memStep f x op).state? = some x') : AllValidX f x' := by
  exact (memStep_hands f (closed_valid f) x x' op hv hs).1

/-- Hence the same holds after every sequence of such steps, however it ends (completed, or stopped by an
`Err`). -/
theorem memrun_preserves_valid (f : Nat → O) (ops : List MemOp) (x x' : PMX O)
    (hv : AllValidX f x) (hr : (memRun f x ops).state? = some x') : AllValidX f x' := by
  exact memRun_inv ops (fun op _ y y' => memstep_preserves_valid f y y' op) x x' hv hr

/-! ### The relations the driver evaluates on real snapshots -/

/-- The driver's O predicate IS the theorems' predicate: `allValidB` on everything the snapshot holds. -/
theorem all_valid_b_iff (f : Nat → O) (x : PMX O) : allValidB f (allInds x) = true ↔ AllValidX f x := by
  rw [allValidB_iff, allValidX_iff]

/-- A transition that creates no new (solution, objective) pair — every evaluated individual afterwards is
an exact copy of one that was somewhere in the state before — keeps the whole state valid. This is what the
driver checks (K) on every observed execution of every component that does not evaluate. -/
theorem no_new_values_sound (f : Nat → O) (before after : PMX O)
    (h : noNewValues before after = true) (hv : AllValidX f before) : AllValidX f after := by
  rw [allValidX_iff] at hv ⊢
  exact unevalOrCopy_sound f _ _ h hv

/-- The complete per-leaf check of the driver implies validity of the state after the leaf, for every kind
(an evaluating kind may add values `f sol`, nothing else may add anything). -/
theorem leaf_check_sound (f : Nat → O) (k : Kind) (before after : PMX O)
    (h : leafCheck f k before after = true) (hv : AllValidX f before) : AllValidX f after := by
  simp only [leafCheck, Bool.and_eq_true] at h
  rw [allValidX_iff] at hv ⊢
  cases hk : k.evaluates with
  | true => rw [hk] at h; exact freshOrCopy_sound f _ _ h.2 hv
  | false => rw [hk] at h; exact unevalOrCopy_sound f _ _ h.2 hv

/-- The shape `unevalTop` (boundary repairs, mutations, velocity updates): every member of the top is,
position-wise, unevaluated or the very same individual as before. -/
theorem uneval_top_shape (s0 s1 : List (List (Ind O))) (h : shapeCheck .unevalTop s0 s1 = true) :
    (s1.headD []).length = (s0.headD []).length ∧
    ∀ (k : Nat) (a b : Ind O), (s0.headD [])[k]? = some a → (s1.headD [])[k]? = some b → b.obj = none ∨ b = a := by
  simp only [shapeCheck, Bool.and_eq_true] at h
  obtain ⟨h1, h2⟩ := unevalOrSame_spec _ _ h.1.2
  exact ⟨h1.symm, h2⟩

end Mem

/-- The empty machine with memories is valid. -/
theorem empty_valid_x (f : Nat → O) : AllValidX f ({} : PMX O) :=
  ⟨empty_valid f, allValid_nil f, fun _ h => (nomatch h), allValid_nil f⟩

/-! Non-vacuity: a PSO-like and a CRO-like history run through without panic, memories non-empty. -/
example : (memRun (fun s => s * s) ({} : PMX Nat)
    [.base (.init [3, 1, 2]), .base .eval, .pbestInit, .gbestUpdate, .base (.mutate [some 0, none, some 5]), .base .eval,
     .pbestUpdate, .gbestUpdate, .mutateSome [.keep, .mut (some 4), .keep]]).state?.map (fun x => (x.pbest.map (·.sol), x.gbest.map (·.sol)))
    = some ([0, 1, 2], some 0) := by decide +kernel
example : (memRun (fun s => s * s) ({} : PMX Nat)
    [.base (.init [3, 1, 2]), .base .eval, .croInit, .base (.select [1]), .base (.select [0]), .base (.mutate [some 0]), .base .eval,
     .onWall true]).state?.map (fun x => (x.pm.stack.map (·.map (·.sol)), x.mols.map (·.sol)))
    = some ([[3, 0, 2]], [3, 0, 2]) := by decide +kernel
example : deMutation 3 [⟨1, some 1⟩, ⟨2, some 4⟩, ⟨3, some 9⟩, ⟨4, some 16⟩, ⟨5, none⟩, ⟨6, some 36⟩] [some 7] =
    some ([⟨7, none⟩, ⟨4, none⟩] : List (Ind Nat)) := by decide +kernel
example : pbestUpd [⟨1, some 1⟩, ⟨5, some 25⟩, ⟨2, some 4⟩] [⟨3, some 9⟩, ⟨4, some 16⟩] =
    some ([⟨1, some 1⟩, ⟨4, some 16⟩, ⟨2, some 4⟩] : List (Ind Nat)) ∧
    gbestUpd (some ⟨5, some 25⟩) (some (⟨4, some 16⟩ : Ind Nat)) = some (some ⟨4, some 16⟩) := by decide +kernel
example : leafCheck (fun s => s * s) .unevalTop
    { pm := { stack := [[⟨3, some 9⟩, ⟨2, some 4⟩]] } } { pm := { stack := [[⟨3, some 9⟩, ⟨5, none⟩]] } } = true := by decide +kernel
example : leafCheck (fun s => s * s) .unevalTop
    { pm := { stack := [[⟨3, some 9⟩, ⟨2, some 4⟩]] } } { pm := { stack := [[⟨3, some 9⟩, ⟨5, some 4⟩]] } } = false := by decide +kernel

end MahfModel.Props.C05
