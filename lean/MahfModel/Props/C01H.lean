/-
C01 — `State::holding` as an operation of registry histories: the state taken out comes back into the scope
it was taken from, whatever the body does, so that popping a scope still yields exactly the entries inserted
into it and re-exposes what it shadowed. The property theorems; the lemmas they share are in `Proofs/C01Hold.lean`
and `Proofs/C01H.lean`.
-/
import MahfModel.Proofs.C01H
namespace MahfModel.Props.C01
open MahfModel.Registry MahfModel.Borrow MahfModel.RegistryX MahfModel.RegistryH

mutual
  /-- Frame: a statement — including `holding`s nested in scopes nested in `holding`s — leaves the bindings of
  every type it does not name exactly where they are, scope by scope (`vcol r q` = the binding of `q` in every
  scope of the chain, innermost first). In particular a `holding` never moves ANOTHER type between scopes. -/
  theorem holding_leaves_other_types (s : HStmt) (r : Reg) (q : Key) (hI : Inv r) (ha : HStmt.avoids q s) :
      vcol (execHStmt r s).1 q = vcol r q := by
    cases s with
    | op o =>
      simp only [HStmt.avoids] at ha
      simp only [execHStmt, vcol, (xstep_refines r o hI).2.2]
      exact xspecStep_frame (abs r) o q ha.1 ha.2 (abs_ne_nil r hI.1)
    | hold k d ok body =>
      simp only [HStmt.avoids] at ha
      obtain ⟨hk, hmk, hb⟩ := ha
      rw [execHStmt_hold]
      exact holdingWith_keeps (vcol · q = vcol r q) _ r k d ok rfl
        (fun i => (hprog_leaves_other_types body _ q (inv_heldOut r i k hI) hb).trans (vcol_heldOut r i k q hk hmk))
        (fun r' j v h' => (vcol_putBack r' j k q v hk hmk).trans h')
    | inner ok body =>
      simp only [HStmt.avoids] at ha
      simp only [execHStmt]
      have ih := hprog_leaves_other_types body _ q (inv_intoChild r hI) ha
      have i1 := execHProg_inv body _ (inv_intoChild r hI)
      obtain ⟨p, c, hip, hv⟩ := intoParent_frame r _ q hI i1 ih
      rw [hip]; exact hv
  theorem hprog_leaves_other_types (p : HProg) (r : Reg) (q : Key) (hI : Inv r) (ha : HProg.avoids q p) :
      vcol (execHProg r p).1 q = vcol r q := by
    cases p with
    | nil => rfl
    | cons s rest =>
      simp only [HProg.avoids] at ha
      simp only [execHProg]
      rw [hprog_leaves_other_types rest _ q (execHStmt_inv s r hI) ha.2]
      exact holding_leaves_other_types s r q hI ha.1
end

/-- `holding::<k>` with ANY body made of extended registry operations, `with_inner_state` scopes and nested
`holding`s of OTHER types (`HProg.avoids (markerOf k) body`: the body never names `Marker<k>` — no client can —,
uses no raw push/pop and does not nest a `holding` of the same type `k`; that nesting is the recorded finding
`holding-samekey` of C02), whether the body returns `Ok` or `Err`: the outcomes are the body's followed by the
body's own result; the chain has its old height; `k` is back in the scope it was taken from (`i`) with the value
the body left in it; no `Marker<k>` is left anywhere; every other cell of every scope is as the body left it. -/
theorem holding_puts_back_into_source_scope (r : Reg) (k : Key) (d : Nat) (ok : Bool) (body : HProg) (i : Nat)
    (c : Cell) (hI : Inv r) (hf : find r k = some i) (hc : cellAt r i k = some c)
    (hnm : ∀ j, (scopeAt r j).has (markerOf k) = false) (hwf : HProg.avoids (markerOf k) body) :
    (execHStmt r (.hold k d ok body)).2 = (execHProg (RegistryH.heldOut r i k) body).2 ++ [resOut ok] ∧
    (execHStmt r (.hold k d ok body)).1.length = r.length ∧
    cellAt (execHStmt r (.hold k d ok body)).1 i k = some (fresh (c.val + d)) ∧
    (∀ j, (scopeAt (execHStmt r (.hold k d ok body)).1 j).has (markerOf k) = false) ∧
    (∀ j q, ¬ (j = i ∧ (q = k ∨ q = markerOf k)) →
      cellAt (execHStmt r (.hold k d ok body)).1 j q = cellAt (execHProg (RegistryH.heldOut r i k) body).1 j q) := by
  rw [execHStmt_hold]
  exact holdingWith_putBack _ r k d ok i c hf hc hnm
    (hprog_leaves_other_types body (RegistryH.heldOut r i k) (markerOf k) (inv_heldOut r i k hI) hwf)

/-- The hypotheses are satisfiable: `K0` shadowed in the inner scope, a body that inserts, removes, opens a
scope and nests a `holding` of another type. -/
example : Inv [[(.ty 0, fresh 2)], [(.ty 0, fresh 1), (.ty 1, fresh 1)]] ∧
    find [[(.ty 0, fresh 2)], [(.ty 0, fresh 1), (.ty 1, fresh 1)]] (.ty 0) = some 0 ∧
    HProg.avoids (markerOf (.ty 0))
      (.cons (.op (.base (.ins (.ty 0) 9))) (.cons (.inner false (.cons (.op (.bvalMut (.ty 1) 3)) .nil))
        (.cons (.hold (.ty 1) 2 true (.cons (.op (.base (.rem (.ty 0)))) .nil)) .nil))) :=
  ⟨⟨by decide, by decide⟩, by decide, ⟨by decide, rfl⟩, ⟨⟨by decide, rfl⟩, trivial⟩,
    ⟨by decide, by decide, ⟨by decide, rfl⟩, trivial⟩, trivial⟩

/-- A type that is absent is reported before the body runs; nothing changes — in the code-shaped model and in
the stack of maps alike. -/
theorem holding_absent (r : Reg) (k : Key) (d : Nat) (ok : Bool) (body : HProg) (hf : find r k = none) :
    execHStmt r (.hold k d ok body) = (r, [.err .notFound]) ∧
    specExecHStmt (abs r) (.hold k d ok body) = (abs r, [.err .notFound]) := by
  refine ⟨by simp [execHStmt, hf], ?_⟩
  have h : (abs r).depthOf k = none := by rw [← find_abs]; exact hf
  simp [specExecHStmt, h]

/-- Statements with `holding` keep the registry quiescent (own map present, no flag taken), whatever their
bodies do and whether they return `Ok` or `Err`. -/
theorem holding_statements_keep_invariant (s : HStmt) (r : Reg) (h : Inv r) : Inv (execHStmt r s).1 :=
  execHStmt_inv s r h

example : HStmt.avoids (.ty 2)
    (.hold (.ty 1) 1 true (.cons (.hold (.ty 0) 2 false (.cons (.op (.base (.ins (.ty 0) 9))) .nil)) .nil)) :=
  ⟨by decide, by decide, ⟨by decide, by decide, ⟨by decide, rfl⟩, trivial⟩, trivial⟩

/-- Two NESTED holdings of two DIFFERENT client types, `holding::<A>(|a, s| s.holding::<B>(|b, s| body))`,
wherever the two states live (same scope, `A` further in, `A` further out — `i`, `i'` arbitrary): both are back
in their OWN scopes with the values the bodies left, the chain has its old height, and no marker is left. -/
theorem nested_holdings_restore_both (r : Reg) (a b : Nat) (d d' : Nat) (ok ok' : Bool) (body : HProg)
    (i i' : Nat) (c c' : Cell) (hI : Inv r) (hab : a ≠ b)
    (hf : find r (.ty a) = some i) (hc : cellAt r i (.ty a) = some c)
    (hf' : find r (.ty b) = some i') (hc' : cellAt r i' (.ty b) = some c')
    (hnm : ∀ j, (scopeAt r j).has (markerOf (.ty a)) = false)
    (hnm' : ∀ j, (scopeAt r j).has (markerOf (.ty b)) = false)
    (hwf : HProg.avoids (markerOf (.ty a)) body) (hwf' : HProg.avoids (markerOf (.ty b)) body) :
    let r' := (execHStmt r (.hold (.ty a) d ok (.cons (.hold (.ty b) d' ok' body) .nil))).1
    cellAt r' i (.ty a) = some (fresh (c.val + d)) ∧ cellAt r' i' (.ty b) = some (fresh (c'.val + d')) ∧
    r'.length = r.length ∧
    (∀ j, (scopeAt r' j).has (markerOf (.ty a)) = false) := by
  intro r'
  have hkk : Key.ty a ≠ Key.ty b := fun h => hab (Key.ty.inj h)
  have hmk' : markerOf (.ty a) ≠ Key.ty b := by simp [markerOf]
  have hkm : Key.ty b ≠ markerOf (.ty a) := by simp [markerOf]
  have hkm' : Key.ty a ≠ markerOf (.ty b) := by simp [markerOf]
  have hmm : markerOf (.ty b) ≠ markerOf (.ty a) := by
    simp only [markerOf, ne_eq, Key.marker.injEq, Key.ty.injEq]; exact fun h => hab h.symm
  have hmm' : markerOf (.ty a) ≠ markerOf (.ty b) := fun h => hmm h.symm
  have hav : HProg.avoids (markerOf (.ty a)) (.cons (.hold (.ty b) d' ok' body) .nil) := by
    simp only [HProg.avoids, HStmt.avoids, and_true]
    exact ⟨hkm, hmm, hwf⟩
  obtain ⟨_, o2, o3, o4, o5⟩ := holding_puts_back_into_source_scope r (.ty a) d ok _ i c hI hf hc hnm hav
  -- the registry the inner `holding` starts from
  have hi := find_lt r (.ty a) i hf
  have hI1 := inv_heldOut r i (.ty a) hI
  have hv := vcol_heldOut r i (.ty a) (.ty b) hkk hmk'
  have hf1 : find (RegistryH.heldOut r i (.ty a)) (.ty b) = some i' := by rw [find_of_vcol _ _ _ hv]; exact hf'
  have hc1 : cellAt (RegistryH.heldOut r i (.ty a)) i' (.ty b) = some c' := by
    simp only [RegistryH.heldOut]
    rw [cellAt_erase_at _ i _ i' _ (by rw [modifyAt_length]; exact hi), cellAt_put_at _ i _ _ i' _ hi]
    simp [hkk.symm, hkm, hc']
  have hnm1 : ∀ j, (scopeAt (RegistryH.heldOut r i (.ty a)) j).has (markerOf (.ty b)) = false := by
    intro j
    rw [has_of_vcol, vcol_heldOut r i (.ty a) _ hkm' hmm', ← has_of_vcol]
    exact hnm' j
  obtain ⟨_, _, n3, _, _⟩ := holding_puts_back_into_source_scope (RegistryH.heldOut r i (.ty a)) (.ty b) d' ok' body i' c' hI1 hf1 hc1 hnm1 hwf'
  refine ⟨o3, ?_, o2, o4⟩
  have hne : ¬ (i' = i ∧ (Key.ty b = Key.ty a ∨ Key.ty b = markerOf (.ty a))) := by
    rintro ⟨_, h | h⟩
    · exact hkk h.symm
    · exact hkm h
  have := o5 i' (.ty b) hne
  simp only [execHProg, List.append_nil] at this
  rw [this]
  exact n3

/-- Nested holdings of two types whose states live in different scopes, all three inside the hypotheses: `K1` in the inner scope and
`K0` in the enclosing one with the OUTER call holding the inner scope's state; the same with the roles swapped; both
in one scope. -/
example : find [[(.ty 1, fresh 8)], [(.ty 0, fresh 1)]] (.ty 1) = some 0 ∧
    find [[(.ty 1, fresh 8)], [(.ty 0, fresh 1)]] (.ty 0) = some 1 ∧
    find [[(.ty 1, fresh 8), (.ty 0, fresh 1)]] (.ty 0) = some 0 ∧
    (∀ j, (scopeAt [[(.ty 1, fresh 8)], [(.ty 0, fresh 1)]] j).has (markerOf (.ty 1)) = false) := by
  refine ⟨by decide, by decide, by decide, ?_⟩
  intro j
  match j with
  | 0 | 1 => decide
  | j + 2 => simp [scopeAt, Scope.has]

/-- The model on the history `(ins 0 1) (inner ok (ins 1 8) (hold 1 1 ok (hold 0 2 ok)))`:
after the two nested holdings `K1` is in the inner scope, `K0` in the root, and the popped scope holds `K1` only. -/
example :
    let r := (execHProg [[(.ty 1, fresh 8)], [(.ty 0, fresh 1)]]
      (.cons (.hold (.ty 1) 1 true (.cons (.hold (.ty 0) 2 true .nil) .nil)) .nil)).1
    cellAt r 0 (.ty 1) = some (fresh 9) ∧ cellAt r 1 (.ty 0) = some (fresh 3) ∧
    cellAt r 0 (.ty 0) = none ∧ cellAt r 1 (.ty 1) = none := by decide +kernel

end MahfModel.Props.C01
