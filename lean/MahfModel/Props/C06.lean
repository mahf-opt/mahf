/-
C06 — Evaluation steps evaluate everyone once and the evaluation count is exact.
Property theorems only; the lemmas they rest on are in `Proofs/PopMachine.lean` (evaluation step) and `Proofs/C06.lean` (scoped counter).
-/
import MahfModel.Proofs.C06
import MahfModel.Proofs.PopMachine
import MahfModel.Model.PopMachineWire
namespace MahfModel.Props.C06
open MahfModel.PopMachine

variable {O : Type}

/-- The evaluation step on a non-empty stack: same length, same order, same solutions, every member
carries `f sol`; the call log grows by exactly the population's solutions, in order; the counter grows
by the population size; nothing else changes. -/
theorem evaluate_step (f : Nat → O) (pm : PM O) (p : List (Ind O)) (rest : List (List (Ind O)))
    (h : pm.stack = p :: rest) :
    (∃ top, (evalStep f pm).stack = top :: rest ∧ top.length = p.length ∧
        top.map (·.sol) = p.map (·.sol) ∧ ∀ i ∈ top, i.obj = some (f i.sol)) ∧
    (evalStep f pm).calls = pm.calls ++ p.map (·.sol) ∧
    (evalStep f pm).evals = pm.evals + p.length ∧
    (evalStep f pm).best = pm.best ∧ (evalStep f pm).archive = pm.archive := by
  rw [evalStep_cons f pm p rest h]
  exact ⟨⟨_, rfl, List.length_map _, map_evaluateWith_sol f p, mem_map_evaluateWith f p⟩, rfl, rfl, rfl, rfl⟩

/-- Each individual is evaluated exactly once: the calls made by the step are, position by position,
the solutions of the population. -/
theorem each_individual_called_once (f : Nat → O) (pm : PM O) (p : List (Ind O)) (rest : List (List (Ind O)))
    (h : pm.stack = p :: rest) :
    (evalStep f pm).calls.drop pm.calls.length = p.map (·.sol) ∧
    ∀ s, ((evalStep f pm).calls.drop pm.calls.length).count s = (p.map (·.sol)).count s := by
  have := (evaluate_step f pm p rest h).2.1
  rw [this]
  simp

/-- With no population on the stack the step does nothing at all. -/
theorem evaluate_empty_stack_noop (f : Nat → O) (pm : PM O) (h : pm.stack = []) : evalStep f pm = pm :=
  evalStep_nil f pm h

/-- The flat driver model (`Wire.C06.runConfig`) refuses a configuration with an evaluation step whose identifier is
not registered: it reports the error from the empty machine, no step has executed, no objective call was made. The
statement on configuration trees and arbitrary prior states is `Runs.missing_evaluator_fails_before_anything`. -/
theorem evaluator_missing_require_fails (f : Nat → Int) (reg : List String) (steps : List Wire.C06.EStep)
    (id : String) (hid : Wire.C06.EStep.eval id ∈ steps) (hreg : id ∉ reg) :
    (Wire.C06.runConfig f reg steps).1 = "required" ∧
    (Wire.C06.runConfig f reg steps).2.1.calls = [] ∧ (Wire.C06.runConfig f reg steps).2.1.stack = [] ∧
    (Wire.C06.runConfig f reg steps).2.2 = [] := by
  have hm : (steps.any fun s => match s with | .eval id => !reg.contains id | _ => false) = true := by
    rw [List.any_eq_true]
    exact ⟨_, hid, by simpa using hreg⟩
  have e : Wire.C06.runConfig f reg steps = ("required", {}, []) := by
    unfold Wire.C06.runConfig
    exact if_pos hm
  rw [e]
  exact ⟨rfl, rfl, rfl, rfl⟩

section Count
variable [LT O] [DecidableLT O] [DecidableEq O]

/-- One modelled step keeps "counter = number of objective invocations". -/
theorem step_evals_eq_calls (f : Nat → O) (pm pm' : PM O) (op : PMOp)
    (h : pm.evals = pm.calls.length) (hs : pmStep f pm op = some pm') :
    pm'.evals = pm'.calls.length := by
  revert hs
  fun_cases pmStep f pm op <;> intro hs
  -- not delegated to a step function: a panic, or `pm'` is explicit
  any_goals cases hs
  -- only the self-evaluating move and the evaluator touch counter and call log
  any_goals exact h
  · -- `moveEval`
    simp [h]
  · -- `eval`
    unfold evalStep
    split
    · exact h
    · simp [h]
  · -- `bestUpdate`
    obtain ⟨_, _, _, ⟨_, rfl⟩ | ⟨_, _, _, _, _, rfl⟩⟩ := bestUpdateStep_some hs <;> exact h
  · -- `archiveUpdate`
    obtain ⟨_, _, _, _, _, rfl⟩ := archiveUpdateStep_some hs; exact h
  · -- `archiveInto`
    obtain ⟨_, _, _, rfl⟩ := archiveIntoStep_some hs; exact h

/-- Over every sequence of modelled steps (initialisation, selection, variation, self-evaluating moves,
evaluation, best/archive updates, replacement) the counter equals the number of objective invocations. -/
theorem evals_eq_calls (f : Nat → O) (ops : List PMOp) (pm pm' : PM O)
    (h : pm.evals = pm.calls.length) (hr : pmRun f pm ops = some pm') :
    pm'.evals = pm'.calls.length := by
  exact pmRun_inv (step_evals_eq_calls f) ops pm pm' h hr

end Count

/-- A loop guarded by `evals < n` whose every pass makes at most `m` calls exits with
`n ≤ evals < n + m`: the budget is overshot by less than one pass. -/
theorem budget_overshoot (n m : Nat) (body : PM O → PM O)
    (hb : ∀ pm, (body pm).evals ≤ pm.evals + m)
    (fuel : Nat) (pm pm' : PM O) (h0 : pm.evals < n + m)
    (h : budgetLoop n body fuel pm = some pm') :
    n ≤ pm'.evals ∧ pm'.evals < n + m := by
  induction fuel generalizing pm with
  | zero => simp [budgetLoop] at h
  | succ fuel ih =>
    simp only [budgetLoop] at h
    split at h
    · rename_i hlt
      exact ih (body pm) (by have := hb pm; omega) h
    · injection h with h; subst h
      exact ⟨by omega, h0⟩

/-- …and it does exit as soon as every pass makes at least one call. -/
theorem budget_loop_terminates (n : Nat) (body : PM O → PM O)
    (hb : ∀ pm, pm.evals < (body pm).evals) (pm : PM O) (fuel : Nat) (hf : n ≤ fuel + pm.evals) :
    ∃ pm', budgetLoop n body (fuel + 1) pm = some pm' := by
  induction fuel generalizing pm with
  | zero =>
    refine ⟨pm, ?_⟩
    have : ¬ pm.evals < n := by omega
    simp [budgetLoop, this]
  | succ fuel ih =>
    rw [budgetLoop]
    split
    · exact ih (body pm) (by have := hb pm; omega)
    · exact ⟨pm, rfl⟩

/-- The evaluation step as a loop body: the counter grows by exactly the size of the top population. -/
theorem evaluate_step_counts_top (f : Nat → O) (pm : PM O) :
    (evalStep f pm).evals = pm.evals + (pm.stack.headD []).length := by
  cases h : pm.stack with
  | nil => rw [evalStep_nil f pm h]; rfl
  | cons p rest => rw [evalStep_cons f pm p rest h]; rfl

/-! ### Scoped counters: what `state.evaluations()` reports at the end of a run. -/

/-- FULL statement (does NOT hold for the shipped ILS templates, see `ils_scoped_counter_violates`):
the reported number of evaluations equals the number of objective invocations of the run. -/
def CounterExact (O : Type) [LT O] [DecidableLT O] : Prop :=
  ∀ evs : List (Ev O), reportedEvals (scopedRun ({} : Scoped O) evs) = (evs.map evCalls).sum

/-- The ILS shape: evaluate; then per pass `evaluate; scope { evaluate; evaluate … }` where the scope's
body contains an evaluator, so its `init` puts a fresh `Evaluations(0)` into the child registry. -/
def ilsTrace : List (Ev Nat) :=
  [.eval 1 [5], .eval 1 [4], .enter true true, .eval 1 [3], .eval 3 [2, 6, 7], .update [2, 6, 7], .exit,
   .update [2], .other]

/-- Counterexample: 2 evaluations reported, 6 objective invocations made. -/
theorem ils_scoped_counter_violates :
    reportedEvals (scopedRun ({} : Scoped Nat) ilsTrace) = 2 ∧ (ilsTrace.map evCalls).sum = 6 := by
  decide +kernel

theorem counter_exact_fails : ¬ CounterExact Nat := by
  intro h
  have := h ilsTrace
  revert this
  decide +kernel

/-- PARTIAL form that does hold: as long as no scope of the run shadows the evaluation counter
(no `Scope` whose body contains an evaluator), the reported count is exact. -/
theorem counter_exact_partial [LT O] [DecidableLT O] (evs : List (Ev O)) (hn : noCounterShadow evs) :
    reportedEvals (scopedRun ({} : Scoped O) evs) = (evs.map evCalls).sum := by
  rw [reportedEvals, scoped_noShadow evs {} (fun _ h => nomatch h) hn]
  exact Nat.zero_add _

/-! Non-vacuity. -/
example : ∃ pm', budgetLoop 10 (fun pm : PM Nat => { pm with evals := pm.evals + 4 }) 11 {} = some pm' ∧ pm'.evals = 12 :=
  ⟨_, rfl, rfl⟩
example : noCounterShadow ([.eval 4 [1, 2, 3, 4], .enter false true, .selfEval [0, 1], .exit, .eval 4 []] : List (Ev Nat)) := by
  intro hb h; simp at h
example : (pmRun (fun s => s + 1) ({} : PM Nat) [.init [3, 1, 2], .eval, .bestUpdate, .select [0, 0], .mutate [some 7], .eval,
    .moveEval 1 9, .replace [0, 2], .archiveUpdate 2, .archiveInto]).map (fun pm => (pm.evals, pm.calls)) =
    some (6, [3, 1, 2, 7, 3, 9]) := by decide +kernel

end MahfModel.Props.C06
