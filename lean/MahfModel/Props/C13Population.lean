/- C13 — whole populations: `recombination()` with its settings and constructors, the rate-gated loop with parameters read
   from the state, `mutation()`. -/
import MahfModel.Props.C13Crossover
import MahfModel.Proofs.C13Pop
import MahfModel.Proofs.C13
import MahfModel.Proofs.ListIndex
import Mathlib.Tactic.Ring
namespace MahfModel.Props.C13
open MahfModel.Variation

variable {α : Type}

/-! ## Population level: `recombination()` as a whole, settings, constructors -/

/-- A `recombination()` run that does not panic is the frame over the results of its `recombine`
calls, one per pair. -/
theorem recombination_is_frame {β W : Type} (rec : β → β → W → Option (OptPair β)) (ps : List β) (ws : List W)
    (out : List β) (h : recombinationRun rec ps ws = some out) (hl : ps.length / 2 ≤ ws.length) :
    ∃ rs, rs.length = ps.length / 2 ∧ pairResults rec ps ws = rs.map some ∧ out = frame ps rs := by
  fun_induction recombinationRun rec ps ws generalizing out
  case case1 => cases h
  case case2 => cases h
  case case3 p1 p2 rest w ws r hr out' hrest ih =>
    have hdiv : (p1 :: p2 :: rest).length / 2 = rest.length / 2 + 1 := Nat.add_div_right _ Nat.zero_lt_two
    obtain ⟨rs, h1, h2, rfl⟩ := ih out' hrest (Nat.le_of_succ_le_succ (hdiv.symm.trans_le hl))
    obtain rfl := Option.some.inj h
    exact ⟨r :: rs, by rw [List.length_cons, h1, hdiv], by simp only [pairResults, hr, h2, List.map_cons],
      (frame_cons_cons ..).symm⟩
  case case4 ps ws hno =>
    obtain rfl := Option.some.inj h
    refine ⟨[], (Nat.div_eq_of_lt (pairs_done hno hl)).symm, ?_, (frame_none_id ps [] fun _ h => nomatch h).symm⟩
    unfold pairResults; split
    · exact (hno _ _ _ _ _ rfl rfl).elim
    · rfl

/-- Offspring count in terms of the SETTINGS: every pair whose draw is not below the crossover
probability contributes its two parents, every crossed pair one child (insert-one) or two
(insert-both); an odd remainder passes through. For all parents, draws and helper witnesses. -/
theorem offspring_count_by_settings {β W F : Type} [LT F] [DecidableLT F] (pc : F) (both : Bool)
    (helper : β → β → W → Option (β × β)) (ps : List β) (ws : List (F × W)) (out : List β)
    (hl : ws.length = ps.length / 2)
    (h : recombinationRun (gateRecombine pc both helper) ps ws = some out) :
    out.length = 2 * ws.countP (fun w => !crossedBy w.1 pc) +
      (if both then 2 else 1) * ws.countP (fun w => crossedBy w.1 pc) + ps.length % 2 := by
  fun_induction recombinationRun (gateRecombine pc both helper) ps ws generalizing out
  case case1 => cases h
  case case2 => cases h
  case case3 p1 p2 rest w ws r hr out' hrest ih =>
    obtain rfl := Option.some.inj h
    have hdiv : (p1 :: p2 :: rest).length / 2 = rest.length / 2 + 1 := Nat.add_div_right _ Nat.zero_lt_two
    have hmod : (p1 :: p2 :: rest).length % 2 = rest.length % 2 := Nat.add_mod_right _ 2
    rw [List.length_append, gateRecombine_emit_length pc both helper p1 p2 w r hr,
      ih out' (Nat.succ.inj (hl.trans hdiv)) hrest, hmod]
    cases hc : crossedBy w.1 pc <;>
      simp only [List.countP_cons, hc, Bool.not_true, Bool.not_false, Bool.false_eq_true, if_true, if_false] <;> ring
  case case4 ps ws hno =>
    obtain rfl := Option.some.inj h
    have hlt := pairs_done hno hl.ge
    obtain rfl := List.eq_nil_of_length_eq_zero (hl.trans (Nat.div_eq_of_lt hlt))
    exact (Nat.zero_add _).symm.trans (congrArg _ (Nat.mod_eq_of_lt hlt).symm)

section Extremes
variable {F : Type} [Field F] [LinearOrder F] [IsStrictOrderedRing F]

/-- Crossover probability 1 crosses every pair (`n/2` resp. `2·(n/2)` children plus the remainder),
probability 0 crosses none (the population keeps its size) — for all draws in `[0, 1)`. -/
theorem offspring_count_extremes {β W : Type} (both : Bool) (helper : β → β → W → Option (β × β))
    (ps : List β) (ws : List (F × W)) (hl : ws.length = ps.length / 2)
    (hu : ∀ w ∈ ws, 0 ≤ w.1 ∧ w.1 < 1) (out : List β) :
    (recombinationRun (gateRecombine (1 : F) both helper) ps ws = some out →
      out.length = (if both then 2 else 1) * (ps.length / 2) + ps.length % 2) ∧
    (recombinationRun (gateRecombine (0 : F) both helper) ps ws = some out → out.length = ps.length) := by
  -- every draw in `[0, 1)` is below 1 and not below 0
  have c1 : ∀ w ∈ ws, crossedBy w.1 (1 : F) = true := fun w hw => decide_eq_true (hu w hw).2
  have c0 : ∀ w ∈ ws, crossedBy w.1 (0 : F) = false := fun w hw => decide_eq_false (not_lt.mpr (hu w hw).1)
  have n1 : ws.countP (fun w => crossedBy w.1 (1 : F)) = ws.length := List.countP_eq_length.mpr c1
  have m1 : ws.countP (fun w => !crossedBy w.1 (1 : F)) = 0 :=
    List.countP_eq_zero.mpr fun w hw => by rw [c1 w hw]; exact Bool.false_ne_true
  have n0 : ws.countP (fun w => crossedBy w.1 (0 : F)) = 0 :=
    List.countP_eq_zero.mpr fun w hw => by rw [c0 w hw]; exact Bool.false_ne_true
  have m0 : ws.countP (fun w => !crossedBy w.1 (0 : F)) = ws.length :=
    List.countP_eq_length.mpr fun w hw => by rw [c0 w hw]; rfl
  constructor <;> intro h
  · rw [offspring_count_by_settings (1 : F) both helper ps ws out hl h, n1, m1, hl, Nat.mul_zero, Nat.zero_add]
  · rw [offspring_count_by_settings (0 : F) both helper ps ws out hl h, n0, m0, hl, Nat.mul_zero, Nat.add_zero, Nat.div_add_mod]

/-- The insert settings as constructors: `new_insert_single` at probability 1 returns one child per
pair, `new_insert_both` keeps the population size — whatever flag value `new` would have been given. -/
theorem insert_constructors_counts {β W : Type} (flag : Bool) (helper : β → β → W → Option (β × β))
    (ps : List β) (ws : List (F × W)) (hl : ws.length = ps.length / 2)
    (hu : ∀ w ∈ ws, 0 ≤ w.1 ∧ w.1 < 1) (out : List β) :
    (recombinationRun (gateRecombine (1 : F) (recCtorBoth .newInsertSingle flag) helper) ps ws = some out →
      out.length = ps.length / 2 + ps.length % 2) ∧
    (recombinationRun (gateRecombine (1 : F) (recCtorBoth .newInsertBoth flag) helper) ps ws = some out →
      out.length = ps.length) := by
  constructor <;> intro h
  · exact ((offspring_count_extremes false helper ps ws hl hu out).1 h).trans (by rw [if_neg Bool.false_ne_true, Nat.one_mul])
  · exact ((offspring_count_extremes true helper ps ws hl hu out).1 h).trans (by rw [if_pos rfl, Nat.div_add_mod])
end Extremes

/-- Generic population statement for a gated crossover whose helper, on parents satisfying `S` and a
legal witness (`T`), never panics and returns children satisfying `Q`: the run never panics, the
count follows the settings, and every member of the new population is a parent or such a child. -/
theorem recombination_population {β W F : Type} [LT F] [DecidableLT F] (pc : F) (both : Bool)
    (helper : β → β → W → Option (β × β)) (S : β → Prop) (T : W → Prop) (Q : β → β → β → Prop)
    (hh : ∀ p1 p2 w, S p1 → S p2 → T w → ∃ c1 c2, helper p1 p2 w = some (c1, c2) ∧ Q p1 p2 c1 ∧ Q p1 p2 c2)
    (ps : List β) (ws : List (F × W)) (hS : ∀ p ∈ ps, S p) (hT : ∀ w ∈ ws, T w.2)
    (hl : ws.length = ps.length / 2) :
    ∃ out, recombinationRun (gateRecombine pc both helper) ps ws = some out ∧
      out.length = 2 * ws.countP (fun w => !crossedBy w.1 pc) +
        (if both then 2 else 1) * ws.countP (fun w => crossedBy w.1 pc) + ps.length % 2 ∧
      ∀ c ∈ out, c ∈ ps ∨ ∃ p1 ∈ ps, ∃ p2 ∈ ps, Q p1 p2 c := by
  suffices h : ∃ out, recombinationRun (gateRecombine pc both helper) ps ws = some out ∧
      ∀ c ∈ out, c ∈ ps ∨ ∃ p1 ∈ ps, ∃ p2 ∈ ps, Q p1 p2 c from
    h.imp fun out h => ⟨h.1, offspring_count_by_settings pc both helper ps ws out hl h.1, h.2⟩
  clear hl
  -- along the pairs, not along the outcomes of `recombine`: the hypotheses leave only one
  fun_induction pairResults (gateRecombine pc both helper) ps ws with
  | case1 p1 p2 rest w ws ih =>
    obtain ⟨c1, c2, e, q1, q2⟩ := hh p1 p2 w.2 (hS p1 (by simp)) (hS p2 (by simp)) (hT w (by simp))
    obtain ⟨r, hr, hm⟩ := gateRecombine_of_helper pc both helper p1 p2 w c1 c2 e
    obtain ⟨out, ho, hmem⟩ := ih (fun p hp => hS p (by simp [hp])) (fun w hw => hT w (by simp [hw]))
    refine ⟨emitPair p1 p2 r ++ out, by rw [recombinationRun, hr, ho], fun c hc => ?_⟩
    rcases List.mem_append.mp hc with hc | hc
    · rcases hm c hc with rfl | rfl | rfl | rfl
      exacts [Or.inl (by simp), Or.inl (by simp), Or.inr ⟨p1, by simp, p2, by simp, q1⟩,
        Or.inr ⟨p1, by simp, p2, by simp, q2⟩]
    · rcases hmem c hc with hm | ⟨a, ha, b, hb, q⟩
      · exact Or.inl (by simp [hm])
      · exact Or.inr ⟨a, by simp [ha], b, by simp [hb], q⟩
  | case2 ps ws hno => exact ⟨ps, by rw [recombinationRun]; exact hno, fun c hc => Or.inl hc⟩

/-- Position-wise child of dimension `d`. -/
def PosWise (d : Nat) (p1 p2 c : List α) : Prop :=
  c.length = d ∧ ∀ k : Nat, k < d → c[k]? = p1[k]? ∨ c[k]? = p2[k]?

theorem _root_.MahfModel.Variation.posWise_pair {d : Nat} {p1 p2 c1 c2 : List α} (hd : p1.length = d)
    (l1 : c1.length = p1.length) (l2 : c2.length = p1.length)
    (hk : ∀ k, k < p1.length → (c1[k]? = p1[k]? ∧ c2[k]? = p2[k]?) ∨ (c1[k]? = p2[k]? ∧ c2[k]? = p1[k]?)) :
    PosWise d p1 p2 c1 ∧ PosWise d p1 p2 c2 :=
  ⟨⟨l1.trans hd, fun k h => (hk k (hd ▸ h)).elim (fun h => Or.inl h.1) fun h => Or.inr h.1⟩,
    l2.trans hd, fun k h => (hk k (hd ▸ h)).elim (fun h => Or.inr h.2) fun h => Or.inl h.2⟩

/-- `UniformCrossover` on a whole population of solutions of dimension `d`, for every probability,
insert setting, draws and masks: never panics, count by settings, every new solution is a parent or
a position-wise child of dimension `d`. -/
theorem uniform_crossover_population {F : Type} [LT F] [DecidableLT F] (pc : F) (both : Bool) (d : Nat)
    (ps : List (List α)) (ws : List (F × List Bool)) (hS : ∀ p ∈ ps, p.length = d)
    (hT : ∀ w ∈ ws, w.2.length = d) (hl : ws.length = ps.length / 2) :
    ∃ out, recombinationRun (gateRecombine pc both uniformCrossover) ps ws = some out ∧
      out.length = 2 * ws.countP (fun w => !crossedBy w.1 pc) +
        (if both then 2 else 1) * ws.countP (fun w => crossedBy w.1 pc) + ps.length % 2 ∧
      ∀ c ∈ out, c ∈ ps ∨ ∃ p1 ∈ ps, ∃ p2 ∈ ps, PosWise d p1 p2 c := by
  refine recombination_population pc both uniformCrossover (fun p => p.length = d) (fun m => m.length = d)
    (PosWise d) ?_ ps ws hS hT hl
  intro p1 p2 m h1 h2 hm
  obtain ⟨c1, c2, e, l1, l2, hk⟩ := uniform_positionwise p1 p2 m (h1.trans h2.symm) (hm.trans h1.symm)
  exact ⟨c1, c2, e, posWise_pair h1 l1 l2 fun k hk' => conserved_of_pick (hk k hk').1 (hk k hk').2⟩

/-- `NPointCrossover` with `1 ≤ n < d` on a whole population (partial: see `npoint_n_out_of_range_violates`). -/
theorem npoint_crossover_population_partial {F : Type} [LT F] [DecidableLT F] (pc : F) (both : Bool) (n d : Nat)
    (h1 : 1 ≤ n) (h2 : n < d) (ps : List (List α)) (ws : List (F × List Nat)) (hS : ∀ p ∈ ps, p.length = d)
    (hT : ∀ w ∈ ws, nPointLegal n d w.2 = true) (hl : ws.length = ps.length / 2) :
    ∃ out, recombinationRun (gateRecombine pc both multiPointCrossover) ps ws = some out ∧
      out.length = 2 * ws.countP (fun w => !crossedBy w.1 pc) +
        (if both then 2 else 1) * ws.countP (fun w => crossedBy w.1 pc) + ps.length % 2 ∧
      ∀ c ∈ out, c ∈ ps ∨ ∃ p1 ∈ ps, ∃ p2 ∈ ps, PosWise d p1 p2 c := by
  refine recombination_population pc both multiPointCrossover (fun p => p.length = d)
    (fun cuts => nPointLegal n d cuts = true) (PosWise d) ?_ ps ws hS hT hl
  intro p1 p2 cuts e1 e2 hc
  obtain ⟨hne, hlt, hr⟩ := nPointLegal_cuts h1 h2 hc
  obtain ⟨c1, c2, e, l1, l2, hk⟩ := multi_point_positionwise p1 p2 cuts (e1.trans e2.symm) hne (e1 ▸ hlt) (e1 ▸ hr)
  exact ⟨c1, c2, e, posWise_pair e1 l1 l2 fun k _ => conserved_of_pick (hk k).1 (hk k).2⟩

/-- `CycleCrossover` on a population of permutations of one base list: never panics, count by
settings, every new solution is a parent or a position-wise child that is again a permutation. -/
theorem cycle_crossover_population [DecidableEq α] {F : Type} [LT F] [DecidableLT F] (pc : F) (both : Bool)
    (base : List α) (hb : base.Nodup) (ps : List (List α)) (ws : List (F × Unit))
    (hS : ∀ p ∈ ps, p.Perm base) (hl : ws.length = ps.length / 2) :
    ∃ out, recombinationRun (gateRecombine pc both (fun p1 p2 _ => cycleCrossover p1 p2)) ps ws = some out ∧
      out.length = 2 * ws.countP (fun w => !crossedBy w.1 pc) +
        (if both then 2 else 1) * ws.countP (fun w => crossedBy w.1 pc) + ps.length % 2 ∧
      ∀ c ∈ out, c ∈ ps ∨ ∃ p1 ∈ ps, ∃ p2 ∈ ps, c.Perm base ∧ PosWise base.length p1 p2 c := by
  refine recombination_population pc both (fun p1 p2 (_ : Unit) => cycleCrossover p1 p2) (fun p => p.Perm base)
    (fun _ => True) (fun p1 p2 c => c.Perm base ∧ PosWise base.length p1 p2 c) ?_ ps ws hS (fun _ _ => trivial) hl
  intro p1 p2 _ e1 e2 _
  obtain ⟨c1, c2, e, l1, l2, hk, q1, q2⟩ := cycleCrossover_spec p1 p2 (e1.nodup_iff.mpr hb) (e1.trans e2.symm)
  have hpw := posWise_pair e1.length_eq l1 l2 hk
  exact ⟨c1, c2, e, ⟨q1.trans e1, hpw.1⟩, q2.trans e1, hpw.2⟩

section ArithPop
variable {F : Type} [Field F] [LinearOrder F] [IsStrictOrderedRing F]

/-- Convex child of dimension `d`: every coordinate lies between the parental coordinates. -/
def Convex (d : Nat) (p1 p2 c : List F) : Prop :=
  c.length = d ∧ ∀ (k : Nat) (a b : F), p1[k]? = some a → p2[k]? = some b →
    ∃ x, c[k]? = some x ∧ min a b ≤ x ∧ x ≤ max a b

/-- `ArithmeticCrossover` on a whole population, alphas from `Uniform::from(0.0..=1.0)` (legal: in `[0,1]`). -/
theorem arithmetic_crossover_population (pc : F) (both : Bool) (d : Nat)
    (ps : List (List F)) (ws : List (F × List F)) (hS : ∀ p ∈ ps, p.length = d)
    (hT : ∀ w ∈ ws, w.2.length = d ∧ ∀ t ∈ w.2, 0 ≤ t ∧ t ≤ 1) (hl : ws.length = ps.length / 2) :
    ∃ out, recombinationRun (gateRecombine pc both arithmeticCrossover) ps ws = some out ∧
      out.length = 2 * ws.countP (fun w => !crossedBy w.1 pc) +
        (if both then 2 else 1) * ws.countP (fun w => crossedBy w.1 pc) + ps.length % 2 ∧
      ∀ c ∈ out, c ∈ ps ∨ ∃ p1 ∈ ps, ∃ p2 ∈ ps, Convex d p1 p2 c := by
  refine recombination_population pc both arithmeticCrossover (fun p => p.length = d)
    (fun al => al.length = d ∧ ∀ t ∈ al, 0 ≤ t ∧ t ≤ 1) (Convex d) ?_ ps ws hS hT hl
  intro p1 p2 al e1 e2 hal
  obtain ⟨c1, c2, e, l1, l2, hk⟩ := arithmetic_convex p1 p2 al (e1.trans e2.symm) (hal.1.trans e1.symm) hal.2
  refine ⟨c1, c2, e, ⟨l1.trans e1, fun k a b ha hb => ?_⟩, ⟨l2.trans e1, fun k a b ha hb => ?_⟩⟩
  all_goals
    obtain ⟨hk1, rfl⟩ := List.getElem?_eq_some_iff.mp ha
    obtain ⟨hk2, rfl⟩ := List.getElem?_eq_some_iff.mp hb
    obtain ⟨x, y, ex, ey, b1, b2, b3, b4, _⟩ := hk k hk1
  · exact ⟨x, ex, b1, b2⟩
  · exact ⟨y, ey, b3, b4⟩
end ArithPop

/-! ## Rate-gated mutations on a whole population; parameters read from the state -/

/-- The rate-gated loop keeps the number of individuals and every individual's dimension, for all
masks and replacement values. -/
theorem mutation_population_shape (masks : List (List Bool)) (vals pop : List (List α)) :
    (gatedPop masks vals pop).length = pop.length ∧
    (gatedPop masks vals pop).map List.length = pop.map List.length :=
  ⟨gatedPop_length masks vals pop, gatedPop_dims masks vals pop⟩

section Adapted
variable {F : Type} [Field F] [LinearOrder F] [IsStrictOrderedRing F]

/-- The rate in the STATE governs: once it has been set to 0, every legal execution leaves the whole
population unchanged and succeeds — whatever rate the constructor was given (even 1, even an
invalid one), for `NormalMutation` (any accepted strength, adapted or not), `UniformMutation` and
the rate-only components. -/
theorem adapted_rate_zero_identity (ctorStrength ctorRate : Param F) (newStrength : Option (Param F))
    (masks : List (List Bool)) (vals pop : List (List α))
    (hm : masksLegal (Param.fin (0 : F)) masks pop = true) :
    (normalStrengthGuard (newStrength.getD ctorStrength) = true →
      normalRun ctorStrength ctorRate newStrength (some (.fin 0)) masks vals pop = .ok pop) ∧
    (uniformBoundGuard (newStrength.getD ctorStrength) = .ok () →
      uniformRun ctorStrength ctorRate newStrength (some (.fin 0)) masks vals pop = .ok pop) ∧
    rateRun ctorRate (some (.fin 0)) masks vals pop = .ok pop := by
  have hid := gatedPop_rate_zero (Param.fin (0 : F)) (by simp [rateIsZero]) masks vals pop hm
  have hg : rateGuard (Param.fin (0 : F)) = true := by simp [rateGuard]
  refine ⟨?_, ?_, ?_⟩
  · intro hs; simp [normalRun, mutAdapt, mutInit, normalExec, hs, hg, hid]
  · intro hs; simp [uniformRun, mutAdapt, mutInit, uniformExec, hs, hg, hid]
  · simp [rateRun, mutAdapt, mutInit, rateExec, hg, hid]

/-- Conversely an adapted rate outside `[0, 1]` (or NaN) makes `execute` return `Err` although the
constructor's rate was fine, and the constructor's rate is irrelevant once the state was overwritten. -/
theorem adapted_rate_governs (ctorRate ctorRate' r : Param F) (masks : List (List Bool)) (vals pop : List (List α)) :
    (rateGuard r = false → rateRun ctorRate (some r) masks vals pop = .err) ∧
    rateRun ctorRate (some r) masks vals pop = rateRun ctorRate' (some r) masks vals pop ∧
    rateRun ctorRate none masks vals pop = rateExec ctorRate (gatedPop masks vals pop) := by
  refine ⟨?_, rfl, rfl⟩
  intro h; simp [rateRun, mutAdapt, mutInit, rateExec, h]

/-- The "full" constructors (`new_dev`, `new_bound`, `new_full`, `new_uniform_full`) store rate 1:
every legal mask fires everywhere, so each coordinate receives its replacement value. -/
theorem full_constructors_replace_everything (half p rate : F) (c : MutCtor)
    (hc : c = .newDev ∨ c = .newBound ∨ c = .newFull ∨ c = .newUniformFull)
    (mask : List Bool) (vals sol : List α) (hv : vals.length = sol.length)
    (hm : maskLegal (rateIsZero (Param.fin (mutCtorParams half c p rate).2))
      (rateIsOne (Param.fin (mutCtorParams half c p rate).2)) mask sol.length = true) :
    gated mask vals sol = vals := by
  have h1 : (mutCtorParams half c p rate).2 = 1 := by rcases hc with rfl | rfl | rfl | rfl <;> rfl
  rw [h1] at hm
  have hone : rateIsOne (Param.fin (1 : F)) = true := by simp [rateIsOne]
  simp only [maskLegal, hone, Bool.not_true, Bool.false_or, Bool.and_eq_true, beq_iff_eq] at hm
  exact gated_all_true mask vals sol hm.2 (hm.1.1.trans hv.symm) hv
end Adapted

/-! ## `mutation()`, the default `execute` of `Mutation` implementors -/

/-- When every `mutate` call succeeds, the population is put back with the same number of
individuals, each being the result of `mutate` on the individual at its index; the rest of the
stack is untouched. -/
theorem mutation_default_ok {β : Type} (mutate : β → Option β) (top : List β) (rest : List (List β))
    (h : ∀ x ∈ top, (mutate x).isSome) :
    ∃ top', mutationRun mutate (top :: rest) = some (true, top' :: rest) ∧ top'.length = top.length ∧
      ∀ i (hi : i < top.length), some <$> top'[i]? = some (mutate top[i]) := by
  obtain ⟨ys, e⟩ := mapM_returns mutate top fun x hx => Option.isSome_iff_exists.mp (h x hx)
  have hm := mapM_map_some mutate top ys e
  rw [← mutateAll_eq_mapM] at e
  refine ⟨ys, by rw [mutationRun, e], mutateAll_length mutate top ys e, fun i hi => ?_⟩
  rw [Option.map_eq_map, ← List.getElem?_map, hm, List.getElem?_map, List.getElem?_eq_getElem hi]
  rfl

/-- Observation (outside the wording of C13, the `Err` is the implementor's): on the first failing
`mutate` the function returns before its `push` — the population is dropped from the stack. -/
theorem mutation_default_err_drops_population {β : Type} (mutate : β → Option β) (top : List β)
    (rest : List (List β)) (h : ∃ x ∈ top, mutate x = none) :
    mutationRun mutate (top :: rest) = some (false, rest) := by
  obtain ⟨x, hx, hn⟩ := h
  cases e : mutateAll mutate top with
  | none => rw [mutationRun, e]
  | some ys =>
    -- a `mapM` that returns has met no `none`
    obtain ⟨y, -, hy⟩ := exists_mapM_of_mem mutate top ys (mutateAll_eq_mapM mutate top ▸ e) x hx
    cases hy.symm.trans hn

/-! The hypotheses are satisfiable and the runs are not trivial. -/
example : recombinationRun (gateRecombine (1 : Int) false uniformCrossover) [[1, 2], [3, 4], [5, 6]]
    [((0 : Int), [true, false])] = some [[3, 2], [5, 6]] := by decide +kernel
example : recombinationRun (gateRecombine (1 : Int) (recCtorBoth .newInsertBoth false) uniformCrossover)
    [[1, 2], [3, 4], [5, 6]] [((0 : Int), [true, false])] = some [[3, 2], [1, 4], [5, 6]] := by decide +kernel
example : recombinationRun (gateRecombine (0 : Int) true uniformCrossover) [[1, 2], [3, 4], [5, 6]]
    [((0 : Int), [true, false])] = some [[1, 2], [3, 4], [5, 6]] := by decide +kernel
example : recombinationRun (gateRecombine (1 : Int) true multiPointCrossover) [[1, 2], [3, 4]] [((0 : Int), [])] = none := by
  decide +kernel
example : recombinationRun (gateRecombine (1 : Int) true (fun p1 p2 (_ : Unit) => cycleCrossover p1 p2))
    [[0, 1, 2], [1, 0, 2], [2, 1, 0]] [((0 : Int), ())] = some [[0, 1, 2], [1, 0, 2], [2, 1, 0]] := by decide +kernel
example : nPointLegal 1 3 [2] = true ∧ ([0, 1, 2] : List Nat).Nodup ∧ ([1, 0, 2] : List Nat).Perm [0, 1, 2] := by decide +kernel
example : masksLegal (Param.fin (0 : Int)) [[false, false], [false]] [[7, 8], [9]] = true := by decide +kernel
example : masksLegal (Param.fin (1 : Int)) [[true, true], [true]] [[7, 8], [9]] = true := by decide +kernel
example : normalRun (Param.fin (3 : Int)) (Param.fin 1) none (some (.fin 0)) [[false, false]] [[50, 60]] [[7, 8]] =
    .ok [[7, 8]] := by decide +kernel
example : normalRun (Param.fin (3 : Int)) (Param.fin 0) none (some (.fin 1)) [[true, true]] [[50, 60]] [[7, 8]] =
    .ok [[50, 60]] := by decide +kernel
example : rateRun (Param.fin (1 : Int)) (some (.fin 2)) [[true]] [[5]] [[7]] = .err := by decide +kernel
example : rateRun (Param.fin (2 : Int)) (some (.fin 1)) [[true]] [[5]] [[7]] = .ok [[5]] := by decide +kernel
example : mutCtorParams (5 : Int) .newFull 7 0 = (7, 1) ∧ mutCtorParams (5 : Int) .newUniformFull 7 0 = (5, 1) ∧
    mutCtorParams (5 : Int) .newUniform 7 0 = (5, 0) ∧ mutCtorParams (5 : Int) .new 7 0 = (7, 0) := by decide +kernel
example : mutationRun (fun s : List Nat => if s.contains 8 then none else some s.reverse) [[[4, 5], [6, 7]], [[1, 2]]] =
    some (true, [[[5, 4], [7, 6]], [[1, 2]]]) := by decide +kernel
example : mutationRun (fun s : List Nat => if s.contains 8 then none else some s.reverse) [[[4, 5], [7, 8]], [[1, 2]]] =
    some (false, [[[1, 2]]]) := by decide +kernel

end MahfModel.Props.C13
