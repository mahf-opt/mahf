/-
C19 — Ant-colony generation yields valid tours; pheromone updates are well-formed.
Property theorems only; the lemmas they rest on are in `Proofs/C19Gen.lean` (generation) and `Proofs/C19Update.lean`.
-/
import MahfModel.Proofs.C19Update
import MahfModel.Proofs.C19Gen
import Mathlib.Algebra.Order.Ring.Rat
set_option linter.unusedSectionVars false
namespace MahfModel.Props.C19
open MahfModel.Aco

/-- Integer instance used for concrete (counter)examples. -/
def intNum : Num Int :=
  { pow := fun x _ => x, fin := fun _ => true, tle := fun a b => decide (a ≤ b), eps := 0,
    close := fun a b => a == b }

/-- Rational instance used to show that the hypotheses of the ordered-field theorems are satisfiable. -/
def ratNum : Num ℚ :=
  { pow := fun x _ => x, fin := fun _ => true, tle := dle, eps := 1, close := fun a b => decide (a = b) }

section generation
variable {F : Type} [Add F] [Sub F] [Mul F] [Div F] [LT F] [LE F] [DecidableLT F] [DecidableLE F]
  [OfNat F 0] [OfNat F 1]

/-- `AcoGeneration` yields one greedy route plus exactly `num_ants` sampled routes — for every pheromone
matrix, distance function, exponent pair, numeric back-end and witness. -/
theorem generation_count (N : Num F) (pm : PM F) (dist : Nat → Nat → F) (α β : F) (n numAnts : Nat)
    (wits : List (List Nat)) (ts : List (List Nat))
    (h : generate N pm dist α β n numAnts wits = .tours ts) : ts.length = 1 + numAnts := by
  obtain ⟨gw, e⟩ := generate_refines (fun _ _ => true) (isArgmax_top_of_argmaxLast N.tle) pm dist α β n numAnts wits
  exact (generateW_spec (e.trans h)).1

/-- Every generated route — the greedy one and every sampled one — is a permutation of all cities
`0..n` and starts at city 0.  No hypothesis on the pheromone matrix, the distances or the numeric
back-end: each step removes the chosen index from `remaining`, whatever the weights were. -/
theorem tour_is_perm_from_zero (N : Num F) (pm : PM F) (dist : Nat → Nat → F) (α β : F) (n numAnts : Nat)
    (wits : List (List Nat)) (ts : List (List Nat)) (hn : 1 ≤ n)
    (h : generate N pm dist α β n numAnts wits = .tours ts) :
    ∀ t ∈ ts, t.Perm (List.range n) ∧ t.head? = some 0 := by
  obtain ⟨gw, e⟩ := generate_refines (fun _ _ => true) (isArgmax_top_of_argmaxLast N.tle) pm dist α β n numAnts wits
  exact (generateW_spec (e.trans h)).2 hn

/-- The hypotheses are satisfiable: four cities, two ants, all trails equal (ties go to the last city). -/
example : generate intNum (PM.new 4 1) (fun _ _ => 1) 1 1 4 2 [[1, 0, 0], [2, 1, 0]] =
    .tours [[0, 3, 2, 1], [0, 2, 1, 3], [0, 3, 2, 1]] := by decide +kernel

/-- Meaning of the executable predicate the check evaluates on the implementation's output. -/
theorem holdsGen_sound (pm : PM F) (n numAnts : Nat) (ts : List (List Nat))
    (h : holdsGen pm n numAnts ts = true) :
    ts.length = 1 + numAnts ∧ ∀ t ∈ ts, t.Perm (List.range n) ∧ t.head? = some 0 := by
  simp only [holdsGen, Bool.and_eq_true, beq_iff_eq, List.all_eq_true] at h
  exact ⟨h.1.1, fun t ht => (isPermFromZero_iff n t).mp (h.1.2 t ht)⟩

end generation

section greedy
variable {F : Type} [LinearOrder F]

/-- `max_by(total_cmp)` on a linearly ordered carrier returns the index of a maximal element, and the LAST
one among several maximal elements (every later element is strictly smaller). -/
theorem argmax_is_last_max (l : List F) (k : Nat) (h : argmaxLast dle l = some k) :
    ∃ w, l[k]? = some w ∧ (∀ x ∈ l, x ≤ w) ∧ ∀ j v, k < j → l[j]? = some v → v < w :=
  argmaxLast_spec h

example : argmaxLast dle [(1 : Int), 3, 2, 3, 0] = some 3 := by decide +kernel

variable [OfNat F 0]

/-- Whatever legal tie-breaking the greedy route follows, it is greedy: at every step it moves to a
remaining city whose trail from the current city is maximal among all remaining cities. -/
theorem greedy_any_legal_witness_is_argmax (pm : PM F) (n : Nat) (gw g : List Nat)
    (h : greedyTourW dle pm n gw = .ok g) : greedyOk pm n g = true := by
  obtain ⟨s, rfl, hok⟩ := greedyOkGo_of_greedyGoW (remaining0_nodup n) h
  exact hok

/-- The code's greedy route (`max_by(total_cmp)`, the last maximal trail) is the route of a legal witness:
the tie-agnostic model contains the code-shaped one. -/
theorem argmax_last_is_legal_witness (N : Num F) (hN : N.tle = dle) (pm : PM F) (n : Nat) (g : List Nat)
    (h : greedyTour N pm n = some g) : ∃ gw, greedyTourW dle pm n gw = .ok g :=
  (greedyGo_refines dle (isArgmax_of_argmaxLast hN) (Nat.le_refl _)).imp fun _ e =>
    e.trans (congrArg (Option.elim · TourOut.panic TourOut.ok) h)

/-- The first generated route is greedy: at every step it moves to a remaining city whose pheromone on
the edge from the current city is maximal among all remaining cities. -/
theorem greedy_is_argmax (N : Num F) (hN : N.tle = dle) (pm : PM F) (n : Nat) (g : List Nat)
    (h : greedyTour N pm n = some g) : greedyOk pm n g = true := by
  obtain ⟨gw, hgw⟩ := argmax_last_is_legal_witness N hN pm n g h
  exact greedy_any_legal_witness_is_argmax pm n gw g hgw

section
variable [Add F] [Sub F] [Mul F] [Div F] [OfNat F 1]

/-- Every generation of the code-shaped model is a generation of the tie-agnostic one. -/
theorem generate_refines_generateW (N : Num F) (hN : N.tle = dle) (pm : PM F) (dist : Nat → Nat → F) (α β : F)
    (n numAnts : Nat) (wits ts : List (List Nat)) (h : generate N pm dist α β n numAnts wits = .tours ts) :
    ∃ gw, generateW N dle pm dist α β n numAnts gw wits = .tours ts :=
  (generate_refines dle (isArgmax_of_argmaxLast hN) pm dist α β n numAnts wits).imp fun _ e => e.trans h

/-- `∀ input, ∀ legal witnesses, holds input (model input)` for generation with the tie-breaking left open:
all property clauses (count, permutations from city 0, first route greedy) hold of every outcome. -/
theorem holds_generation_any_witness (N : Num F) (pm : PM F) (dist : Nat → Nat → F) (α β : F)
    (n numAnts : Nat) (gw : List Nat) (wits ts : List (List Nat)) (hn : 1 ≤ n)
    (h : generateW N dle pm dist α β n numAnts gw wits = .tours ts) : holdsGen pm n numAnts ts = true := by
  obtain ⟨hc, hp⟩ := generateW_spec h
  obtain ⟨g, ss, rfl, hg, _⟩ := generateW_tours h
  simp only [holdsGen, Bool.and_eq_true, beq_iff_eq, List.all_eq_true]
  exact ⟨⟨hc, fun t ht => (isPermFromZero_iff n t).mpr (hp hn t ht)⟩,
    greedy_any_legal_witness_is_argmax pm n gw g hg⟩

/-- `∀ input, holds input (model input)` for generation: whenever the model of `AcoGeneration` returns
(no panic, legal witness) on at least one city, all property clauses hold of its output. -/
theorem holds_generation (N : Num F) (hN : N.tle = dle) (pm : PM F) (dist : Nat → Nat → F) (α β : F)
    (n numAnts : Nat) (wits : List (List Nat)) (ts : List (List Nat)) (hn : 1 ≤ n)
    (h : generate N pm dist α β n numAnts wits = .tours ts) : holdsGen pm n numAnts ts = true := by
  obtain ⟨gw, hw⟩ := generate_refines_generateW N hN pm dist α β n numAnts wits ts h
  exact holds_generation_any_witness N pm dist α β n numAnts gw wits ts hn hw

example : intNum.tle = dle ∧ holdsGen (PM.new 4 (1 : Int)) 4 2 [[0, 3, 2, 1], [0, 2, 1, 3], [0, 3, 2, 1]] = true :=
  ⟨rfl, by decide +kernel⟩

end
end greedy

section updates
variable {F : Type} [Add F] [Sub F] [Mul F] [Div F] [LT F] [LE F] [DecidableLT F] [DecidableLE F]
  [OfNat F 0] [OfNat F 1]

/-- Ant-system update, entry by entry, for every numeric back-end: on a well-formed matrix, with routes
inside the matrix and evaluated individuals, it does not panic, keeps the shape, and entry `(i, j)` is
the old entry times `1 - ρ` to which every individual but the first has added `c / objective` once for
each of its consecutive-city edges `(i, j)` or `(j, i)` — in exactly the order the code adds them. -/
theorem as_update_spec (pm : PM F) (ρ c : F) (pop : List (Ind F)) (hwf : pm.wf = true)
    (hr : routesValid pm.dim (pop.drop 1) = true) (ho : ∀ ind ∈ pop.drop 1, ind.obj.isSome = true) :
    ∃ pm', asUpdate pm ρ c pop = some pm' ∧ pm'.dim = pm.dim ∧ pm'.wf = true ∧
      ∀ i j, i < pm.dim → j < pm.dim → pm'.get? i j = some (asSpec pm ρ c pop i j) :=
  ⟨_, asUpdate_eq_mapE ρ c hwf ((routesValid_iff _ _).mp hr) ho, mapE_spec hwf _ 0⟩

example : ∃ pm', asUpdate (PM.new 3 (2 : Int)) 0 6 [⟨[0, 1, 2], some 1⟩, ⟨[0, 2, 1], some 3⟩] = some pm' ∧
    pm'.get? 2 1 = some 4 ∧ pm'.get? 0 1 = some 2 := by decide +kernel

end updates

section field
variable {F : Type} [Field F] [LinearOrder F] [IsStrictOrderedRing F]

/-- Closed form of the ant-system entry in exact arithmetic: `(1 - ρ)·τ_ij` plus, for every individual but
the first, `c / length` times the number of its consecutive-city edges joining `i` and `j` (in either
direction; the closing edge is not among them). Entries without such an edge are only evaporated. -/
theorem as_update_closed_form (pm : PM F) (ρ c : F) (pop : List (Ind F)) (i j : Nat)
    (ho : ∀ ind ∈ pop.drop 1, ind.obj.isSome = true) :
    asSpec pm ρ c pop i j =
      (1 - ρ) * pm.getD i j 0 +
        ((pop.drop 1).map (fun ind => (hits ind.route i j : F) * (c / ind.obj.getD 1))).sum := by
  rw [asSpec, asSpecGo_closed c i j _ _ ho]
  ring

example : hits [0, 2, 1, 3] 1 2 = 1 ∧ hits [0, 2, 1, 3] 3 0 = 0 ∧ hits [0, 2, 1, 3] 0 2 = 1 := by decide +kernel

/-- A symmetric matrix stays symmetric under the ant-system update. -/
theorem as_update_symmetric (pm : PM F) (ρ c : F) (pop : List (Ind F)) (i j : Nat)
    (ho : ∀ ind ∈ pop.drop 1, ind.obj.isSome = true) (hsym : pm.getD i j 0 = pm.getD j i 0) :
    asSpec pm ρ c pop i j = asSpec pm ρ c pop j i := by
  rw [asSpec, asSpec, hsym]
  exact asSpecGo_symm c i j _ _ ho

/-- Trails stay non-negative: evaporation rate in `[0, 1]`, non-negative decay coefficient, positive tour
lengths and a non-negative old entry give a non-negative new entry. -/
theorem pheromone_nonneg (pm : PM F) (ρ c : F) (pop : List (Ind F)) (i j : Nat)
    (hρ : 0 ≤ ρ ∧ ρ ≤ 1) (hc : 0 ≤ c) (ho : ∀ ind ∈ pop.drop 1, ∃ o, ind.obj = some o ∧ 0 < o)
    (hx : 0 ≤ pm.getD i j 0) : 0 ≤ asSpec pm ρ c pop i j :=
  asSpecGo_nonneg hc i j (mul_nonneg hx (sub_nonneg.mpr hρ.2)) ho

example : (0 : ℚ) ≤ asSpec (PM.new 3 (1 / 2 : ℚ)) 1 3 [⟨[0, 1, 2], some 4⟩, ⟨[0, 2, 1], some 5⟩] 1 2 :=
  pheromone_nonneg _ _ _ _ _ _ (by decide +kernel) (by decide +kernel)
    (fun ind h => by cases List.mem_singleton.mp h; exact ⟨5, rfl, by decide +kernel⟩) (by decide +kernel)

/-- Max-min update, for every number of sampled individuals (including none): it does not panic, keeps the
shape, and every entry is `mmasSpec`: `clamp(min, max, (1 - ρ)·τ_ij + deposits)`, where the deposits are those
of an individual of least objective value among the individuals but the first, at `1 / length` — and there are
no deposits at all when the population holds the greedy route only (`num_ants = 0`: evaporate and clamp). -/
theorem mmas_update_spec (pm : PM F) (ρ hi lo : F) (pop : List (Ind F)) (hwf : pm.wf = true)
    (ho : ∀ ind ∈ pop.drop 1, ind.obj.isSome = true)
    (hr : routesValid pm.dim (pop.drop 1) = true) (hb : lo ≤ hi) :
    ∃ pm', mmasUpdate pm ρ hi lo pop = some pm' ∧ pm'.dim = pm.dim ∧ pm'.wf = true ∧
      (∀ i j, i < pm.dim → j < pm.dim → pm'.get? i j = some (mmasSpec pm ρ hi lo pop i j)) ∧
      ((pop.drop 1 = [] ∧ ∀ i j, mmasSpec pm ρ hi lo pop i j = clamp lo hi (pm.getD i j 0 * (1 - ρ))) ∨
       (∃ best o, firstMin (pop.drop 1) = some (best, o) ∧ best ∈ pop.drop 1 ∧ best.obj = some o ∧
          (∀ x ∈ pop.drop 1, ∀ v, x.obj = some v → o ≤ v) ∧
          ∀ i j, mmasSpec pm ρ hi lo pop i j =
            clamp lo hi (depositEdges (1 / o) i j (edges best.route) (pm.getD i j 0 * (1 - ρ))))) := by
  simp only [mmasUpdate_eq_with pm ρ hi lo pop (firstMin_isSome ho), mmasSpec_eq_with]
  obtain ⟨pm', h1, hd, hw, hg⟩ :=
    mmasUpdateWith_spec ρ hi lo hwf _ (fun ind _ hm => (routesValid_iff _ _).mp hr ind (firstMin_some ho hm).1) hb
  refine ⟨pm', h1, hd, hw, hg, ?_⟩
  rcases firstMin_isSome ho with hne | hs
  · exact Or.inl ⟨hne, fun i j => by rw [hne]; rfl⟩
  · obtain ⟨⟨best, o⟩, hmin⟩ := Option.isSome_iff_exists.mp hs
    have hfm := firstMin_some ho hmin
    exact Or.inr ⟨best, o, hmin, hfm.1, hfm.2.1, hfm.2.2, fun i j => by rw [hmin]; rfl⟩

/-- No sampled ant: the max-min update evaporates and clamps (here 100 · 1/2 = 50, clamped to 5). -/
example : ∃ pm', mmasUpdate (PM.new 3 (100 : ℚ)) (1 / 2) 5 1 [⟨[0, 1, 2], some 4⟩] = some pm' ∧
    pm'.get? 0 1 = some 5 ∧ pm'.get? 2 2 = some 5 := by
  refine ⟨_, rfl, ?_, ?_⟩ <;> decide +kernel

/-- After the max-min update EVERY trail lies within `[min, max]` — whatever the old matrix was, whichever
route was rewarded (this is what the `fix:` commit established: the whole matrix is clamped). -/
theorem mmas_within_bounds (pm : PM F) (ρ hi lo : F) (pop : List (Ind F)) (pm' : PM F) (hb : lo ≤ hi)
    (h : mmasUpdate pm ρ hi lo pop = some pm') :
    (∀ x ∈ pm'.inner, lo ≤ x ∧ x ≤ hi) ∧ ∀ i j x, pm'.get? i j = some x → lo ≤ x ∧ x ≤ hi := by
  have hall := mmasUpdateWith_within hb (mmasUpdate_eq_with pm ρ hi lo pop (mmasUpdate_some h) ▸ h)
  exact ⟨hall, fun i j x hx => hall x (get?_mem hx)⟩

example : ∃ pm', mmasUpdate (PM.new 3 (100 : ℚ)) (1 / 2) 5 1 [⟨[0, 1, 2], some 4⟩, ⟨[0, 2, 1], some 5⟩] = some pm' ∧
    pm'.get? 0 1 = some 5 := by
  refine ⟨_, rfl, ?_⟩
  decide +kernel

/-- Max-min trails are non-negative as soon as the lower bound is. -/
theorem mmas_nonneg (pm : PM F) (ρ hi lo : F) (pop : List (Ind F)) (pm' : PM F) (hb : lo ≤ hi) (hlo : 0 ≤ lo)
    (h : mmasUpdate pm ρ hi lo pop = some pm') : ∀ x ∈ pm'.inner, 0 ≤ x :=
  fun x hx => le_trans hlo ((mmas_within_bounds pm ρ hi lo pop pm' hb h).1 x hx).1

/-- `∀ input, holds input (model input)` for the ant-system update: on every valid input (well-formed
non-negative matrix, routes inside it, positive objective values, `ρ ∈ [0, 1]`, `c ≥ 0`) the model does not
panic and all property clauses — entry formula, finiteness, non-negativity, symmetry preservation — hold. -/
theorem holds_as_update (N : Num F) (hfin : ∀ x, N.fin x = true) (hclose : ∀ a b, N.close a b = decide (a = b))
    (pm : PM F) (ρ c : F) (pop : List (Ind F)) (hwf : pm.wf = true)
    (hr : routesValid pm.dim (pop.drop 1) = true) (hρ : 0 ≤ ρ ∧ ρ ≤ 1) (hc : 0 ≤ c)
    (ho : ∀ ind ∈ pop.drop 1, ∃ o, ind.obj = some o ∧ 0 < o) (hnn : ∀ x ∈ pm.inner, 0 ≤ x) :
    ∃ pm', asUpdate pm ρ c pop = some pm' ∧ holdsAs N pm ρ c pop pm' = true := by
  have ho' := obj_isSome_of_exists ho
  obtain ⟨pm', h1, hd, hw, hg⟩ := as_update_spec pm ρ c pop hwf hr ho'
  refine ⟨pm', h1, Bool.and_eq_true_iff.mpr (holds_entries hfin hclose hd hw hg
    (fun i j hi hj => ?_) (fun i j hs => as_update_symmetric pm ρ c pop i j ho' hs))⟩
  exact pheromone_nonneg pm ρ c pop i j hρ hc ho (hnn _ (getD_mem hwf hi hj 0))

/-- Which of several equally short sampled tours is rewarded is not fixed by the property. Whichever tour
`best` is rewarded (or none, when no ant was sampled), the max-min update does not panic and its result
satisfies every clause of the update property for that choice. -/
theorem holds_mmas_update_with (N : Num F) (hfin : ∀ x, N.fin x = true)
    (hclose : ∀ a b, N.close a b = decide (a = b))
    (pm : PM F) (ρ hi lo : F) (best : Option (Ind F × F)) (hwf : pm.wf = true)
    (hr : ∀ ind o, best = some (ind, o) → ∀ c ∈ ind.route, c < pm.dim)
    (hlo : 0 ≤ lo) (hb : lo ≤ hi) :
    ∃ pm', mmasUpdateWith pm ρ hi lo best = some pm' ∧ holdsMmasWith N pm ρ hi lo best pm' = true := by
  obtain ⟨pm', h1, hd, hw, hg⟩ := mmasUpdateWith_spec ρ hi lo hwf best hr hb
  have hin := mmasUpdateWith_within hb h1
  obtain ⟨hentries, hsym⟩ := holds_entries hfin hclose hd hw hg
    (fun i j hi hj => hlo.trans (hin _ (get?_mem (hg i j hi hj))).1) (mmasSpecWith_symm pm ρ hi lo best)
  exact ⟨pm', h1, Bool.and_eq_true_iff.mpr ⟨Bool.and_eq_true_iff.mpr
    ⟨hentries, withinBounds_of_mem hb hin⟩, hsym⟩⟩

example : ∃ pm', mmasUpdateWith (PM.new 3 (1 / 2 : ℚ)) (1 / 10) 5 1 (some (⟨[0, 2, 1], some 4⟩, 4)) = some pm' ∧
    holdsMmasWith ratNum (PM.new 3 (1 / 2 : ℚ)) (1 / 10) 5 1 (some (⟨[0, 2, 1], some 4⟩, 4)) pm' = true :=
  holds_mmas_update_with ratNum (fun _ => rfl) (fun _ _ => rfl) _ _ _ _ _ rfl
    (by intro ind o h; cases h; decide) (by decide +kernel) (by decide +kernel)

/-- The same for the code-shaped max-min update (first minimal tour rewarded), with the bound clause. -/
theorem holds_mmas_update (N : Num F) (hfin : ∀ x, N.fin x = true)
    (hclose : ∀ a b, N.close a b = decide (a = b))
    (pm : PM F) (ρ hi lo : F) (pop : List (Ind F)) (hwf : pm.wf = true)
    (hr : routesValid pm.dim (pop.drop 1) = true) (ho : ∀ ind ∈ pop.drop 1, ind.obj.isSome = true)
    (hlo : 0 ≤ lo) (hb : lo ≤ hi) :
    ∃ pm', mmasUpdate pm ρ hi lo pop = some pm' ∧ holdsMmas N pm ρ hi lo pop pm' = true := by
  simp only [mmasUpdate_eq_with pm ρ hi lo pop (firstMin_isSome ho), holdsMmas_eq_with]
  exact holds_mmas_update_with N hfin hclose pm ρ hi lo _ hwf
    (fun ind _ hm => (routesValid_iff _ _).mp hr ind (firstMin_some ho hm).1) hlo hb

/-- The tour `min_by_key` picks (the first minimal one) is one of the tied best sampled tours. -/
theorem first_min_is_a_best (l : List (Ind F)) (b : Ind F) (o : F) (h : firstMin l = some (b, o))
    (ho : ∀ x ∈ l, x.obj.isSome = true) : b ∈ l ∧ b.obj = some o ∧ isMinOf l b = true := by
  obtain ⟨hmem, hobj, hle⟩ := firstMin_some ho h
  refine ⟨hmem, hobj, ?_⟩
  simp only [isMinOf, hobj, List.all_eq_true]
  intro y hy
  obtain ⟨v, hv⟩ := Option.isSome_iff_exists.mp (ho y hy)
  simpa [hv] using hle y hy v hv

/-- The predicate the correspondence check applies to the implementation's max-min update — "the clauses hold
for *some* tied best sampled tour as the rewarded one" (`holdsMmasAny`) — is satisfied by the model. -/
theorem holds_mmas_update_any (N : Num F) (hfin : ∀ x, N.fin x = true)
    (hclose : ∀ a b, N.close a b = decide (a = b))
    (pm : PM F) (ρ hi lo : F) (pop : List (Ind F)) (hwf : pm.wf = true)
    (hr : routesValid pm.dim (pop.drop 1) = true) (ho : ∀ ind ∈ pop.drop 1, ind.obj.isSome = true)
    (hlo : 0 ≤ lo) (hb : lo ≤ hi) :
    ∃ pm', mmasUpdate pm ρ hi lo pop = some pm' ∧ holdsMmasAny N pm ρ hi lo pop pm' = true := by
  obtain ⟨pm', h1, h2⟩ := holds_mmas_update N hfin hclose pm ρ hi lo pop hwf hr ho hlo hb
  refine ⟨pm', h1, ?_⟩
  rw [holdsMmas_eq_with] at h2
  unfold holdsMmasAny
  cases hl : pop.drop 1 with
  | nil => rw [hl] at h2; exact h2
  | cons x xs =>
    rw [hl] at h2 ho
    obtain ⟨⟨b, o⟩, hmin⟩ :=
      Option.isSome_iff_exists.mp ((firstMin_isSome ho).resolve_left (List.cons_ne_nil _ _))
    obtain ⟨hmem, hobj, hismin⟩ := first_min_is_a_best (x :: xs) b o hmin ho
    rw [hmin] at h2
    exact List.any_eq_true.mpr ⟨b, hmem, by rw [hismin, hobj, Bool.true_and]; exact h2⟩

/-- In exact arithmetic generation cannot panic on any reachable state: with non-negative trails, positive
distances between distinct cities, a `pow` that maps non-negative bases to non-negative values and the
positive `1e-15` offset, every weight vector handed to `WeightedIndex::new` is legal — for every witness. -/
theorem generation_never_panics (N : Num F) (hfin : ∀ x, N.fin x = true)
    (hpow : ∀ x a, 0 ≤ x → 0 ≤ N.pow x a) (heps : 0 < N.eps) (pm : PM F) (hwf : pm.wf = true)
    (hn : 1 ≤ pm.dim) (hnn : ∀ x ∈ pm.inner, 0 ≤ x) (dist : Nat → Nat → F)
    (hd : ∀ i j, i ≠ j → 0 < dist i j) (α β : F) (numAnts : Nat) (wits : List (List Nat)) :
    generate N pm dist α β pm.dim numAnts wits ≠ .panic := by
  obtain ⟨gw, e⟩ := generate_refines (fun _ _ => true) (isArgmax_top_of_argmaxLast N.tle) pm dist α β pm.dim numAnts wits
  exact e ▸ generateW_no_panic _ (WeightsOk.of_nonneg hfin hpow heps hwf hnn hd α β) hwf rfl hn

example : ∃ pm', asUpdate (PM.new 3 (1 / 2 : ℚ)) (1 / 10) 6 [⟨[0, 1, 2], some 4⟩, ⟨[0, 2, 1], some 5⟩] = some pm' ∧
    holdsAs ratNum (PM.new 3 (1 / 2 : ℚ)) (1 / 10) 6 [⟨[0, 1, 2], some 4⟩, ⟨[0, 2, 1], some 5⟩] pm' = true :=
  holds_as_update ratNum (fun _ => rfl) (fun _ _ => rfl) _ _ _ _ rfl rfl (by decide +kernel) (by decide +kernel)
    (fun ind h => by cases List.mem_singleton.mp h; exact ⟨5, rfl, by decide +kernel⟩) (by decide +kernel)

example : ∃ pm', mmasUpdate (PM.new 3 (1 / 2 : ℚ)) (1 / 10) 5 1 [⟨[0, 1, 2], some 4⟩, ⟨[0, 2, 1], some 5⟩] = some pm' ∧
    holdsMmas ratNum (PM.new 3 (1 / 2 : ℚ)) (1 / 10) 5 1 [⟨[0, 1, 2], some 4⟩, ⟨[0, 2, 1], some 5⟩] pm' = true :=
  holds_mmas_update ratNum (fun _ => rfl) (fun _ _ => rfl) _ _ _ _ _ rfl rfl
    (fun ind h => by cases List.mem_singleton.mp h; rfl) (by decide +kernel) (by decide +kernel)

/-- ... and with no sampled individual at all (`num_ants = 0`). -/
example : ∃ pm', mmasUpdate (PM.new 3 (1 / 2 : ℚ)) 1 5 1 [⟨[0, 1, 2], some 4⟩] = some pm' ∧
    holdsMmas ratNum (PM.new 3 (1 / 2 : ℚ)) 1 5 1 [⟨[0, 1, 2], some 4⟩] pm' = true :=
  holds_mmas_update ratNum (fun _ => rfl) (fun _ _ => rfl) _ _ _ _ _ rfl rfl nofun (by decide +kernel)
    (by decide +kernel)

example : generate ratNum (PM.new 3 (1 / 2 : ℚ)) (fun i j => if i = j then 0 else 7) 1 5 3 1 [[1, 0]] ≠ .panic :=
  generation_never_panics ratNum (fun _ => rfl) (fun _ _ h => h) (by decide +kernel) _ rfl (by decide)
    (by decide +kernel) _ (fun i j h => by rw [if_neg h]; decide +kernel) _ _ _ _

end field

end MahfModel.Props.C19
