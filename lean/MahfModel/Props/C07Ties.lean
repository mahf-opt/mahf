/-
C07, tie-agnostic part — the property speaks about objective VALUES ("strictly better", "at least as
good as every individual", "the k best"); which of several individuals with exactly equal objective
values is offered to the best-so-far record (`min_by_key`: the first) or survives at the capacity
boundary of the archive (`sort_unstable_by_key`: unspecified) is an implementation detail.

The models of `Model/PopMachineC07.lean` take that choice as a witness. Every theorem here quantifies
over ALL legal witnesses; the deterministic models of `Model/PopMachine.lean` are instances
(`first_minimum_is_legal_witness`, `stable_sort_is_legal_witness`). The executable predicates the driver
evaluates on the implementation's output are proved equivalent to the specification
(`archive_predicate_iff_spec`, `reinsert_predicate_iff_spec`). Run level: in covered runs the reported
best EQUALS the minimum returned (`best_eq_min_returned_partial`), and the value-level update of the run
model is the individual-level update seen through `obj` (`update_values_refine`).
-/
import MahfModel.Proofs.C07Ties
import MahfModel.Proofs.C07Run
namespace MahfModel.Props.C07
open MahfModel.PopMachine

variable {O : Type} [LinearOrder O]

/-! ### best-so-far: any member of minimal objective value may be offered -/

/-- The first minimum (what `min_by_key` returns) is a legal witness, and with it the witness model is the
deterministic model. -/
theorem first_minimum_is_legal_witness (pm : PM O) (p : List (Ind O)) (rest : List (List (Ind O))) (m : Ind O)
    (hs : pm.stack = p :: rest) (h : bestIndividual p = some (some m)) :
    ∃ w, legalBest p w = true ∧ p[w]? = some m ∧ bestUpdateStepW pm w = bestUpdateStep pm := by
  obtain ⟨hm1, hm2⟩ := bestIndividual_min p m h
  obtain ⟨w, hw2⟩ := List.getElem?_of_mem hm1
  have hw1 := (legalBest_iff p w).mpr ⟨m, hw2, hm2⟩
  refine ⟨w, hw1, hw2, ?_⟩
  obtain ⟨kp, hk⟩ := legalBest_keyed p w hw1
  simp only [bestUpdateStepW, bestUpdateStep, hs, hk, hw2, h]

/-- `BestIndividualUpdate` with ANY legal choice among tied minima: afterwards the record is at least as
good as every individual of the population; it is the old record, or a member of the population that is
strictly better than the old record (or there was none); nothing else changes. -/
theorem best_update_any_min_spec (pm pm' : PM O) (p : List (Ind O)) (rest : List (List (Ind O))) (w : Nat)
    (hs : pm.stack = p :: rest) (hl : legalBest p w = true) (h : bestUpdateStepW pm w = some pm') :
    (∀ i ∈ p, ∃ b, pm'.best = some b ∧ objLe b i) ∧
    (pm'.best = pm.best ∨
      ∃ c ∈ p, pm'.best = some c ∧ (pm.best = none ∨ ∃ b, pm.best = some b ∧ objLt c b)) ∧
    pm'.stack = pm.stack ∧ pm'.archive = pm.archive ∧ pm'.evals = pm.evals := by
  obtain ⟨c, b', r, hw, hc, hr, rfl⟩ := bestUpdateStepW_some pm pm' p rest w hs hl h
  have hcp : c ∈ p := List.mem_of_getElem? hw
  refine ⟨bestUpdate_dominates pm.best b' c r p hc hr, ?_, rfl, rfl, rfl⟩
  rcases bestUpdate_spec pm.best b' c r hr with ⟨h0, rfl, _⟩ | ⟨b, h0, hlt, rfl, _⟩ | ⟨b, h0, _, rfl, _⟩
  · exact Or.inr ⟨c, hcp, rfl, Or.inl h0⟩
  · exact Or.inr ⟨c, hcp, rfl, Or.inr ⟨b, h0, hlt⟩⟩
  · exact Or.inl h0.symm

example : legalBest ([⟨1, some 4⟩, ⟨2, some 2⟩, ⟨3, some 2⟩] : List (Ind Nat)) 2 = true := by decide +kernel
example : (bestUpdateStepW ({ stack := [[⟨1, some 4⟩, ⟨2, some 2⟩, ⟨3, some 2⟩]], best := some ⟨9, some 3⟩ } : PM Nat) 2).map (·.best) =
    some (some ⟨3, some 2⟩) := by decide +kernel

/-- The recorded objective VALUE does not depend on the choice among tied minima: every legal witness
gives the value (and the panic behaviour) of the first-minimum model. -/
theorem best_value_witness_independent (pm : PM O) (p : List (Ind O)) (rest : List (List (Ind O))) (w : Nat)
    (hs : pm.stack = p :: rest) (hl : legalBest p w = true) :
    (bestUpdateStepW pm w).map (fun s => s.best.bind (·.obj)) =
      (bestUpdateStep pm).map (fun s => s.best.bind (·.obj)) := by
  obtain ⟨c, hw, hc⟩ := (legalBest_iff p w).mp hl
  obtain ⟨kp, hk⟩ := legalBest_keyed p w hl
  have hcp : c ∈ p := List.mem_of_getElem? hw
  cases hbi : bestIndividual p with
  | none => simp [bestIndividual, hk] at hbi
  | some r0 =>
    cases r0 with
    | none => exact absurd ((bestIndividual_none_iff p).mp hbi) (List.ne_nil_of_mem hcp)
    | some m =>
      -- the witness and the first minimum are both minimal: equal objective values
      obtain ⟨hm1, hm2⟩ := bestIndividual_min p m hbi
      simp only [bestUpdateStepW, bestUpdateStep, hs, hk, hw, hbi, Option.map_map]
      exact bestUpdate_obj_congr pm.best c m ((hc m hm1).antisymm (hm2 c hcp))

/-- Over ANY history of fed populations and ANY legal choices among tied minima: the record is a member
of what was fed and at least as good as everything fed, absent iff nothing was fed — and its objective
value is the one the first-minimum model records. -/
theorem best_history_any_min (hist : List (List (Ind O) × Nat)) (r : Option (Ind O))
    (hl : legalHistory hist = true) (h : feedAllW none hist = some r) :
    (r = none ↔ (hist.map (·.1)).flatten = []) ∧
    (∀ b, r = some b → b ∈ (hist.map (·.1)).flatten ∧ ∀ i ∈ (hist.map (·.1)).flatten, objLe b i) ∧
    ∀ r0, feedAll none (hist.map (·.1)) = some r0 → r.bind (·.obj) = r0.bind (·.obj) := by
  have hmin : IsMinOf r (hist.map (·.1)).flatten := feedAllW_isMinOf hist none r [] hl rfl h
  exact ⟨hmin.spec.1, hmin.spec.2, fun r0 h0 => isMinOf_obj_unique r r0 _ hmin (feedAll_isMinOf _ none r0 [] rfl h0)⟩

/-- "Only ever improves" over a whole history: whatever is fed after `x` was recorded (any legal choices),
the record is `x` itself or an individual strictly better than `x`. -/
theorem best_history_only_improves (hist : List (List (Ind O) × Nat)) (x : Ind O) (r : Option (Ind O))
    (hl : legalHistory hist = true) (h : feedAllW (some x) hist = some r) :
    ∃ y, r = some y ∧ (y = x ∨ objLt y x) := by
  induction hist generalizing x with
  | nil => cases h; exact ⟨x, rfl, Or.inl rfl⟩
  | cons pw ps ih =>
    obtain ⟨p, w⟩ := pw
    simp only [feedAllW] at h
    simp only [legalHistory, Bool.and_eq_true, Bool.or_eq_true] at hl
    split at h
    · cases h
    · rename_i b' hf
      obtain ⟨x', rfl, hx'⟩ := (feedW_offers hl.1 hf).improves
      obtain ⟨y, hy, hyx⟩ := ih x' hl.2 h
      refine ⟨y, hy, ?_⟩
      rcases hx' with rfl | hx'
      · exact hyx
      · exact Or.inr (hyx.elim (fun e => e ▸ hx') fun h' => h'.trans_le hx'.le)

example : legalHistory ([([⟨1, some 4⟩, ⟨2, some 4⟩], 1), ([], 0), ([⟨3, some 9⟩, ⟨4, some 2⟩, ⟨5, some 2⟩], 2)] :
    List (List (Ind Nat) × Nat)) = true := by decide +kernel
example : feedAllW (none : Option (Ind Nat)) [([⟨1, some 4⟩, ⟨2, some 4⟩], 1), ([], 0), ([⟨3, some 9⟩, ⟨4, some 2⟩, ⟨5, some 2⟩], 2)] =
    some (some ⟨5, some 2⟩) := by decide +kernel

/-! ### archive: any admissible outcome of the unstable sort -/

/-- One archive update, for ANY sorted permutation `s` the sort may produce: `min k available` individuals
are kept, all taken from the old archive and the population, nothing dropped is strictly better than
anything kept. -/
theorem archive_update_any_sort (arch pop arch' s : List (Ind O)) (k : Nat)
    (hl : legalSort (arch ++ pop) s = true) (h : archiveUpdateW arch pop k s = some arch') :
    ∃ rest, (arch' ++ rest).Perm (arch ++ pop) ∧ arch'.length = min k (arch ++ pop).length ∧
      ∀ x ∈ arch', ∀ y ∈ rest, ¬ objLt y x := by
  exact (archiveUpdateW_keeps arch pop arch' s k hl h).archInv

/-- The stable insertion sort of the deterministic model is one legal witness, and with it the witness
model IS the deterministic model. -/
theorem stable_sort_is_legal_witness (arch pop : List (Ind O)) (k : Nat) :
    archiveUpdate arch pop k = archiveUpdateW arch pop k (sortInds (arch ++ pop)) ∧
    ((∀ i ∈ arch ++ pop, i.obj.isSome) → legalSort (arch ++ pop) (sortInds (arch ++ pop)) = true) := by
  refine ⟨?_, fun hev => ?_⟩
  · simp only [archiveUpdate, archiveUpdateW]
    split
    · rfl
    · cases hk : keyed (arch ++ pop) with
      | none => rfl
      | some kl => simp [sortInds, hk, List.map_take]
  · obtain ⟨kl, hkl⟩ := keyed_some_of_all _ hev
    rw [legalSort_iff]
    simp only [sortInds, hkl]
    exact keyed_sort _ kl hkl

/-- The objective VALUES the archive keeps do not depend on the tie order: for every legal witness they
are the `k` smallest of everything available (as sorted lists). -/
theorem archive_values_witness_independent (arch pop arch' s : List (Ind O)) (k : Nat)
    (hev : ∀ i ∈ arch ++ pop, i.obj.isSome)
    (hl : legalSort (arch ++ pop) s = true) (h : archiveUpdateW arch pop k s = some arch') :
    sortByKey id (objKeys arch') = (sortByKey id (objKeys (arch ++ pop))).take k := by
  obtain ⟨rest, hinv⟩ := (archiveUpdateW_keeps arch pop arch' s k hl h).archInv
  exact (archInv_iff_keys k arch' rest (arch ++ pop) hinv.1 hev).mp hinv

/-- After every update of a history — whatever admissible order the unstable sort produced at each step —
the archive holds the `k` best individuals it has been shown so far: a sub-multiset of everything shown,
of length `min k shown`, nothing omitted strictly better than something kept, and its objective values
are exactly the `k` smallest values shown. -/
theorem archive_history_any_sort (k : Nat) (hist : List (List (Ind O) × List (Ind O))) (arch : List (Ind O))
    (hev : ∀ i ∈ (hist.map (·.1)).flatten, i.obj.isSome)
    (hl : legalArchHistory k [] hist = true) (h : archFeedW k [] hist = some arch) :
    (∃ omitted, (arch ++ omitted).Perm (hist.map (·.1)).flatten ∧
      arch.length = min k (hist.map (·.1)).flatten.length ∧ ∀ x ∈ arch, ∀ y ∈ omitted, ¬ objLt y x) ∧
    sortByKey id (objKeys arch) = (sortByKey id (objKeys (hist.map (·.1)).flatten)).take k := by
  obtain ⟨rest, hinv⟩ := archFeedW_inv k hist [] [] [] arch (.nil k) hev hl h
  exact ⟨⟨rest, hinv⟩, (archInv_iff_keys k arch rest _ hinv.1 hev).mp hinv⟩

/-- two updates; at the second one the sort puts the newcomer `7` BEFORE the incumbent `1` of equal value,
so a different individual survives than under the stable sort — with the same objective values. -/
example : legalArchHistory 2 ([] : List (Ind Nat))
    [([⟨1, some 4⟩, ⟨2, some 9⟩], [⟨1, some 4⟩, ⟨2, some 9⟩]),
     ([⟨7, some 4⟩, ⟨8, some 3⟩], [⟨8, some 3⟩, ⟨7, some 4⟩, ⟨1, some 4⟩, ⟨2, some 9⟩])] = true := by decide +kernel
example : archFeedW 2 ([] : List (Ind Nat))
    [([⟨1, some 4⟩, ⟨2, some 9⟩], [⟨1, some 4⟩, ⟨2, some 9⟩]),
     ([⟨7, some 4⟩, ⟨8, some 3⟩], [⟨8, some 3⟩, ⟨7, some 4⟩, ⟨1, some 4⟩, ⟨2, some 9⟩])] =
    some [⟨8, some 3⟩, ⟨7, some 4⟩] := by decide +kernel

/-! ### the executable predicates of the driver are the specification -/

/-- The archive predicate the driver evaluates on the implementation's archive (sub-multiset of what was
shown, full, sorted objective values = first `k` sorted values shown) holds iff the archive holds the `k`
best individuals shown. -/
theorem archive_predicate_iff_spec (k : Nat) (shown a : List (Ind O)) (hev : ∀ i ∈ shown, i.obj.isSome) :
    kBestOk k shown a = true ↔
      ∃ omitted, (a ++ omitted).Perm shown ∧ a.length = min k shown.length ∧
        ∀ x ∈ a, ∀ y ∈ omitted, ¬ objLt y x := by
  simp only [kBestOk, Bool.and_eq_true, beq_iff_eq]
  constructor
  · rintro ⟨⟨hsub, hlen⟩, hkeys⟩
    have hperm := subBag_eraseAll a shown hsub
    exact ⟨_, (archInv_iff_keys k a _ shown hperm hev).mpr hkeys⟩
  · rintro ⟨omitted, hinv⟩
    exact ⟨⟨subBag_of_perm a omitted shown hinv.1, hinv.2.1⟩, (archInv_iff_keys k a omitted shown hinv.1 hev).mp hinv⟩

example : kBestOk 2 ([⟨1, some 4⟩, ⟨2, some 9⟩, ⟨7, some 4⟩, ⟨8, some 3⟩] : List (Ind Nat)) [⟨7, some 4⟩, ⟨8, some 3⟩] = true := by
  decide +kernel
example : kBestOk 2 ([⟨1, some 4⟩, ⟨2, some 9⟩, ⟨7, some 4⟩, ⟨8, some 3⟩] : List (Ind Nat)) [⟨8, some 3⟩, ⟨2, some 9⟩] = false := by
  decide +kernel

/-- The re-insertion predicate the driver evaluates (order-agnostic) holds iff the outcome is the
population plus pairwise distinct elitists that were absent, and every elitist is present. The model
satisfies it. -/
theorem reinsert_predicate_iff_spec (arch pop r : List (Ind O)) :
    (reinsertOk arch pop r = true ↔
      ∃ extra, (pop ++ extra).Perm r ∧ extra.Nodup ∧ (∀ e ∈ extra, e ∈ arch ∧ e ∉ pop) ∧ ∀ e ∈ arch, e ∈ r) ∧
    reinsertOk arch pop (archiveInto arch pop) = true := by
  refine ⟨⟨fun h => ?_, reinsertOk_complete arch pop r⟩, ?_⟩
  · simp only [reinsertOk, Bool.and_eq_true, List.all_eq_true, List.contains_iff_mem, Bool.not_eq_true',
      beq_iff_eq] at h
    obtain ⟨⟨hsub, hex⟩, harch⟩ := h
    refine ⟨eraseAll r pop, subBag_eraseAll pop r hsub, ?_, ?_, harch⟩
    · rw [List.nodup_iff_count]
      intro e
      by_cases he : e ∈ eraseAll r pop
      · exact Nat.le_of_eq (hex e he).2
      · rw [List.count_eq_zero.mpr he]; exact Nat.zero_le 1
    · intro e he
      refine ⟨(hex e he).1.1, ?_⟩
      have := (hex e he).1.2
      simpa using this
  · obtain ⟨extra, h1, h2, h3, h4⟩ := archiveInto_spec arch pop
    exact reinsertOk_complete arch pop _ ⟨extra, h1 ▸ List.Perm.refl _, h2, h3, h4⟩

/-! ### run level -/

/-- PARTIAL (covered runs; refuted for the firefly shape by `evaluate_without_update_violates`): if every
value the objective function returns is shown to a visible best-update right away, and the populations
shown to updates only carry values the objective function returned, the reported best EQUALS the minimum
of all values returned. -/
theorem best_eq_min_returned_partial (evs : List (Ev O)) (hc : Covered evs)
    (hu : updatesShowReturned [] evs = true) :
    reportedBest (scopedRun ({} : Scoped O) evs) = listMin (scopedRun ({} : Scoped O) evs).returned := by
  obtain ⟨b, h1, _, h3⟩ := covered_inv evs hc {} .init
  have h4 : ∀ x, b = some x → x ∈ (scopedRun ({} : Scoped O) evs).returned :=
    bests_mem_returned evs ({} : Scoped O) (fun _ hb x hx => by cases List.mem_singleton.mp hb; cases hx) hu b (by rw [h1]; exact List.mem_singleton_self b)
  simp only [reportedBest, h1, List.getLastD_cons, List.getLastD_nil, listMin]
  cases hm : minByKey id (scopedRun ({} : Scoped O) evs).returned with
  | none =>
    rw [minByKey_none] at hm
    cases b with
    | none => rfl
    | some x => have := h4 x rfl; rw [hm] at this; cases this
  | some m =>
    obtain ⟨hm1, hm2⟩ := minByKey_le id _ m hm
    obtain ⟨x, rfl, hxm⟩ := h3 m hm1
    rw [le_antisymm hxm (hm2 x (h4 x rfl))]

example : Covered ([.eval 2 [5, 7], .update [5, 7], .other, .eval 2 [5, 6], .update [5, 6]] : List (Ev Nat)) ∧
    updatesShowReturned [] ([.eval 2 [5, 7], .update [5, 7], .other, .eval 2 [5, 6], .update [5, 6]] : List (Ev Nat)) = true :=
  ⟨.eval _ _ _ _ (by simp) (.other _ (.eval _ _ _ _ (by simp) .nil)), by decide⟩

/-- The update of the run-level model (`feedBest`, on objective values) is `BestIndividualUpdate` on
individuals seen through `obj`. -/
theorem update_values_refine (b b' : Option (Ind O)) (p : List (Ind O)) (h : feed b p = some b') :
    b'.bind (·.obj) = feedBest (b.bind (·.obj)) (objKeys p) := by
  exact (feed_offers h).values

/-! ### scopes (run-level model): "the best found so far in the visible scope" -/

/-- A `Scope` whose body brings its own best-update works on a fresh record: whatever happens inside
(any well-bracketed body, nested scopes included), the caller's records are exactly what they were. -/
theorem scope_with_own_update_leaves_callers_best (s : Scoped O) (he : Bool) (body : List (Ev O))
    (hb : wellBracketed body = true) :
    (scopedRun s (.enter he true :: body ++ [.exit])).bests = s.bests ∧
    (scopedRun s (.enter he true :: body ++ [.exit])).frames = s.frames :=
  let ⟨⟨_, h1⟩, h2⟩ := scope_bracket s he true body none s.bests hb rfl
  ⟨h1, h2⟩

/-- A `Scope` without a best-update of its own shares the caller's visible record: only that record can
change, everything the caller cannot see stays as it was. -/
theorem scope_without_update_touches_only_visible_best (s : Scoped O) (he : Bool) (body : List (Ev O))
    (b0 : Option O) (B0 : List (Option O)) (hs : s.bests = b0 :: B0) (hb : wellBracketed body = true) :
    (∃ b0', (scopedRun s (.enter he false :: body ++ [.exit])).bests = b0' :: B0) ∧
    (scopedRun s (.enter he false :: body ++ [.exit])).frames = s.frames :=
  scope_bracket s he false body b0 B0 hb hs

example : wellBracketed ([.eval 1 [3], .update [3], .enter true true, .update [1], .exit, .other] : List (Ev Nat)) = true := by
  decide +kernel
example : (scopedRun ({ bests := [some 5] } : Scoped Nat) [.enter true true, .eval 1 [1], .update [1], .exit]).bests = [some 5] := by
  decide +kernel

end MahfModel.Props.C07
