/-
C13 — the adaptable parameters (`MutationRate<T>` / `MutationStrength<T>`) across the life of a `State`:
`init` establishes the component's OWN parameters whatever the state already holds — values left by an
earlier `Configuration::run`, owned by an instance of the same type and identifier in an enclosing scope, or
belonging to instances with other identifiers — so the rate-zero / dimension clauses hold there as well.
-/
import MahfModel.Proofs.C13State
import MahfModel.Proofs.C13
import Mathlib.Algebra.Order.Field.Basic
namespace MahfModel.Props.C13
open MahfModel.Variation

variable {α : Type}

section Registry
variable {F : Type}

/-- `init` of an instance makes ITS constructor values the ones its `execute` reads — for every registry stack:
any depth, any stale `MutationRate` / `MutationStrength` of the same type and identifier in the top-most
registry (earlier run) or in any parent (enclosing scope). -/
theorem init_establishes_own_parameters (c : PComp F) (ch : PChain F) :
    compSeen c (compInit c ch) = some c.own :=
  compSeen_compInit_same c c ch ⟨rfl, rfl⟩ rfl fun _ => rfl

/-- `init` of an instance neither changes what an instance of another type or another identifier reads, nor
touches any parent registry. -/
theorem init_leaves_other_instances (c d : PComp F) (ch : PChain F) (h : ¬ (d.kind = c.kind ∧ d.ident = c.ident)) :
    compSeen d (compInit c ch) = compSeen d ch ∧ (compInit c ch).below = ch.below :=
  ⟨compSeen_compInit_other c d ch h, compInit_below c ch⟩
end Registry

section Clause
variable {F : Type} [Field F] [LinearOrder F]

/-- After its own `init` an instance executes exactly as on a fresh state, whatever the state held before. -/
theorem execution_independent_of_prior_state (c : PComp F) (ch ch' : PChain F) (masks : List (List Bool))
    (vals pop : List (List α)) :
    compRun c (compInit c ch) masks vals pop = compRun c (compInit c ch') masks vals pop ∧
    compRun c (compInit c ch) masks vals pop = kindExec c.kind c.own (gatedPop masks vals pop) := by
  simp [compRun, init_establishes_own_parameters]

/-- The rate-zero clause on ANY state: an instance constructed with rate 0 (and, for `NormalMutation` /
`UniformMutation`, a strength its guard accepts) that has been initialised leaves the whole population
unchanged and succeeds under every legal witness — also when the state held rate 1 (or an invalid rate) of the
same type and identifier from an earlier run or an enclosing scope. -/
theorem rate_zero_identity_on_any_state (c : PComp F) (ch : PChain F) (hr : c.rate = .fin 0)
    (hs : kindExec c.kind ⟨c.strength, .fin 0⟩ () = .ok ())
    (masks : List (List Bool)) (vals pop : List (List α)) (hm : masksLegal (Param.fin (0 : F)) masks pop = true) :
    compRun c (compInit c ch) masks vals pop = .ok pop := by
  have hid := gatedPop_rate_zero (Param.fin (0 : F)) (by simp [rateIsZero]) masks vals pop hm
  rw [(execution_independent_of_prior_state c ch ch masks vals pop).2, hid]
  simp only [PComp.own, hr]
  rw [kindExec_result, hs]

/-- The dimension clause on ANY state, initialised or not, whatever parameters it holds: an execution that
succeeds keeps the number of individuals and every individual's dimension. -/
theorem dimension_kept_on_any_state (c : PComp F) (ch : PChain F) (masks : List (List Bool))
    (vals pop out : List (List α)) (h : compRun c ch masks vals pop = .ok out) :
    out.length = pop.length ∧ out.map List.length = pop.map List.length := by
  have key : out = gatedPop masks vals pop := by
    unfold compRun at h
    split at h
    · cases h
    · rw [kindExec_result] at h
      split at h <;> cases h
      rfl
  rw [key]
  exact ⟨gatedPop_length masks vals pop, gatedPop_dims masks vals pop⟩
end Clause

section Config
variable {F : Type} [DecidableEq F] [LE F] [DecidableLE F] [OfNat F 0] [OfNat F 1] [OfNat F 2]

/-- Whole configurations, several runs on ONE state: blocks, loops and scopes nested to any depth, instances of
any of the six types under any identifiers; the only requirement is that instances of the same type and
identifier AT ONE LEVEL were given the same values (`wellFormed`). Then, starting from ANY state, every
execution of every instance — in every run, at every depth, in every loop pass — reads its own values. -/
theorem every_execution_reads_own_parameters (cfgs : List (Cfg F)) (ch : PChain F)
    (hw : ∀ cfg ∈ cfgs, cfg.wellFormed = true) :
    ∀ t ∈ (runAll cfgs ch).1, ∀ o ∈ t, o.seen = some o.comp.own :=
  runAll_own (fun a b => decide (a = b)) (fun _ _ h => of_decide_eq_true h) cfgs ch hw

/-- A nested scope leaves the registry stack of the enclosing configuration exactly as it found it, whatever
instances it initialised: executing a block (with all its scopes and loops) does not change the state's
parameter registries, and `init` of a block only writes the top-most registry. -/
theorem scope_leaves_enclosing_state (cfg : Cfg F) (st : RunSt F) (ch : PChain F) :
    (cfg.exec st).chain = st.chain ∧ (cfg.init ch).below = ch.below :=
  ⟨Cfg.exec_chain cfg st, Cfg.init_below cfg ch⟩

/-- A run in which no guard fails executes exactly the instances of the configuration in program order, loops
unrolled and scopes entered (`unroll`) — the order in which the check pairs the observed populations with the
instances whose own parameters they are judged against. -/
theorem run_executes_unrolled_instances (cfg : Cfg F) (ch : PChain F) (h : (cfg.run ch).live = true) :
    (cfg.run ch).trace.map (·.comp) = cfg.unroll :=
  by simpa [Cfg.run] using (Cfg.exec_executes cfg ⟨cfg.init ch, [], true⟩ h).2

/-- `Branch` (`if_` / `if_else_`, either arm, whatever the condition says): the `init` of a block that contains a
branch establishes the own parameters of EVERY instance in the if body and in the else body — on any state,
whatever stale values of the same type and identifier it holds — provided the level (both arms and the rest of
the block) gives instances of one type and identifier the same values. -/
theorem branch_init_establishes_both_arms (b : Bool) (tb eb rest : Cfg F) (ch : PChain F)
    (hw : levelConsistent (fun x y => decide (x = y)) (Cfg.branch b tb eb rest).level = true) :
    ∀ d ∈ tb.level ++ eb.level, compSeen d ((Cfg.branch b tb eb rest).init ch) = some d.own := fun d hd =>
  Cfg.init_level _ (fun _ _ h => of_decide_eq_true h) _ ch hw d
    (by rw [Cfg.level, ← List.append_assoc]; exact List.mem_append_left _ hd)

/-- A run of a well-formed configuration that starts with a branch, on ANY state: the branch executes exactly the
instances of the arm its condition selects (nothing of the other arm), then the rest of the block — and every
one of these executions reads its own values. -/
theorem branch_runs_selected_arm_with_own_parameters (b : Bool) (tb eb rest : Cfg F) (ch : PChain F)
    (hw : (Cfg.branch b tb eb rest).wellFormed = true) (h : ((Cfg.branch b tb eb rest).run ch).live = true) :
    ((Cfg.branch b tb eb rest).run ch).trace.map (·.comp) = (if b then tb.unroll else eb.unroll) ++ rest.unroll ∧
    ∀ o ∈ ((Cfg.branch b tb eb rest).run ch).trace, o.seen = some o.comp.own :=
  ⟨by rw [run_executes_unrolled_instances _ ch h]; rfl,
   Cfg.run_own (fun x y => decide (x = y)) (fun _ _ h => of_decide_eq_true h) _ ch hw⟩

/-- Corollary of `every_execution_reads_own_parameters`: an instance reads the rate `z` it was constructed with;
`z = 0` is the case of the rate-zero clause. -/
theorem rate_zero_instance_reads_zero (cfgs : List (Cfg F)) (ch : PChain F)
    (hw : ∀ cfg ∈ cfgs, cfg.wellFormed = true) (z : Param F) :
    ∀ t ∈ (runAll cfgs ch).1, ∀ o ∈ t, o.comp.rate = z → ∃ p, o.seen = some p ∧ p.rate = z := by
  intro t ht o ho hz
  exact ⟨o.comp.own, every_execution_reads_own_parameters cfgs ch hw t ht o ho, hz⟩
end Config

/-! Hypotheses are satisfiable; the statements are about non-trivial states. -/

/-- a state that holds rate 1 in its top registry (earlier run) and rate 1 in a parent (enclosing scope) -/
def staleChain : PChain Int :=
  ⟨[(⟨.normal, 0, true⟩, .fin 1), (⟨.normal, 0, false⟩, .fin 25)], [[(⟨.normal, 0, true⟩, .fin 1)], []]⟩

def pairOf (p : MutParams Int) : Param Int × Param Int := (p.strength, p.rate)
example : (compSeen ⟨.normal, 0, .fin 3, .fin 0⟩ staleChain).map pairOf = some (.fin 25, .fin 1) := by decide +kernel
example : (compSeen ⟨.normal, 0, .fin 3, .fin 0⟩ (compInit ⟨.normal, 0, .fin 3, .fin 0⟩ staleChain)).map pairOf =
    some (.fin 3, .fin 0) := by decide +kernel
example : (compSeen ⟨.normal, 1, .fin 3, .fin 0⟩ staleChain).map pairOf = none := by decide +kernel
example : compRun ⟨.normal, 0, .fin 3, .fin 0⟩ (compInit ⟨.normal, 0, .fin 3, .fin 0⟩ staleChain)
    [[false, false]] [[50, 60]] [[7, 8]] = .ok [[7, 8]] := by decide +kernel
example : kindExec PKind.uniform (⟨.fin 2, .fin 0⟩ : MutParams Int) () = .ok () ∧
    kindExec PKind.bits (⟨.fin 9, .fin 0⟩ : MutParams Int) () = .ok () := by decide +kernel

/-- rm = 1 outside, rm = 0 in a scope (same type and identifier), the outer instance again afterwards, twice:
well-formed; the executions read 1, 0, 1, 1, 0, 1. A second run with rate 0 on the same state reads 0. -/
def nestedCfg : Cfg Int :=
  .loop 2 (.leaf ⟨.bitflip, 0, .nan, .fin 1⟩ (.scope (.leaf ⟨.bitflip, 0, .nan, .fin 0⟩ .done)
    (.leaf ⟨.bitflip, 0, .nan, .fin 1⟩ .done))) .done

example : nestedCfg.wellFormed = true := by decide +kernel
example : ((runAll [nestedCfg, .leaf ⟨.bitflip, 0, .nan, .fin 0⟩ .done] staleChain).1.map
    (·.map fun o => o.seen.map (·.rate))) =
    [[some (.fin 1), some (.fin 0), some (.fin 1), some (.fin 1), some (.fin 0), some (.fin 1)], [some (.fin 0)]] := by
  decide +kernel
example : (nestedCfg.run staleChain).live = true ∧ nestedCfg.unroll.length = 6 := by decide +kernel
/-- rate 1 outside; in a scope an `if_else_` whose IF arm holds the rate-0 instance of the same type and identifier
(else arm: another identifier), condition true / false; then a plain `if_` in a loop: well-formed, the executions
read 1, 0 (if arm) resp. 1, 1 (else arm, identifier 1), then 0 twice (identifier 2). -/
def branchCfg (b : Bool) : Cfg Int :=
  .leaf ⟨.bitflip, 0, .nan, .fin 1⟩
    (.scope (.branch b (.leaf ⟨.bitflip, 0, .nan, .fin 0⟩ .done) (.leaf ⟨.bitflip, 1, .nan, .fin 1⟩ .done) .done)
      (.loop 2 (.branch true (.leaf ⟨.bitflip, 2, .nan, .fin 0⟩ .done) .done .done) .done))

example : (branchCfg true).wellFormed = true ∧ (branchCfg false).wellFormed = true := by decide +kernel
example : ((branchCfg true).run staleChain).trace.map (fun o => o.seen.map (·.rate)) =
    [some (.fin 1), some (.fin 0), some (.fin 0), some (.fin 0)] := by decide +kernel
example : ((branchCfg false).run staleChain).trace.map (fun o => (o.comp.ident, o.seen.map (·.rate))) =
    [(0, some (.fin 1)), (1, some (.fin 1)), (2, some (.fin 0)), (2, some (.fin 0))] := by decide +kernel
/-- both arms belong to the level of the enclosing block: the same type and identifier with different rates in the
if arm and in the else arm is NOT well-formed (the else arm's `init` comes later and wins) -/
example : (Cfg.branch true (.leaf ⟨.bitflip, 0, .nan, .fin 0⟩ .done) (.leaf ⟨.bitflip, 0, .nan, .fin (1 : Int)⟩ .done) .done).wellFormed = false ∧
    ((Cfg.branch true (.leaf ⟨.bitflip, 0, .nan, .fin 0⟩ .done) (.leaf ⟨.bitflip, 0, .nan, .fin (1 : Int)⟩ .done) .done).run ⟨[], []⟩).trace.map
      (fun o => o.seen.map (·.rate)) = [some (.fin 1)] := by decide +kernel
/-- hypotheses of `branch_init_establishes_both_arms` / `branch_runs_selected_arm_with_own_parameters` -/
example : levelConsistent (fun x y => decide (x = y))
    (Cfg.branch true (.leaf ⟨.normal, 0, .fin 3, .fin 0⟩ .done) (.leaf ⟨.normal, 1, .fin 25, .fin (1 : Int)⟩ .done) .done).level = true ∧
    ((Cfg.branch true (.leaf ⟨.normal, 0, .fin 3, .fin 0⟩ .done) (.leaf ⟨.normal, 1, .fin 25, .fin (1 : Int)⟩ .done) .done).run staleChain).live = true := by
  decide +kernel

/-- two instances of one type and identifier with different rates at ONE level are not well-formed (the later
`init` wins: both read rate 0) -/
example : (Cfg.leaf ⟨.scramble, 0, .nan, .fin 1⟩ (.leaf ⟨.scramble, 0, .nan, .fin (0 : Int)⟩ .done)).wellFormed = false ∧
    ((Cfg.leaf ⟨.scramble, 0, .nan, .fin 1⟩ (.leaf ⟨.scramble, 0, .nan, .fin (0 : Int)⟩ .done)).run ⟨[], []⟩).trace.map
      (fun o => o.seen.map (·.rate)) = [some (.fin 0), some (.fin 0)] := by decide +kernel
/-- … with different identifiers they are, and each reads its own rate -/
example : (Cfg.leaf ⟨.scramble, 1, .nan, .fin 1⟩ (.leaf ⟨.scramble, 0, .nan, .fin (0 : Int)⟩ .done)).wellFormed = true ∧
    ((Cfg.leaf ⟨.scramble, 1, .nan, .fin 1⟩ (.leaf ⟨.scramble, 0, .nan, .fin (0 : Int)⟩ .done)).run ⟨[], []⟩).trace.map
      (fun o => o.seen.map (·.rate)) = [some (.fin 1), some (.fin 0)] := by decide +kernel

end MahfModel.Props.C13
