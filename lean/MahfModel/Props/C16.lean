/-
C16 — every shipped heuristic template keeps the population stack balanced.

* `effect_sound` / `balanced_sound`: the stack-effect analysis is sound for EVERY execution of
  the abstract interpreter (all condition outcomes, all iteration counts, all failure points, any fuel).
* `<template>_v<i>_balanced`: the analysis, evaluated by the kernel on the component tree that the
  real constructor built in THIS run (`Generated/Templates.lean`, regenerated from `/repo` on every
  check), answers `true` for all 21 templates (the iterated-local-search templates since repair 364645e; before
  it their loop body had net effect +1).  For ALL parameter values: `Props/C16Param.lean`.
-/
import MahfModel.Proofs.C16
import MahfModel.Generated.Templates
namespace MahfModel.Props.C16
open MahfModel.Tpl MahfModel.Generated

/-- Soundness: if the analysis assigns effect `k`, every terminating execution changes the height by
exactly `k`, and every loop pass completed during it ended at the height it started from. -/
theorem effect_sound (o : Oracle) (fuel : Nat) (c : Comp) (s s' : St) (k : Int)
    (he : effect c = some k) (h : exec o fuel c s = some s') :
    s'.height = s.height + k ∧ (s.passesBalanced = true → s'.passesBalanced = true) :=
  exec_sound o fuel c s s' k he h

/-- A balanced configuration started on the empty stack ends with exactly one population, and every
loop pass of the run was height-neutral — whatever the conditions, seeds and iteration counts. -/
theorem balanced_sound (o : Oracle) (fuel : Nat) (c : Comp) (s' : St)
    (hb : balanced c = true)
    (h : exec o fuel c { height := 0, tick := 0, passesBalanced := true } = some s') :
    s'.height = 1 ∧ s'.passesBalanced = true :=
  balanced_run o fuel c s' hb h

/-- A loop whose body has a definite non-zero effect is rejected by the analysis. -/
theorem loop_needs_neutral_body (b : Comp) (k : Int) (hk : k ≠ 0) (hb : effect b = some k) :
    effect (.loop b) = none := by
  simp only [effect, hb]
  split
  · rename_i h; exact absurd (Option.some.inj h) hk
  · rfl

/-- An unknown component is never assumed harmless. -/
theorem opaque_refused : effect (.leaf .opaque) = none := rfl

/-- ILS after the repair 364645e (the scoped local search is the `ls` loop only), on the tree as regenerated from
the code: one outer pass with one pass of the nested local search ends with ONE population on the stack and every
pass was height-neutral. (Before the repair the same execution ended with two populations: the scoped search brought
its own initialisation.) The general statement is `real_ils_v*_balanced` / `permutation_ils_v*_balanced` below
together with `balanced_sound`. -/
theorem ils_pass_balanced_exhibited :
    (exec ⟨fun t => t == 3 || t == 8, fun _ => false, fun _ => 0⟩ 200 real_ils_v0
      { height := 0, tick := 0, passesBalanced := true }).map (fun s => (s.height, s.passesBalanced))
      = some (1, true) := by decide +kernel

/-! Non-vacuity: a concrete run of a concrete balanced tree. -/
example : balanced real_ga_v0 = true := by decide +kernel
example : (exec ⟨fun t => t < 40, fun _ => false, fun _ => 0⟩ 200 real_ga_v0
    { height := 0, tick := 0, passesBalanced := true }).map (·.height) = some 1 := by decide +kernel

/-! ### Per-template obligations on the regenerated trees -/
theorem real_ga_v0_balanced : balanced real_ga_v0 = true := by decide +kernel
theorem real_ga_v1_balanced : balanced real_ga_v1 = true := by decide +kernel
theorem real_ga_v2_balanced : balanced real_ga_v2 = true := by decide +kernel
theorem real_ga_v3_balanced : balanced real_ga_v3 = true := by decide +kernel
theorem binary_ga_v0_balanced : balanced binary_ga_v0 = true := by decide +kernel
theorem binary_ga_v1_balanced : balanced binary_ga_v1 = true := by decide +kernel
theorem binary_ga_v2_balanced : balanced binary_ga_v2 = true := by decide +kernel
theorem binary_ga_v3_balanced : balanced binary_ga_v3 = true := by decide +kernel
theorem real_es_v0_balanced : balanced real_es_v0 = true := by decide +kernel
theorem real_es_v1_balanced : balanced real_es_v1 = true := by decide +kernel
theorem real_es_v2_balanced : balanced real_es_v2 = true := by decide +kernel
theorem real_es_v3_balanced : balanced real_es_v3 = true := by decide +kernel
theorem real_de_v0_balanced : balanced real_de_v0 = true := by decide +kernel
theorem real_de_v1_balanced : balanced real_de_v1 = true := by decide +kernel
theorem real_de_v2_balanced : balanced real_de_v2 = true := by decide +kernel
theorem real_de_v3_balanced : balanced real_de_v3 = true := by decide +kernel
theorem real_pso_v0_balanced : balanced real_pso_v0 = true := by decide +kernel
theorem real_pso_v1_balanced : balanced real_pso_v1 = true := by decide +kernel
theorem real_pso_v2_balanced : balanced real_pso_v2 = true := by decide +kernel
theorem real_pso_v3_balanced : balanced real_pso_v3 = true := by decide +kernel
theorem real_sa_v0_balanced : balanced real_sa_v0 = true := by decide +kernel
theorem real_sa_v1_balanced : balanced real_sa_v1 = true := by decide +kernel
theorem real_sa_v2_balanced : balanced real_sa_v2 = true := by decide +kernel
theorem real_sa_v3_balanced : balanced real_sa_v3 = true := by decide +kernel
theorem permutation_sa_v0_balanced : balanced permutation_sa_v0 = true := by decide +kernel
theorem permutation_sa_v1_balanced : balanced permutation_sa_v1 = true := by decide +kernel
theorem permutation_sa_v2_balanced : balanced permutation_sa_v2 = true := by decide +kernel
theorem permutation_sa_v3_balanced : balanced permutation_sa_v3 = true := by decide +kernel
theorem real_ls_v0_balanced : balanced real_ls_v0 = true := by decide +kernel
theorem real_ls_v1_balanced : balanced real_ls_v1 = true := by decide +kernel
theorem real_ls_v2_balanced : balanced real_ls_v2 = true := by decide +kernel
theorem real_ls_v3_balanced : balanced real_ls_v3 = true := by decide +kernel
theorem permutation_ls_v0_balanced : balanced permutation_ls_v0 = true := by decide +kernel
theorem permutation_ls_v1_balanced : balanced permutation_ls_v1 = true := by decide +kernel
theorem permutation_ls_v2_balanced : balanced permutation_ls_v2 = true := by decide +kernel
theorem permutation_ls_v3_balanced : balanced permutation_ls_v3 = true := by decide +kernel
theorem real_ils_v0_balanced : balanced real_ils_v0 = true := by decide +kernel
theorem real_ils_v1_balanced : balanced real_ils_v1 = true := by decide +kernel
theorem real_ils_v2_balanced : balanced real_ils_v2 = true := by decide +kernel
theorem real_ils_v3_balanced : balanced real_ils_v3 = true := by decide +kernel
theorem permutation_ils_v0_balanced : balanced permutation_ils_v0 = true := by decide +kernel
theorem permutation_ils_v1_balanced : balanced permutation_ils_v1 = true := by decide +kernel
theorem permutation_ils_v2_balanced : balanced permutation_ils_v2 = true := by decide +kernel
theorem permutation_ils_v3_balanced : balanced permutation_ils_v3 = true := by decide +kernel
theorem real_rs_v0_balanced : balanced real_rs_v0 = true := by decide +kernel
theorem real_rs_v1_balanced : balanced real_rs_v1 = true := by decide +kernel
theorem real_rs_v2_balanced : balanced real_rs_v2 = true := by decide +kernel
theorem real_rs_v3_balanced : balanced real_rs_v3 = true := by decide +kernel
theorem permutation_rs_v0_balanced : balanced permutation_rs_v0 = true := by decide +kernel
theorem permutation_rs_v1_balanced : balanced permutation_rs_v1 = true := by decide +kernel
theorem permutation_rs_v2_balanced : balanced permutation_rs_v2 = true := by decide +kernel
theorem permutation_rs_v3_balanced : balanced permutation_rs_v3 = true := by decide +kernel
theorem real_rw_v0_balanced : balanced real_rw_v0 = true := by decide +kernel
theorem real_rw_v1_balanced : balanced real_rw_v1 = true := by decide +kernel
theorem real_rw_v2_balanced : balanced real_rw_v2 = true := by decide +kernel
theorem real_rw_v3_balanced : balanced real_rw_v3 = true := by decide +kernel
theorem permutation_rw_v0_balanced : balanced permutation_rw_v0 = true := by decide +kernel
theorem permutation_rw_v1_balanced : balanced permutation_rw_v1 = true := by decide +kernel
theorem permutation_rw_v2_balanced : balanced permutation_rw_v2 = true := by decide +kernel
theorem permutation_rw_v3_balanced : balanced permutation_rw_v3 = true := by decide +kernel
theorem real_iwo_v0_balanced : balanced real_iwo_v0 = true := by decide +kernel
theorem real_iwo_v1_balanced : balanced real_iwo_v1 = true := by decide +kernel
theorem real_iwo_v2_balanced : balanced real_iwo_v2 = true := by decide +kernel
theorem real_iwo_v3_balanced : balanced real_iwo_v3 = true := by decide +kernel
theorem real_fa_v0_balanced : balanced real_fa_v0 = true := by decide +kernel
theorem real_fa_v1_balanced : balanced real_fa_v1 = true := by decide +kernel
theorem real_fa_v2_balanced : balanced real_fa_v2 = true := by decide +kernel
theorem real_fa_v3_balanced : balanced real_fa_v3 = true := by decide +kernel
theorem real_bh_v0_balanced : balanced real_bh_v0 = true := by decide +kernel
theorem real_bh_v1_balanced : balanced real_bh_v1 = true := by decide +kernel
theorem real_bh_v2_balanced : balanced real_bh_v2 = true := by decide +kernel
theorem real_bh_v3_balanced : balanced real_bh_v3 = true := by decide +kernel
theorem real_cro_v0_balanced : balanced real_cro_v0 = true := by decide +kernel
theorem real_cro_v1_balanced : balanced real_cro_v1 = true := by decide +kernel
theorem real_cro_v2_balanced : balanced real_cro_v2 = true := by decide +kernel
theorem real_cro_v3_balanced : balanced real_cro_v3 = true := by decide +kernel
theorem ant_system_v0_balanced : balanced ant_system_v0 = true := by decide +kernel
theorem ant_system_v1_balanced : balanced ant_system_v1 = true := by decide +kernel
theorem ant_system_v2_balanced : balanced ant_system_v2 = true := by decide +kernel
theorem ant_system_v3_balanced : balanced ant_system_v3 = true := by decide +kernel
theorem max_min_ant_system_v0_balanced : balanced max_min_ant_system_v0 = true := by decide +kernel
theorem max_min_ant_system_v1_balanced : balanced max_min_ant_system_v1 = true := by decide +kernel
theorem max_min_ant_system_v2_balanced : balanced max_min_ant_system_v2 = true := by decide +kernel
theorem max_min_ant_system_v3_balanced : balanced max_min_ant_system_v3 = true := by decide +kernel

end MahfModel.Props.C16
