/-
C06 on the template level — the evaluation counter visible at the end of a run counts every
objective-function invocation of the run.

* `counter_exact_sound`: soundness of the `counterExact` analysis for EVERY execution of the abstract
  interpreter `runC` (all condition outcomes, iteration counts, population sizes, failure points).
* `<template>_v<i>_counter_exact`: the kernel evaluates the analysis (`counterExactTop`: a counter exists at
  the root and no scope shadows it) on the component tree the real constructor built in this run
  (`Generated/Templates.lean`). For the two iterated-local-search templates the answer is `false` —
  their scoped local search brings its own `PopulationEvaluator`, whose `init` inserts a shadowing
  `Evaluations(0)` — and `ils_counter_violates` exhibits a concrete execution of the model in which the
  reported count differs from the number of calls made.
-/
import MahfModel.Proofs.TemplatesCounter
import MahfModel.Generated.Templates
namespace MahfModel.Props.C06.Templates
open MahfModel.Tpl MahfModel.Generated

/-- If the root state gets a counter and no scope shadows it, a run that ends reports exactly the number
of objective calls it made. -/
theorem counter_exact_sound (o : COracle) (fuel : Nat) (c : Comp) (s' : CSt)
    (hc : counterExactTop c = true) (h : runC o fuel c = some s') :
    visible s'.counters = some s'.calls := by
  simp only [counterExactTop, Bool.and_eq_true] at hc
  unfold runC at h
  simp only [hc.1, if_true] at h
  obtain ⟨d, hd⟩ := execC_sound o fuel c _ s' hc.2 h
  rw [hd.visible rfl, hd.1]

/-- One step anywhere in a run: calls made = amount added to the innermost visible counter. -/
theorem counter_step_exact (o : COracle) (fuel : Nat) (c : Comp) (s s' : CSt)
    (hc : counterExact c = true) (h : execC o fuel c s = some s') :
    ∃ d, s'.calls = s.calls + d ∧ s'.counters = bumpFirst d s.counters :=
  execC_sound o fuel c s s' hc h

/-- A scope around an evaluator hides its evaluations from the caller: concrete model execution. -/
theorem scoped_evaluator_violates :
    (runC ⟨fun _ => false, fun _ => false, fun _ => 3⟩ 10
      (.seq (.cons (.leaf .PopulationEvaluator) (.cons (.scope (.leaf .PopulationEvaluator)) .nil)))).map
      (fun s => (visible s.counters, s.calls)) = some (some 3, 6) := by decide +kernel

/-- The shipped ILS template (as regenerated from the code, after the repair 364645e) on a concrete execution: one
outer pass with one pass of the scoped local search, every evaluation of one individual: 2 evaluations reported, 3 made
(the evaluation inside the scope is counted on the shadowing counter of the child state). -/
theorem ils_counter_violates :
    (runC ⟨fun t => t == 3 || t == 8, fun _ => false, fun _ => 1⟩ 200 real_ils_v0).map
      (fun s => (visible s.counters, s.calls, decide (visible s.counters = some s.calls))) = some (some 2, 3, false) := by decide +kernel

/-! Non-vacuity -/
example : counterExactTop real_ga_v0 = true := by decide +kernel
example : (runC ⟨fun t => t < 30, fun _ => false, fun t => t % 5⟩ 300 real_ga_v0).map
    (fun s => decide (visible s.counters = some s.calls)) = some true := by decide +kernel

/-! ### Per-template obligations on the regenerated trees -/
theorem real_ga_v0_counter_exact : counterExactTop real_ga_v0 = true := by decide +kernel
theorem real_ga_v1_counter_exact : counterExactTop real_ga_v1 = true := by decide +kernel
theorem real_ga_v2_counter_exact : counterExactTop real_ga_v2 = true := by decide +kernel
theorem real_ga_v3_counter_exact : counterExactTop real_ga_v3 = true := by decide +kernel
theorem binary_ga_v0_counter_exact : counterExactTop binary_ga_v0 = true := by decide +kernel
theorem binary_ga_v1_counter_exact : counterExactTop binary_ga_v1 = true := by decide +kernel
theorem binary_ga_v2_counter_exact : counterExactTop binary_ga_v2 = true := by decide +kernel
theorem binary_ga_v3_counter_exact : counterExactTop binary_ga_v3 = true := by decide +kernel
theorem real_es_v0_counter_exact : counterExactTop real_es_v0 = true := by decide +kernel
theorem real_es_v1_counter_exact : counterExactTop real_es_v1 = true := by decide +kernel
theorem real_es_v2_counter_exact : counterExactTop real_es_v2 = true := by decide +kernel
theorem real_es_v3_counter_exact : counterExactTop real_es_v3 = true := by decide +kernel
theorem real_de_v0_counter_exact : counterExactTop real_de_v0 = true := by decide +kernel
theorem real_de_v1_counter_exact : counterExactTop real_de_v1 = true := by decide +kernel
theorem real_de_v2_counter_exact : counterExactTop real_de_v2 = true := by decide +kernel
theorem real_de_v3_counter_exact : counterExactTop real_de_v3 = true := by decide +kernel
theorem real_pso_v0_counter_exact : counterExactTop real_pso_v0 = true := by decide +kernel
theorem real_pso_v1_counter_exact : counterExactTop real_pso_v1 = true := by decide +kernel
theorem real_pso_v2_counter_exact : counterExactTop real_pso_v2 = true := by decide +kernel
theorem real_pso_v3_counter_exact : counterExactTop real_pso_v3 = true := by decide +kernel
theorem real_sa_v0_counter_exact : counterExactTop real_sa_v0 = true := by decide +kernel
theorem real_sa_v1_counter_exact : counterExactTop real_sa_v1 = true := by decide +kernel
theorem real_sa_v2_counter_exact : counterExactTop real_sa_v2 = true := by decide +kernel
theorem real_sa_v3_counter_exact : counterExactTop real_sa_v3 = true := by decide +kernel
theorem permutation_sa_v0_counter_exact : counterExactTop permutation_sa_v0 = true := by decide +kernel
theorem permutation_sa_v1_counter_exact : counterExactTop permutation_sa_v1 = true := by decide +kernel
theorem permutation_sa_v2_counter_exact : counterExactTop permutation_sa_v2 = true := by decide +kernel
theorem permutation_sa_v3_counter_exact : counterExactTop permutation_sa_v3 = true := by decide +kernel
theorem real_ls_v0_counter_exact : counterExactTop real_ls_v0 = true := by decide +kernel
theorem real_ls_v1_counter_exact : counterExactTop real_ls_v1 = true := by decide +kernel
theorem real_ls_v2_counter_exact : counterExactTop real_ls_v2 = true := by decide +kernel
theorem real_ls_v3_counter_exact : counterExactTop real_ls_v3 = true := by decide +kernel
theorem permutation_ls_v0_counter_exact : counterExactTop permutation_ls_v0 = true := by decide +kernel
theorem permutation_ls_v1_counter_exact : counterExactTop permutation_ls_v1 = true := by decide +kernel
theorem permutation_ls_v2_counter_exact : counterExactTop permutation_ls_v2 = true := by decide +kernel
theorem permutation_ls_v3_counter_exact : counterExactTop permutation_ls_v3 = true := by decide +kernel
theorem real_ils_v0_counter_exact : counterExactTop real_ils_v0 = false := by decide +kernel
theorem real_ils_v1_counter_exact : counterExactTop real_ils_v1 = false := by decide +kernel
theorem real_ils_v2_counter_exact : counterExactTop real_ils_v2 = false := by decide +kernel
theorem real_ils_v3_counter_exact : counterExactTop real_ils_v3 = false := by decide +kernel
theorem permutation_ils_v0_counter_exact : counterExactTop permutation_ils_v0 = false := by decide +kernel
theorem permutation_ils_v1_counter_exact : counterExactTop permutation_ils_v1 = false := by decide +kernel
theorem permutation_ils_v2_counter_exact : counterExactTop permutation_ils_v2 = false := by decide +kernel
theorem permutation_ils_v3_counter_exact : counterExactTop permutation_ils_v3 = false := by decide +kernel
theorem real_rs_v0_counter_exact : counterExactTop real_rs_v0 = true := by decide +kernel
theorem real_rs_v1_counter_exact : counterExactTop real_rs_v1 = true := by decide +kernel
theorem real_rs_v2_counter_exact : counterExactTop real_rs_v2 = true := by decide +kernel
theorem real_rs_v3_counter_exact : counterExactTop real_rs_v3 = true := by decide +kernel
theorem permutation_rs_v0_counter_exact : counterExactTop permutation_rs_v0 = true := by decide +kernel
theorem permutation_rs_v1_counter_exact : counterExactTop permutation_rs_v1 = true := by decide +kernel
theorem permutation_rs_v2_counter_exact : counterExactTop permutation_rs_v2 = true := by decide +kernel
theorem permutation_rs_v3_counter_exact : counterExactTop permutation_rs_v3 = true := by decide +kernel
theorem real_rw_v0_counter_exact : counterExactTop real_rw_v0 = true := by decide +kernel
theorem real_rw_v1_counter_exact : counterExactTop real_rw_v1 = true := by decide +kernel
theorem real_rw_v2_counter_exact : counterExactTop real_rw_v2 = true := by decide +kernel
theorem real_rw_v3_counter_exact : counterExactTop real_rw_v3 = true := by decide +kernel
theorem permutation_rw_v0_counter_exact : counterExactTop permutation_rw_v0 = true := by decide +kernel
theorem permutation_rw_v1_counter_exact : counterExactTop permutation_rw_v1 = true := by decide +kernel
theorem permutation_rw_v2_counter_exact : counterExactTop permutation_rw_v2 = true := by decide +kernel
theorem permutation_rw_v3_counter_exact : counterExactTop permutation_rw_v3 = true := by decide +kernel
theorem real_iwo_v0_counter_exact : counterExactTop real_iwo_v0 = true := by decide +kernel
theorem real_iwo_v1_counter_exact : counterExactTop real_iwo_v1 = true := by decide +kernel
theorem real_iwo_v2_counter_exact : counterExactTop real_iwo_v2 = true := by decide +kernel
theorem real_iwo_v3_counter_exact : counterExactTop real_iwo_v3 = true := by decide +kernel
theorem real_fa_v0_counter_exact : counterExactTop real_fa_v0 = true := by decide +kernel
theorem real_fa_v1_counter_exact : counterExactTop real_fa_v1 = true := by decide +kernel
theorem real_fa_v2_counter_exact : counterExactTop real_fa_v2 = true := by decide +kernel
theorem real_fa_v3_counter_exact : counterExactTop real_fa_v3 = true := by decide +kernel
theorem real_bh_v0_counter_exact : counterExactTop real_bh_v0 = true := by decide +kernel
theorem real_bh_v1_counter_exact : counterExactTop real_bh_v1 = true := by decide +kernel
theorem real_bh_v2_counter_exact : counterExactTop real_bh_v2 = true := by decide +kernel
theorem real_bh_v3_counter_exact : counterExactTop real_bh_v3 = true := by decide +kernel
theorem real_cro_v0_counter_exact : counterExactTop real_cro_v0 = true := by decide +kernel
theorem real_cro_v1_counter_exact : counterExactTop real_cro_v1 = true := by decide +kernel
theorem real_cro_v2_counter_exact : counterExactTop real_cro_v2 = true := by decide +kernel
theorem real_cro_v3_counter_exact : counterExactTop real_cro_v3 = true := by decide +kernel
theorem ant_system_v0_counter_exact : counterExactTop ant_system_v0 = true := by decide +kernel
theorem ant_system_v1_counter_exact : counterExactTop ant_system_v1 = true := by decide +kernel
theorem ant_system_v2_counter_exact : counterExactTop ant_system_v2 = true := by decide +kernel
theorem ant_system_v3_counter_exact : counterExactTop ant_system_v3 = true := by decide +kernel
theorem max_min_ant_system_v0_counter_exact : counterExactTop max_min_ant_system_v0 = true := by decide +kernel
theorem max_min_ant_system_v1_counter_exact : counterExactTop max_min_ant_system_v1 = true := by decide +kernel
theorem max_min_ant_system_v2_counter_exact : counterExactTop max_min_ant_system_v2 = true := by decide +kernel
theorem max_min_ant_system_v3_counter_exact : counterExactTop max_min_ant_system_v3 = true := by decide +kernel

end MahfModel.Props.C06.Templates
