/-
C05 — fourth part: "each evaluated individual carries exactly the value the objective function assigns to ITS solution"
at the place where values are made: the evaluators. Model: `Model/PopMachineC05Eval.lean`.

* the evaluators as written give every member `f` of its own solution, whatever its neighbours are;
* an evaluator that re-uses values between members "with the same solution" is sound exactly if its notion of "the
  same" (`eqv`, e.g. `PartialEq` on the encoding) never identifies two solutions the objective function tells apart.
  For `Vec<f64>`, `0.0 == -0.0`: with a sign-sensitive objective function a cache keyed on `==` is NOT sound
  (`eq_keyed_cache_violates`), a cache keyed on identity always is (`identity_keyed_cache_valid`).
-/
import MahfModel.Proofs.C05
import MahfModel.Model.PopMachineC05Eval
import MahfModel.Model.PopMachineMem
namespace MahfModel.Props.C05
open MahfModel.PopMachine

variable {O : Type}

/-- The evaluators as written: afterwards every member is evaluated, has kept its solution and carries `f` of it. -/
theorem evaluator_assigns_own_value (f : Nat → O) (p : List (Ind O)) :
    AllValid f (evalSlice f p) ∧ (evalSlice f p).map Ind.sol = p.map Ind.sol ∧
    ∀ i ∈ evalSlice f p, i.obj = some (f i.sol) := by
  have h3 := mem_map_evaluateWith f p
  exact ⟨fun i hi o ho => Option.some.inj (ho.symm.trans (h3 i hi)), map_evaluateWith_sol f p, h3⟩

/-- The value a member receives depends on its own solution only: not on its position, not on its neighbours, not on
what it or they carried before. -/
theorem evaluator_value_independent_of_neighbours (f : Nat → O) (p q : List (Ind O)) (k j : Nat)
    (h : (p[k]?).map Ind.sol = (q[j]?).map Ind.sol) :
    ((evalSlice f p)[k]?).map Ind.obj = ((evalSlice f q)[j]?).map Ind.obj := by
  have key : ∀ (r : List (Ind O)) (n : Nat),
      ((evalSlice f r)[n]?).map Ind.obj = ((r[n]?).map Ind.sol).map fun s => some (f s) := fun r n => by
    rw [evalSlice, List.getElem?_map, Option.map_map, Option.map_map]; rfl
  rw [key, key, h]

private theorem cachedOne_valid (eqv : Nat → Nat → Bool) (f : Nat → O)
    (hresp : ∀ a b, eqv a b = true → f a = f b) (done : List (Ind O)) (hd : AllValid f done)
    (w : Option Nat) (i : Ind O) : Valid f (cachedOne eqv f done w i) := by
  have hev := valid_evaluateWith f i
  unfold cachedOne
  split
  · exact hev
  · split
    · exact hev
    · rename_i prev hj
      split
      · rename_i he
        intro o ho
        have hv := hd prev (List.mem_of_getElem? hj) o ho
        rw [hv]; exact hresp _ _ he
      · exact hev

private theorem cachedEvalAux_valid (eqv : Nat → Nat → Bool) (f : Nat → O)
    (hresp : ∀ a b, eqv a b = true → f a = f b) :
    ∀ (p done : List (Ind O)) (ws : List (Option Nat)), AllValid f done → AllValid f (cachedEvalAux eqv f done ws p) := by
  intro p
  induction p with
  | nil => intro done ws hd; simpa [cachedEvalAux] using hd
  | cons i rest ih =>
    intro done ws hd
    simp only [cachedEvalAux]
    exact ih _ _ ((allValid_append f _ _).mpr ⟨hd, List.forall_mem_singleton.mpr (cachedOne_valid eqv f hresp done hd _ i)⟩)

/-- The smallest stale slice: the second member looks at the first under a key that identifies them, and takes its value. -/
theorem cachedEval_pair (eqv : Nat → Nat → Bool) (f : Nat → O) (a b : Nat) (hab : eqv a b = true) :
    cachedEval eqv f [none, some 0] [⟨a, none⟩, ⟨b, none⟩] = [⟨a, some (f a)⟩, ⟨b, some (f a)⟩] := by
  simp [cachedEval, cachedEvalAux, cachedOne, Ind.evaluateWith, hab]

/-- Soundness condition of EVERY cache of objective values: whatever members the look-ups go to (neighbours, first
occurrences, anything earlier), all individuals of all slices come out with `f` of their own solution if and only if the
key never identifies two solutions the objective function tells apart. -/
theorem cached_eval_valid_iff (eqv : Nat → Nat → Bool) (f : Nat → O) :
    (∀ (ws : List (Option Nat)) (p : List (Ind O)), AllValid f (cachedEval eqv f ws p)) ↔
    (∀ a b, eqv a b = true → f a = f b) := by
  constructor
  · intro h a b hab
    have hv := h [none, some 0] [⟨a, none⟩, ⟨b, none⟩]
    rw [cachedEval_pair eqv f a b hab] at hv
    exact hv _ (.tail _ (.head _)) (f a) rfl
  · intro hresp ws p
    exact cachedEvalAux_valid eqv f hresp p [] ws (by intro x hx; cases hx)

/-- The cache of the shape "once per run of equal neighbours" alone already needs the condition: if the key identifies
two solutions with different values, the slice consisting of just these two comes out stale. -/
theorem neighbour_cache_stale_of_coarse_key (eqv : Nat → Nat → Bool) (f : Nat → O) (a b : Nat)
    (hab : eqv a b = true) (hf : f a ≠ f b) :
    ¬ AllValid f (cachedEval eqv f (neighbourWitness 2) [⟨a, none⟩, ⟨b, none⟩]) := by
  intro hv
  rw [show neighbourWitness 2 = [none, some 0] from rfl, cachedEval_pair eqv f a b hab] at hv
  exact hf (hv _ (.tail _ (.head _)) (f a) rfl)

/-- A cache keyed on IDENTITY of the solution only saves calls: it is valid for every objective function. -/
theorem identity_keyed_cache_valid (f : Nat → O) (ws : List (Option Nat)) (p : List (Ind O)) :
    AllValid f (cachedEval (fun a b => a == b) f ws p) :=
  (cached_eval_valid_iff (fun a b => a == b) f).mpr (by intro a b h; simp at h; rw [h]) ws p

/-- `Vec<f64>`: id 0 = `[0.0]`, id 1 = `[-0.0]`, `==` identifies them, `f = signum` does not. The evaluator with the
neighbour cache keyed on `==` reports `1` for `[-0.0]`; the evaluator as written reports `-1`. -/
theorem eq_keyed_cache_violates :
    allValidB (fun s => if s = 0 then (1 : Int) else -1)
      (cachedEval (fun _ _ => true) (fun s => if s = 0 then (1 : Int) else -1) (neighbourWitness 2) [⟨0, none⟩, ⟨1, none⟩]) = false ∧
    allValidB (fun s => if s = 0 then (1 : Int) else -1)
      (evalSlice (fun s => if s = 0 then (1 : Int) else -1) [⟨0, none⟩, ⟨1, none⟩]) = true := by
  decide +kernel

example : (∀ a b, (fun a b : Nat => a == b) a b = true → (fun s : Nat => (s : Int) * s) a = (fun s : Nat => (s : Int) * s) b) := by
  intro a b h; simp at h; rw [h]
example : cachedEval (fun a b => a / 2 == b / 2) (fun s => s / 2) [none, some 0, some 0] [⟨4, none⟩, ⟨5, none⟩, ⟨7, some 0⟩]
    = [⟨4, some 2⟩, ⟨5, some 2⟩, ⟨7, some 3⟩] := by decide +kernel

end MahfModel.Props.C05
