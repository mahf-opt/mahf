/- C13 — the functional helpers of the permutation mutations: both circular swaps and both translocation helpers return
   permutations, agree with each other and realise their closed forms. -/
import MahfModel.Proofs.C13Swap
import MahfModel.Proofs.C13Transloc
import MahfModel.Proofs.C13
namespace MahfModel.Props.C13
open MahfModel.Variation

variable {α : Type}

/-- `circular_swap` returns a permutation of its input whenever it returns. -/
theorem circular_swap_perm (l l' : List α) (idx : List Nat) (h : circularSwap l idx = some l') :
    l'.Perm l := by
  unfold circularSwap at h
  split at h
  · cases h
  · exact swapPairs_perm _ _ _ h

/-- `circular_swap2` returns a permutation of its input whenever it returns. -/
theorem circular_swap2_perm (l l' : List α) (idx : List Nat) (h : circularSwap2 l idx = some l') :
    l'.Perm l := by
  match idx, h with
  | [], h | [_], h => cases h
  | i0 :: a :: t, h => exact swapPairs_perm _ _ _ (circularSwap2_eq_chain l i0 (a :: t) (List.cons_ne_nil _ _) ▸ h)

/-- On every valid input (at least two distinct in-range indices) neither implementation panics
and the two agree. -/
theorem circular_swap_agree (l : List α) (idx : List Nat) (hn : idx.Nodup) (h2 : 2 ≤ idx.length)
    (hr : ∀ i ∈ idx, i < l.length) :
    ∃ r, circularSwap l idx = some r ∧ circularSwap2 l idx = some r := by
  obtain ⟨r, e1, e2, _⟩ := circularSwap_agree l idx hn h2 hr
  exact ⟨r, e1, e2⟩

/-- Closed form: the element at `i_k` moves to `i_{(k+1) mod n}`; every other position is untouched. -/
theorem circular_swap_closed_form (l : List α) (idx : List Nat) (hn : idx.Nodup) (h2 : 2 ≤ idx.length)
    (hr : ∀ i ∈ idx, i < l.length) :
    ∃ r, circularSwap l idx = some r ∧ r.length = l.length ∧
      (∀ k (hk : k < idx.length),
        r[idx[(k + 1) % idx.length]'(Nat.mod_lt _ (Nat.lt_of_le_of_lt (Nat.zero_le k) hk))]? = l[idx[k]]?) ∧
      (∀ p, p ∉ idx → r[p]? = l[p]?) := by
  obtain ⟨r, e, c⟩ := circularSwap_cyc l idx hn h2 hr
  exact ⟨r, e, c.len, fun k hk => c.moves l idx r k _ _ (List.getElem?_eq_getElem _) (List.getElem?_eq_getElem hk),
    fun p hp => c.off p ((not_congr List.mem_reverse).mpr hp)⟩

/-- `translocate_slice` returns a permutation of the input (under the code's own contracts, a well-formed
range and the fitting assertion); by `translocate_agree` below, `translocate_slice2` returns the same list. -/
theorem translocate_perm (l : List α) (s e i : Nat) (h : translocValid l.length s e i = true) :
    ∃ r, translocateSlice l s e i = some r ∧ r.Perm l :=
  ⟨_, translocateSlice_eq l s e i h, translocSpec_perm l s e i ((translocValid_iff _ s e i).mp h).2.1⟩

/-- The two implementations agree on every valid input: both take the slice out and re-insert it
at `index` of the remainder … -/
theorem translocate_agree (l : List α) (s e i : Nat) (h : translocValid l.length s e i = true) :
    translocateSlice l s e i = some (translocSpec l s e i) ∧
    translocateSlice2 l s e i = some (translocSpec l s e i) :=
  ⟨translocateSlice_eq l s e i h, translocateSlice2_eq l s e i h⟩

/-- … and on every other input both panic; hence they agree on all inputs. -/
theorem translocate_agree_everywhere (l : List α) (s e i : Nat) :
    translocateSlice l s e i = translocateSlice2 l s e i := by
  cases h : translocValid l.length s e i with
  | true => rw [translocateSlice_eq l s e i h, translocateSlice2_eq l s e i h]
  | false => rw [(translocate_invalid l s e i h).1, (translocate_invalid l s e i h).2]

/-- The executable predicate evaluated in step O (`valid input ⇒ both outputs present, equal, a
permutation, and equal to the closed form`) holds on the model for EVERY input. -/
theorem circular_swap_holds (l : List Nat) (idx : List Nat) :
    cswapHolds l idx (circularSwap l idx) (circularSwap2 l idx) = true := by
  unfold cswapHolds
  cases h : cswapValid l.length idx with
  | false => simp
  | true =>
    simp only [cswapValid, Bool.and_eq_true, decide_eq_true_eq, nodupNat_iff, allBelow_iff] at h
    obtain ⟨⟨h2, hn⟩, hr⟩ := h
    obtain ⟨r, e1, e2, c⟩ := circularSwap_agree l idx hn h2 hr
    rw [e1, e2]
    simp only [if_true, beq_self_eq_true, Bool.true_and, Bool.and_eq_true, beq_iff_eq]
    exact ⟨List.isPerm_iff.mpr (circular_swap_perm l r idx e1), cswapSpec_eq l idx r hr c⟩

/-- Likewise for the translocation helpers. -/
theorem translocate_holds (l : List Nat) (s e i : Nat) :
    translocHolds l s e i (translocateSlice l s e i) (translocateSlice2 l s e i) = true := by
  unfold translocHolds
  cases h : translocValid l.length s e i with
  | false => simp
  | true =>
    rw [translocateSlice_eq l s e i h, translocateSlice2_eq l s e i h]
    simp only [if_true, beq_self_eq_true, Bool.true_and, Bool.and_true]
    exact List.isPerm_iff.mpr (translocSpec_perm l s e i ((translocValid_iff _ s e i).mp h).2.1)

/-! Non-vacuity of the hypotheses, on concrete inputs. -/
example : circularSwap [10, 11, 12, 13, 14] [1, 0, 4, 2] = some [11, 12, 14, 13, 10] := by decide +kernel
example : circularSwap2 [10, 11, 12, 13, 14] [1, 0, 4, 2] = some [11, 12, 14, 13, 10] := by decide +kernel
example : ([1, 0, 4, 2] : List Nat).Nodup ∧ 2 ≤ ([1, 0, 4, 2] : List Nat).length := by decide +kernel
example : translocValid 9 3 6 1 = true := by decide +kernel
example : translocateSlice [1, 2, 3, 4, 5, 6, 7, 8, 9] 3 6 1 = some [1, 4, 5, 6, 2, 3, 7, 8, 9] := by decide +kernel
example : translocateSlice [1, 2, 3, 4, 5, 6, 7, 8, 9] 6 9 6 = some [1, 2, 3, 4, 5, 6, 7, 8, 9] := by decide +kernel

end MahfModel.Props.C13
