/-
C15 — the files an experiment leaves behind: the exported log / configuration is the WHOLE content of
its file whatever the path held before, and the records in a (re)used experiment folder are those of
THIS call. Property theorems only; helper lemmas are in `Proofs/C15Files.lean` (and `Proofs/C15Cfg.lean` for the
configuration file's content).
-/
import MahfModel.Proofs.C15Files
import MahfModel.Proofs.C15Cfg
namespace MahfModel.Props.C15
open MahfModel.Log

section Files
variable {P B : Type} [DecidableEq P]

/-- `create_writer(path)` + serialising (`Log::to_json`, `Log::to_cbor`, `Configuration::to_ron`): afterwards
the file is EXACTLY what was written — for every earlier state of the file system, i.e. whether the path
did not exist or held a shorter, an equally long or a longer file — and no other path is touched. -/
theorem export_replaces_file (fs : Fs P B) (p : P) (bytes : List B) :
    fsRead (writeFile fs p bytes) p = some bytes ∧ ∀ q, q ≠ p → fsRead (writeFile fs p bytes) q = fsRead fs q :=
  ⟨writeFile_read fs p bytes, fun q h => writeFile_other fs p q bytes h⟩

/-- Reading a file as one item notices anything that lies behind the item (a decoder that reads one
item from the front — `c.dec (c.enc a ++ tail) = some (a, tail)`, the law itself — does not). -/
theorem stale_tail_is_noticed {α : Type} (c : Codec α B) (hc : c.Lawful) (a : α) (tail : List B) (ht : tail ≠ []) :
    decWhole c (c.enc a ++ tail) = none ∧ c.dec (c.enc a ++ tail) = some (a, tail) :=
  ⟨decWhole_enc_tail c hc a tail ht, hc a tail⟩

/-- What the theorems below exclude: opening the file WITHOUT truncation leaves, behind a new export
that is shorter than the old content, the old content's tail — and such a file does not decode. -/
theorem untruncated_export_keeps_tail {α : Type} (c : Codec α B) (hc : c.Lawful) (fs : Fs P B) (p : P) (a : α)
    (old : List B) (ho : fsRead fs p = some old) (hl : (c.enc a).length < old.length) :
    fsRead (writeFileInPlace fs p (c.enc a)) p = some (c.enc a ++ old.drop (c.enc a).length) ∧
    ((fsRead (writeFileInPlace fs p (c.enc a)) p).bind (decWhole c)) = none := by
  have h1 := writeFileInPlace_read fs p (c.enc a)
  rw [ho] at h1
  rw [h1]
  exact ⟨rfl, decWhole_enc_tail c hc a _ fun e => Nat.not_le.2 hl (List.drop_eq_nil_iff.1 e)⟩

variable {N V : Type} [DecidableEq N]

/-- The CBOR export decodes — the WHOLE file, through its own name table — to exactly the log: same
steps in order, same names and values; on every path state (nothing there, junk, an older export of a
longer or shorter log). -/
theorem cbor_file_decodes_exactly (c : Codec (CLog N V) B) (hc : c.Lawful) (fs : Fs P B) (p : P) (log : Log N V)
    (h : ∀ s ∈ log, (s.map Prod.fst).Nodup) : readLogFile c (toCborFile c fs p log) p = some log :=
  readLogFile_toCborFile c hc fs p log h

/-- The JSON export likewise (`_partial`: logs holding a value JSON cannot carry are excluded, see
`json_nonfinite_violates`). -/
theorem json_file_decodes_exactly_partial (c : Codec (CLog N V) B) (hc : c.Lawful) (finite : V → Bool) (fs : Fs P B) (p : P)
    (log : Log N V) (h : ∀ s ∈ log, (s.map Prod.fst).Nodup)
    (hf : ∀ s ∈ log, ∀ e ∈ s, ∀ v, e.2 = some v → finite v = true) :
    readLogFile c (toJsonFile c finite fs p log) p = some log := by
  rw [toJsonFile, exportJson_of_finite finite log hf]
  exact readLogFile_toCborFile c hc fs p log h

/-- Any sequence of exports (several logs to the same paths, in any interleaving): every path reads as
the LAST log exported to it. -/
theorem last_export_wins (c : Codec (CLog N V) B) (hc : c.Lawful) (before after : List (P × Log N V)) (fs : Fs P B)
    (p : P) (log : Log N V) (h : ∀ s ∈ log, (s.map Prod.fst).Nodup) (hafter : ∀ e ∈ after, e.1 ≠ p) :
    readLogFile c (exportAll c (before ++ (p, log) :: after) fs) p = some log := by
  rw [exportAll_append]
  simp only [exportAll]
  simp only [readLogFile, exportAll_other c after _ p hafter]
  exact readLogFile_toCborFile c hc _ p log h

omit [DecidableEq N] in
/-- The length-prefixed encoding of the compressed log (the shape of the CBOR file: array and map
headers carry their length) satisfies the codec law — the hypothesis `hc` above is not vacuous. -/
theorem len_codec_lawful {C : Type} : (lenCodec : Codec (CLog N V) (LTok N V C)).Lawful := by
  intro c rest
  simp only [lenCodec, encCLog, List.cons_append, List.append_assoc, decCLog]
  rw [decNames_enc]
  simp only [decSteps_enc, Option.map_some]

end Files

section Experiment
variable {B N V : Type} [DecidableEq N]

/-- What an experiment does NOT touch: the log files of other problems and of runs ≥ `runs` (an earlier
experiment's extra runs stay in the folder), and every log file if `log = false` — the configuration is
written all the same. -/
theorem experiment_other_files_untouched (c : Codec (CLog N V) B) (cfgBytes : List B)
    (run : String → Nat → Except Fail (Log N V)) (problems : List String) (runs : Nat) (logFlag : Bool) (fs fs' : Fs RecPath B)
    (h : parExperiment c cfgBytes run problems runs logFlag fs = .ok fs') :
    fsRead fs' .config = some cfgBytes ∧
    ∀ p r, (logFlag = false ∨ ¬ (r < runs ∧ p ∈ problems)) → fsRead fs' (.runLog p r) = fsRead fs (.runLog p r) := by
  refine ⟨parExperiment_config c cfgBytes run problems runs logFlag fs fs' h, fun p r hh => ?_⟩
  · rw [runJobs_frame c run logFlag _ _ fs' h _
      (hh.imp_right fun hn j hj e => hn (by cases e; exact (mem_jobs problems runs _ _).1 hj))]
    exact writeFile_other fs .config (.runLog p r) cfgBytes (fun e => nomatch e)

/-- `par_experiment` into a folder in ANY state (fresh, or holding the configuration and logs of an
earlier experiment with another configuration, more runs, longer logs, or junk under the same names):
if it returns `Ok`, `configuration.ron` is exactly THIS call's configuration export and, for every problem
and every run below `runs`, `<problem>_<run>.cbor` decodes as a whole to exactly the log of that run. -/
theorem experiment_records_are_this_calls (c : Codec (CLog N V) B) (hc : c.Lawful) (cfgBytes : List B)
    (run : String → Nat → Except Fail (Log N V)) (problems : List String) (runs : Nat) (fs fs' : Fs RecPath B)
    (hnd : ∀ p r log, run p r = .ok log → ∀ s ∈ log, (s.map Prod.fst).Nodup)
    (h : parExperiment c cfgBytes run problems runs true fs = .ok fs') :
    fsRead fs' .config = some cfgBytes ∧
    ∀ p ∈ problems, ∀ r, r < runs → ∃ log, run p r = .ok log ∧ readLogFile c fs' (.runLog p r) = some log := by
  refine ⟨parExperiment_config c cfgBytes run problems runs true fs fs' h, fun p hp r hr => ?_⟩
  exact runJobs_logs c hc run hnd _ _ fs' h r p ((mem_jobs problems runs r p).2 ⟨hr, hp⟩)

/-- A failing run aborts the experiment: it only returns `Ok` if every run did. -/
theorem experiment_ok_all_runs_ok (c : Codec (CLog N V) B) (hc : c.Lawful) (cfgBytes : List B)
    (run : String → Nat → Except Fail (Log N V)) (problems : List String) (runs : Nat) (fs fs' : Fs RecPath B)
    (hnd : ∀ p r log, run p r = .ok log → ∀ s ∈ log, (s.map Prod.fst).Nodup)
    (h : parExperiment c cfgBytes run problems runs true fs = .ok fs') (p : String) (hp : p ∈ problems) (r : Nat) (hr : r < runs) :
    ∃ log, run p r = .ok log :=
  runJobs_all_ok c run true _ _ fs' h (r, p) ((mem_jobs problems runs r p).2 ⟨hr, hp⟩)

/-- Two experiments, one after the other, into the same folder: afterwards the exported configuration
is the second one's; if the configurations differ (in a node, in nesting, in a parameter value) the file
differs from what the first experiment left — for every injective configuration encoding `enc`
(`cfg_bytes_injective_partial`: the code's, outside the recorded `PhantomData` defect). -/
theorem reused_folder_config_is_replaced {T : Type} (enc : T → List B) (henc : ∀ a b, enc a = enc b → a = b)
    (c : Codec (CLog N V) B) (runA runB : String → Nat → Except Fail (Log N V)) (problemsA problemsB : List String)
    (runsA runsB : Nat) (logA logB : Bool) (tA tB : T) (fs fs1 fs2 : Fs RecPath B)
    (h1 : parExperiment c (enc tA) runA problemsA runsA logA fs = .ok fs1)
    (h2 : parExperiment c (enc tB) runB problemsB runsB logB fs1 = .ok fs2) :
    fsRead fs2 .config = some (enc tB) ∧ (tA ≠ tB → fsRead fs2 .config ≠ fsRead fs1 .config) := by
  have e1 := parExperiment_config c (enc tA) runA problemsA runsA logA fs fs1 h1
  have e2 := parExperiment_config c (enc tB) runB problemsB runsB logB fs1 fs2 h2
  refine ⟨e2, fun hne he => hne ?_⟩
  rw [e1, e2] at he
  exact (henc _ _ (Option.some.inj he)).symm

end Experiment

/-- The code's configuration export, as file content, is injective (`_partial`: trees with a type
parameter held as plain `PhantomData` are excluded, see `phantom_identifier_violates`). -/
theorem cfg_bytes_injective_partial (a b : CTree String Param) (ha : noPh a = true) (hb : noPh b = true)
    (h : cfgBytes a = cfgBytes b) : a = b := by
  apply serCode_injective ha hb
  simp only [cfgBytes] at h
  exact (List.map_inj_right (fun x y e => by cases e; rfl)).1 h

/-- The export of a program of the `logger*` / `exp*` language denotes the program: programs that differ in
a node, in nesting or in a parameter value have different trees (and no `PhantomData` parameter), hence —
`cfg_bytes_injective_partial` — different configuration files. -/
theorem prog_export_injective (p q : Nodes) (h : cfgBytes (progTree p) = cfgBytes (progTree q)) : p = q := by
  have := cfg_bytes_injective_partial _ _ (progTree_noPh p) (progTree_noPh q) h
  simp only [progTree, CTree.node.injEq, true_and] at this
  exact progForest_injective p q this

/-! Non-vacuity -/
-- a lawful codec exists (`len_codec_lawful`), and with it: a 1-step log exported over a 3-step one
example : readLogFile (lenCodec : Codec (CLog String Nat) (LTok String Nat Unit))
    (toCborFile lenCodec (toCborFile lenCodec ([] : Fs Nat _) 7 [[("it", some 0)], [("it", some 1)], [("it", some 2)]]) 7 [[("it", some 5), ("a", none)]]) 7
    = some [[("it", some 5), ("a", none)]] := by decide +kernel
-- … whereas without truncation the old export's tail stays and the file does not decode (hypotheses of `untruncated_export_keeps_tail`)
example : ((fsRead (writeFileInPlace (toCborFile (lenCodec : Codec (CLog String Nat) (LTok String Nat Unit)) ([] : Fs Nat _) 7
      [[("it", some 0)], [("it", some 1)], [("it", some 2)]]) 7 (lenCodec.enc (compress [[("it", some 5)]]))) 7).bind (decWhole lenCodec)) = none := by decide +kernel
example : ((lenCodec : Codec (CLog String Nat) (LTok String Nat Unit)).enc (compress [[("it", some 5)]])).length
    < ((lenCodec : Codec (CLog String Nat) (LTok String Nat Unit)).enc (compress [[("it", some 0)], [("it", some 1)], [("it", some 2)]])).length := by decide +kernel
-- an experiment with 2 runs on 1 problem into a folder holding junk under all its names and a stale third run
example : (match parExperiment (lenCodec : Codec (CLog String Nat) (LTok String Nat Unit)) [.cfg (), .cfg ()]
      (fun _ r => .ok [[("it", some r)]]) ["p"] 2 true
      [(.config, [.junk 1, .junk 2, .junk 3]), (.runLog "p" 0, [.junk 9]), (.runLog "p" 2, [.junk 4])] with
    | .ok fs => fsRead fs .config == some [.cfg (), .cfg ()] &&
        readLogFile lenCodec fs (.runLog "p" 1) == some [[("it", some 1)]] &&
        readLogFile lenCodec fs (.runLog "p" 0) == some [[("it", some 0)]] &&
        fsRead fs (.runLog "p" 2) == some [.junk 4]
    | .error _ => false) = true := by decide +kernel
example : (∀ e ∈ ([(3, [[("a", some 1)]])] : List (Nat × Log String Nat)), e.1 ≠ 7) := by decide +kernel
-- `reused_folder_config_is_replaced`: an injective configuration encoding exists (the code's, on the program language)
example : ∀ a b : Nodes, (fun p => cfgBytes (progTree p)) a = (fun p => cfgBytes (progTree p)) b → a = b := prog_export_injective
-- programs differing in one parameter value export differently
example : cfgBytes (progTree (.cons (.loop 3 (.cons .log .nil)) .nil)) ≠ cfgBytes (progTree (.cons (.loop 5 (.cons .log .nil)) .nil)) :=
  fun h => by have := prog_export_injective _ _ h; simp at this

end MahfModel.Props.C15
