/-
C16 — "the population size stays within what the template's parameters prescribe", decided statically.

* `size_step_sound`, `size_analysis_sound`: the interval analysis `sizeOf` is sound for EVERY execution of the
  concrete size interpreter `sexec` (all condition outcomes, iteration counts, failure points, all choices a
  component makes inside its interval, any fuel).
* `size_within_sound`: if `sizeWithin t lo hi = true`, then in every terminating execution started on the empty
  stack every pass of every outermost loop ends with a current population of between `lo` and `hi` individuals
  (`hi = none`: no upper bound) — the same pass boundaries at which the run-level check reads the size.
* `<template>_v<i>_size`: the verdict, evaluated by the kernel on the tree (with parameters) that the real
  constructor built in THIS run (`Generated/TemplatesSized.lean`, regenerated from `/repo` on every check), for
  the bound `hcommon::templates::prescribed_size(template, i)`: `true` for all 21 templates (chemical reaction
  optimisation: at least 1, no upper bound; invasive weed: between the initial and the maximal size).  A loop body
  that changed the number of populations would have no invariant (`leaking_loop_refused`; the analysis is
  incomplete there, it never answers `true` wrongly).  For ALL parameter values (19 templates): `Props/C16Param.lean`.
-/
import MahfModel.Proofs.C16Size
import MahfModel.Generated.TemplatesSized
namespace MahfModel.Props.C16.Size
open MahfModel.Tpl MahfModel.Generated.Sized

/-- One component: if the interval transformer answers, every successful concrete step from a stack of sizes
inside the intervals ends inside the predicted intervals. -/
theorem size_step_sound (k : LeafKind) (p q c : Nat) (a a' : AbsStack) (s s' : List Nat)
    (ha : sizeStep k p q a = some a') (hc : Conc s a) (hs : leafStep k p q c s = some s') :
    Conc s' a' :=
  sizeStep_sound k p q c a a' s s' ha hc hs

/-- Trees: if the analysis maps `a` to `a'`, the concrete stack is in the concretisation of `a` and the
execution terminates, the resulting stack is in the concretisation of `a'`, and (for `d = 0`) every pass of
every outermost loop executed on the way ended within the bound `B`. -/
theorem size_analysis_sound (B : Itv) (o : SOracle) (fuel d : Nat) (t : SComp) (a a' : AbsStack) (s s' : SSt)
    (ha : sizeOf B d t a = some a') (hc : Conc s.stack a) (h : sexec B o fuel d t s = some s') :
    Conc s'.stack a' ∧ (s.ok = true → s'.ok = true) :=
  sexec_sound B o fuel d t a a' s s' ha hc h

/-- The verdict: every outermost loop pass of every terminating execution from the empty stack ends with a
current population size in `[lo, hi]`. -/
theorem size_within_sound (o : SOracle) (fuel : Nat) (t : SComp) (lo : Nat) (hi : Option Nat) (s' : SSt)
    (hw : sizeWithin t lo hi = true)
    (h : sexec ⟨lo, hi⟩ o fuel 0 t { stack := [], tick := 0, ok := true } = some s') :
    s'.ok = true :=
  sizeWithin_sound o fuel t lo hi s' hw h

/-- The ghost flag is never set again once cleared: `ok = true` at the end of an execution means it was true
throughout, i.e. NO pass of an outermost loop ended outside the bound. -/
theorem flag_never_reset (B : Itv) (o : SOracle) (fuel d : Nat) (t : SComp) (s s' : SSt)
    (h : sexec B o fuel d t s = some s') (hk : s'.ok = true) : s.ok = true :=
  sexec_ok_mono B o fuel d t s s' h hk

/-- … and one pass of an outermost loop that ends outside the bound clears it. -/
theorem pass_outside_bound_is_flagged (B : Itv) (s : SSt) (n : Nat) (rest : List Nat)
    (hs : s.stack = n :: rest) (hn : ¬ B.mem n) : (mark B 0 s).ok = false := by
  simp [mark_ok, hs, topIn, Bool.eq_false_iff.2 (mt (Itv.memb_iff B n).1 hn)]

/-- A loop body that changes the number of populations has no invariant: the analysis refuses. -/
theorem leaking_loop_refused (B : Itv) (d : Nat) (a : Itv) :
    sizeOf B d (.loop (.leaf .All 0 0)) [a] = none := by
  simp [Tpl.sizeOf, findInv, sizeStep, opOf, astep, stackJoin, stackLe]

/-- An unknown component is never assumed harmless. -/
theorem opaque_refused (B : Itv) (d a b : Nat) (st : AbsStack) : sizeOf B d (.leaf .opaque a b) st = none := by
  simp only [Tpl.sizeOf, sizeStep, opOf_opaque]

/-! Non-vacuity: a concrete run of a concrete tree, and the analysis distinguishing right from wrong bounds. -/
example : sizeWithin real_ga_v0 6 (some 6) = true := by decide +kernel
example : sizeWithin real_ga_v0 7 (some 7) = false := by decide +kernel
example : sizeWithin real_iwo_v0 3 (some 5) = false := by decide +kernel
example : (sexec ⟨6, some 6⟩ ⟨fun t => t < 40, fun _ => false, fun t => t⟩ 200 0 real_ga_v0
    { stack := [], tick := 0, ok := true }).map (fun s => (s.stack, s.ok)) = some ([6], true) := by decide +kernel
-- the same run judged against a bound it does not meet is flagged
example : (sexec ⟨7, some 7⟩ ⟨fun t => t < 40, fun _ => false, fun t => t⟩ 200 0 real_ga_v0
    { stack := [], tick := 0, ok := true }).map (·.ok) = some false := by decide +kernel
-- a component step: tournament selection of 6 from a population of 4, then a one-child crossover
example : sizeStep .Tournament 6 0 [⟨4, some 4⟩] = some [⟨6, some 6⟩, ⟨4, some 4⟩] := by decide +kernel
example : sizeStep .UniformCrossover 0 0 [⟨5, some 7⟩] = some [⟨3, some 7⟩] := by decide +kernel
example : Conc [6, 4] [⟨6, some 6⟩, ⟨4, some 4⟩] := by simp [Conc, Itv.mem]
-- chemical reaction optimisation: never empty, not bounded above (the invariant needs widening)
example : sizeFinal real_cro_v0 = some [⟨1, none⟩] := by decide +kernel

/-! ### Per-template obligations on the regenerated trees -/
theorem real_ga_v0_size : sizeWithin real_ga_v0 6 (some 6) = true := by decide +kernel
theorem real_ga_v1_size : sizeWithin real_ga_v1 9 (some 9) = true := by decide +kernel
theorem real_ga_v2_size : sizeWithin real_ga_v2 5 (some 5) = true := by decide +kernel
theorem real_ga_v3_size : sizeWithin real_ga_v3 2 (some 2) = true := by decide +kernel
theorem binary_ga_v0_size : sizeWithin binary_ga_v0 6 (some 6) = true := by decide +kernel
theorem binary_ga_v1_size : sizeWithin binary_ga_v1 9 (some 9) = true := by decide +kernel
theorem binary_ga_v2_size : sizeWithin binary_ga_v2 5 (some 5) = true := by decide +kernel
theorem binary_ga_v3_size : sizeWithin binary_ga_v3 2 (some 2) = true := by decide +kernel
theorem real_es_v0_size : sizeWithin real_es_v0 3 (some 3) = true := by decide +kernel
theorem real_es_v1_size : sizeWithin real_es_v1 5 (some 5) = true := by decide +kernel
theorem real_es_v2_size : sizeWithin real_es_v2 1 (some 1) = true := by decide +kernel
theorem real_es_v3_size : sizeWithin real_es_v3 2 (some 2) = true := by decide +kernel
theorem real_de_v0_size : sizeWithin real_de_v0 6 (some 6) = true := by decide +kernel
theorem real_de_v1_size : sizeWithin real_de_v1 8 (some 8) = true := by decide +kernel
theorem real_de_v2_size : sizeWithin real_de_v2 10 (some 10) = true := by decide +kernel
theorem real_de_v3_size : sizeWithin real_de_v3 4 (some 4) = true := by decide +kernel
theorem real_pso_v0_size : sizeWithin real_pso_v0 4 (some 4) = true := by decide +kernel
theorem real_pso_v1_size : sizeWithin real_pso_v1 1 (some 1) = true := by decide +kernel
theorem real_pso_v2_size : sizeWithin real_pso_v2 7 (some 7) = true := by decide +kernel
theorem real_pso_v3_size : sizeWithin real_pso_v3 2 (some 2) = true := by decide +kernel
theorem real_sa_v0_size : sizeWithin real_sa_v0 1 (some 1) = true := by decide +kernel
theorem real_sa_v1_size : sizeWithin real_sa_v1 1 (some 1) = true := by decide +kernel
theorem real_sa_v2_size : sizeWithin real_sa_v2 1 (some 1) = true := by decide +kernel
theorem real_sa_v3_size : sizeWithin real_sa_v3 1 (some 1) = true := by decide +kernel
theorem permutation_sa_v0_size : sizeWithin permutation_sa_v0 1 (some 1) = true := by decide +kernel
theorem permutation_sa_v1_size : sizeWithin permutation_sa_v1 1 (some 1) = true := by decide +kernel
theorem permutation_sa_v2_size : sizeWithin permutation_sa_v2 1 (some 1) = true := by decide +kernel
theorem permutation_sa_v3_size : sizeWithin permutation_sa_v3 1 (some 1) = true := by decide +kernel
theorem real_ls_v0_size : sizeWithin real_ls_v0 1 (some 1) = true := by decide +kernel
theorem real_ls_v1_size : sizeWithin real_ls_v1 1 (some 1) = true := by decide +kernel
theorem real_ls_v2_size : sizeWithin real_ls_v2 1 (some 1) = true := by decide +kernel
theorem real_ls_v3_size : sizeWithin real_ls_v3 1 (some 1) = true := by decide +kernel
theorem permutation_ls_v0_size : sizeWithin permutation_ls_v0 1 (some 1) = true := by decide +kernel
theorem permutation_ls_v1_size : sizeWithin permutation_ls_v1 1 (some 1) = true := by decide +kernel
theorem permutation_ls_v2_size : sizeWithin permutation_ls_v2 1 (some 1) = true := by decide +kernel
theorem permutation_ls_v3_size : sizeWithin permutation_ls_v3 1 (some 1) = true := by decide +kernel
theorem real_ils_v0_size : sizeWithin real_ils_v0 1 (some 1) = true := by decide +kernel
theorem real_ils_v1_size : sizeWithin real_ils_v1 1 (some 1) = true := by decide +kernel
theorem real_ils_v2_size : sizeWithin real_ils_v2 1 (some 1) = true := by decide +kernel
theorem real_ils_v3_size : sizeWithin real_ils_v3 1 (some 1) = true := by decide +kernel
theorem permutation_ils_v0_size : sizeWithin permutation_ils_v0 1 (some 1) = true := by decide +kernel
theorem permutation_ils_v1_size : sizeWithin permutation_ils_v1 1 (some 1) = true := by decide +kernel
theorem permutation_ils_v2_size : sizeWithin permutation_ils_v2 1 (some 1) = true := by decide +kernel
theorem permutation_ils_v3_size : sizeWithin permutation_ils_v3 1 (some 1) = true := by decide +kernel
theorem real_rs_v0_size : sizeWithin real_rs_v0 1 (some 1) = true := by decide +kernel
theorem real_rs_v1_size : sizeWithin real_rs_v1 1 (some 1) = true := by decide +kernel
theorem real_rs_v2_size : sizeWithin real_rs_v2 1 (some 1) = true := by decide +kernel
theorem real_rs_v3_size : sizeWithin real_rs_v3 1 (some 1) = true := by decide +kernel
theorem permutation_rs_v0_size : sizeWithin permutation_rs_v0 1 (some 1) = true := by decide +kernel
theorem permutation_rs_v1_size : sizeWithin permutation_rs_v1 1 (some 1) = true := by decide +kernel
theorem permutation_rs_v2_size : sizeWithin permutation_rs_v2 1 (some 1) = true := by decide +kernel
theorem permutation_rs_v3_size : sizeWithin permutation_rs_v3 1 (some 1) = true := by decide +kernel
theorem real_rw_v0_size : sizeWithin real_rw_v0 1 (some 1) = true := by decide +kernel
theorem real_rw_v1_size : sizeWithin real_rw_v1 1 (some 1) = true := by decide +kernel
theorem real_rw_v2_size : sizeWithin real_rw_v2 1 (some 1) = true := by decide +kernel
theorem real_rw_v3_size : sizeWithin real_rw_v3 1 (some 1) = true := by decide +kernel
theorem permutation_rw_v0_size : sizeWithin permutation_rw_v0 1 (some 1) = true := by decide +kernel
theorem permutation_rw_v1_size : sizeWithin permutation_rw_v1 1 (some 1) = true := by decide +kernel
theorem permutation_rw_v2_size : sizeWithin permutation_rw_v2 1 (some 1) = true := by decide +kernel
theorem permutation_rw_v3_size : sizeWithin permutation_rw_v3 1 (some 1) = true := by decide +kernel
theorem real_iwo_v0_size : sizeWithin real_iwo_v0 3 (some 6) = true := by decide +kernel
theorem real_iwo_v1_size : sizeWithin real_iwo_v1 2 (some 5) = true := by decide +kernel
theorem real_iwo_v2_size : sizeWithin real_iwo_v2 4 (some 4) = true := by decide +kernel
theorem real_iwo_v3_size : sizeWithin real_iwo_v3 1 (some 1) = true := by decide +kernel
theorem real_fa_v0_size : sizeWithin real_fa_v0 4 (some 4) = true := by decide +kernel
theorem real_fa_v1_size : sizeWithin real_fa_v1 6 (some 6) = true := by decide +kernel
theorem real_fa_v2_size : sizeWithin real_fa_v2 3 (some 3) = true := by decide +kernel
theorem real_fa_v3_size : sizeWithin real_fa_v3 1 (some 1) = true := by decide +kernel
theorem real_bh_v0_size : sizeWithin real_bh_v0 4 (some 4) = true := by decide +kernel
theorem real_bh_v1_size : sizeWithin real_bh_v1 6 (some 6) = true := by decide +kernel
theorem real_bh_v2_size : sizeWithin real_bh_v2 2 (some 2) = true := by decide +kernel
theorem real_bh_v3_size : sizeWithin real_bh_v3 1 (some 1) = true := by decide +kernel
theorem real_cro_v0_size : sizeWithin real_cro_v0 1 none = true := by decide +kernel
theorem real_cro_v1_size : sizeWithin real_cro_v1 1 none = true := by decide +kernel
theorem real_cro_v2_size : sizeWithin real_cro_v2 1 none = true := by decide +kernel
theorem real_cro_v3_size : sizeWithin real_cro_v3 1 none = true := by decide +kernel
theorem ant_system_v0_size : sizeWithin ant_system_v0 4 (some 4) = true := by decide +kernel
theorem ant_system_v1_size : sizeWithin ant_system_v1 6 (some 6) = true := by decide +kernel
theorem ant_system_v2_size : sizeWithin ant_system_v2 2 (some 2) = true := by decide +kernel
theorem ant_system_v3_size : sizeWithin ant_system_v3 2 (some 2) = true := by decide +kernel
theorem max_min_ant_system_v0_size : sizeWithin max_min_ant_system_v0 4 (some 4) = true := by decide +kernel
theorem max_min_ant_system_v1_size : sizeWithin max_min_ant_system_v1 6 (some 6) = true := by decide +kernel
theorem max_min_ant_system_v2_size : sizeWithin max_min_ant_system_v2 2 (some 2) = true := by decide +kernel
theorem max_min_ant_system_v3_size : sizeWithin max_min_ant_system_v3 2 (some 2) = true := by decide +kernel

end MahfModel.Props.C16.Size
