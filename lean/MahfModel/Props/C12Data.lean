/- The carrier `SZ` of the last examples of `Props/C12`: a total preorder in which two different values tie. It alone needs
the order on `Int`. -/
import MahfModel.Model.Replacement
import Mathlib.Order.Basic
import Mathlib.Data.Int.Order.Basic
namespace MahfModel.Replacement

/-- A carrier that is *not* a linear order: a value with a sign flag the order ignores (as `0.0` and
`-0.0`): two different values tie, `TotalLE` holds, and the theorems apply. -/
structure SZ where
  v : Int
  neg : Bool
  deriving DecidableEq
instance : Preorder SZ := Preorder.lift SZ.v
instance : DecidableLE SZ := fun a b => inferInstanceAs (Decidable (a.v ≤ b.v))
instance : DecidableLT SZ := fun a b => inferInstanceAs (Decidable (a.v < b.v))

end MahfModel.Replacement
