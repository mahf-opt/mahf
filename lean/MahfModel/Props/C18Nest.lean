/-
C18 — the inertia-weight clause for PSO loops that are not the only loop of the configuration
(`Model/PsoNest.lean`): the body of the PSO loop contains further `Scope`d loops / branches bounded by
conditions of the same kind as the PSO loop's own (memetic PSO, the way `heuristics::ils` nests its local
search), and / or the PSO loop itself runs inside the `Scope` of an enclosing loop (restarts).
`State` is a chain of registries; `Progress<ValueOf<Iterations>>` — what the inertia-weight update reads —
is keyed by the lens TYPE only, so the clause "the weight is the interpolation at the LOOP's current
progress" hangs on every nested condition writing to a shadowing entry of its own scope and never to the
PSO loop's.  Property theorems only; lemmas are in `Proofs/C18Chain.lean` and `Proofs/C18Nest.lean`.
-/
import MahfModel.Proofs.C18Nest
import MahfModel.Props.C18Loop
namespace MahfModel.Props.C18Nest
open MahfModel.Pso MahfModel.Props.C18 MahfModel.Props.C18Loop
set_option linter.unusedSectionVars false

variable {F : Type} [Field F] [LinearOrder F] [IsStrictOrderedRing F]

/-- **A `Scope` leaves the enclosing registries exactly as they were** — the `Iterations`, `Evaluations`
and both `Progress` entries of every enclosing loop — whatever loops, branches, evaluations and further
scopes its body consists of, whatever their conditions are (the same lens types and even the same bounds as
the enclosing loops'), for every population size, also when the body ends in `Err`; and the body does not
fail as long as `Iterations` and `Evaluations` exist somewhere in the chain. -/
theorem scope_leaves_enclosing_state (cast : Nat → F) (zero : F) (N fuel : Nat) (body : Comps) (ch : Chain F) :
    (cexec cast zero N fuel (.scope body) ch).chain = ch ∧
    (HasCounters ch → (cexec cast zero N fuel (.scope body) ch).status = .ok) :=
  scope_frame cast zero N fuel body ch

/-- The refinement of the memetic PSO in `seeded/C18-sub4-p3/demo.rs`: a scoped loop of three passes bounded
by an iteration bound, run while the PSO loop is in iteration 4 of 10 (progress `4/10` stored by the PSO
loop's condition). The loop really runs (three passes) … -/
example : (cexec (id : Nat → Nat) 0 6 100 (.scope (.cons (.loop (.ltIter 3) (.cons .nop .nil)) .nil))
    [⟨some 4, some 30, some 40, none⟩]).passes = 3 := by decide

/-- … whereas the SAME loop without the `Scope` restarts nothing (`Loop::execute` does not reset `Iterations`)
and overwrites the progress of the enclosing loop (here with `4 / 3`, in `Nat`): the hypothesis "scoped" of
`nested_run_keeps_swarm_consistent_partial` cannot be dropped. -/
example : ((cexec (id : Nat → Nat) 0 6 100 (.loop (.ltIter 3) (.cons .nop .nil))
    [⟨some 4, some 30, some 40, none⟩]).chain.map (fun fr => fr.progIter)) = [some 1] := by decide

/-- **Whole runs of a PSO whose loop body contains scoped refinements, on top of ANY enclosing registries.**
(`_partial`: the excluded region is "a slot holds an UNSCOPED loop / branch / evaluation" — see the known finding
`unscoped_branch_violates` below.)
Put arbitrary scoped components (`Slots.allScoped`) in front of the velocity update, behind the boundary
repair, in front of the inertia-weight update and behind the swarm update, and run the PSO on top of any
chain `below` of enclosing registries (empty for a stand-alone run; the registries of the enclosing loops,
holding THEIR `Iterations` / `Progress`, when the PSO runs inside their `Scope`).  Under the hypotheses of
`run_keeps_swarm_consistent`, after every number of passes and for every fuel of the nested loops:
* the run is the run of the plain PSO loop — no `Err` / panic — and the enclosing registries are untouched;
* in particular the stored weight is `wAt` of the PSO loop's own iteration count (the linear interpolation at
  the PSO loop's progress `j / n`, see `weight_schedule`), and every velocity update scaled the old velocity
  with it;
* sizes, velocity clamp, global best = minimal personal best, personal bests = fold over the evaluated
  populations hold as for the plain loop. -/
theorem nested_run_keeps_swarm_consistent_partial (d : Nat) (cast : Nat → F) (zero : F) (ifuel : Nat) (sl : Slots)
    (hsl : sl.allScoped = true) (P : Params F) (n : Nat) (f : List F → F)
    (repair : List F → List F) (c : Cond) (witness : List (List F)) (draws : Nat → List (List (F × F)))
    (st : RunSt F) (below : Chain F) (h : RunHyp d cast P n repair c witness draws st) (hit : st.lv.iters = 0)
    (fuel : Nat) :
    let r := psoRunN cast zero ifuel sl P f repair c witness draws fuel ⟨st, below⟩
    r.1 = .ok ∧ r.2.below = below ∧
    r.2.st = (psoRun cast zero P f repair c witness draws fuel st).2 ∧
    r.2.st.sw.vs.length = st.sw.xs.length ∧ r.2.st.sw.pbest.length = st.sw.xs.length ∧
    r.2.st.sw.xs.length = st.sw.xs.length ∧
    (∀ v ∈ r.2.st.sw.vs, ∀ x ∈ v, -P.vmax ≤ x ∧ x ≤ P.vmax) ∧
    GbestIsMinPbest r.2.st.sw.pbest r.2.st.sw.gbest ∧
    r.2.st.sw.w = wAt cast P n st.sw.w r.2.st.lv.iters ∧
    (∀ e ∈ r.2.st.wlog, e.2 = wAt cast P n st.sw.w e.1) ∧
    r.2.st.sw.pbest = pbestRun st.sw.xs r.2.st.hist := by
  intro r
  -- the scoped run is the plain run, lifted over the registries below
  have hr : r = liftN (psoRun cast zero P f repair c witness draws fuel) ⟨st, below⟩ := by
    simp only [r, psoRunN, psoRun, loopGoN_scoped cast zero ifuel sl P f repair c draws hsl, liftN]
  obtain ⟨h1, h2, h3, h4, h5, h6, h7, h8, h9, _⟩ :=
    run_keeps_swarm_consistent d cast zero P n f repair c witness draws st h hit fuel
  rw [hr]
  exact ⟨h1, rfl, rfl, h2, h3, h4, h5, h6, h7, h8, h9⟩

/-! The hypotheses are satisfiable on a non-trivial input: `RunHyp` on the run of `Props/C18Loop.lean` (two
particles, composite termination formula, inertia-weight update; the `example` there), `below` is arbitrary,
and the slots may hold the demo's refinement loop behind the boundary repair, a scoped branch on an iteration
bound around a scoped evaluation-bounded loop in front of the inertia-weight update, and a scoped loop with
the PSO loop's own termination formula behind the swarm update. -/
def exSlots : Slots :=
  { pre := .nil,
    con := .cons (.scope (.cons (.loop (.ltIter 3) (.cons .nop .nil)) .nil)) .nil,
    ine := .cons (.scope (.cons (.branch (.ltIter 5)
      (.cons (.scope (.cons (.loop (.ltEval 12) (.cons .evals .nil)) .nil)) .nil)) .nil)) .nil,
    upd := .cons (.scope (.cons (.loop (.or (.ltEval 30) (.ltIter 10)) (.cons .evals .nil)) .nil)) .nil }

example : exSlots.allScoped = true := by decide

/-! ### An UNSCOPED condition on an iteration bound in the loop body (KNOWN FINDING)

`Progress<L>` is keyed by the lens type `L` only. A `Branch` (`if_`) whose condition contains
`LessThanN::iterations(k)` and that stands in the body of the PSO loop WITHOUT a `Scope` is initialised in the
PSO loop's own registry and `LessThanN::evaluate` then overwrites the PSO loop's
`Progress<ValueOf<Iterations>>` with `iterations / k`: the inertia-weight update of that pass stores the
interpolation at `iterations / k` instead of at the loop's progress `iterations / n` — for `k < n` it even
leaves the interval between start and end weight. -/

/-- What an unscoped `if iterations < k { … }` does to the PSO loop's registry, for every `k` and every state in
which the PSO loop's condition has stored a progress: it replaces that progress by `iterations / k`. -/
theorem unscoped_branch_overwrites_progress (cast : Nat → F) (zero : F) (k : Nat) (s : NestSt F) (p : F)
    (hp : s.st.lv.progIter = some p) :
    runSlot cast zero 5 (.cons (.branch (.ltIter k) (.cons .nop .nil)) .nil) s =
      (.ok, { s with st := { s.st with lv := { s.st.lv with progIter := some (cast s.st.lv.iters / cast k) } } }) := by
  obtain ⟨st, below⟩ := s
  obtain ⟨sw, lv, best, wlog, hist⟩ := st
  obtain ⟨it, ev, pi, pe⟩ := lv
  simp only at hp
  subst hp
  by_cases h : it < k <;>
    simp [runSlot, cexecs, cexec, evalCondC, getFirst, setFirst, frameOf, unframe, h]

/-- The full-strength statement — NO component in a slot of the loop body, scoped or not, disturbs the progress
the PSO loop's condition stored. It is false for the code as it is (`unscoped_branch_violates`). -/
def SlotKeepsLoopProgress : Prop :=
  ∀ (cs : Comps) (s s' : NestSt Rat) (p : Rat), s.st.lv.progIter = some p →
    runSlot (Nat.cast : Nat → Rat) 0 5 cs s = (.ok, s') → s'.st.lv.progIter = some p

/-- The PSO loop of `exRun` in iteration 5 of 8 (its condition stored progress `5/8`). -/
def unscopedSt : NestSt Rat := ⟨{ exRun with lv := ⟨5, 12, some (5 / 8), none⟩ }, []⟩

/-- `if iterations < 4 { nop }` behind the boundary repair, weights `0.9 → 0.4`: in iteration 5 of 8 the
inertia-weight update stores the interpolation at `5/4`, i.e. `11/40 = 0.275` — below the end weight — where the
schedule demands the interpolation at `5/8`, i.e. `47/80`. -/
theorem unscoped_branch_violates :
    ∃ s', runSlot (Nat.cast : Nat → Rat) 0 5 (.cons (.branch (.ltIter 4) (.cons .nop .nil)) .nil) unscopedSt = (.ok, s') ∧
      s'.st.lv.progIter = some (5 / 4) ∧
      (phaseInertia exParams s'.st).2.sw.w = 11 / 40 ∧
      linear exParams.start exParams.stop ((5 : Rat) / 8) = 47 / 80 ∧ (11 / 40 : Rat) < exParams.stop := by
  refine ⟨_, unscoped_branch_overwrites_progress (Nat.cast : Nat → Rat) 0 4 unscopedSt (5 / 8) rfl, ?_, ?_, ?_, ?_⟩
  all_goals decide +kernel

theorem slot_full_statement_fails : ¬ SlotKeepsLoopProgress := by
  intro h
  obtain ⟨s', hs, hp, -⟩ := unscoped_branch_violates
  exact absurd (hp.symm.trans (h _ unscopedSt s' (5 / 8) rfl hs)) (by decide +kernel)

/-- What does hold (`_partial`): scoped components in a slot leave the PSO loop's registry — and every enclosing
one — exactly as it was. Excluded region: unscoped loops, branches and evaluations. -/
theorem slot_keeps_loop_progress_partial (cast : Nat → F) (zero : F) (ifuel : Nat) (cs : Comps) (s : NestSt F)
    (h : Comps.allScoped cs = true) : runSlot cast zero ifuel cs s = (.ok, s) :=
  runSlot_scoped cast zero ifuel cs s h

example : Comps.allScoped (.cons (.scope (.cons (.branch (.ltIter 4) (.cons .nop .nil)) .nil)) .nil) = true := by decide

end MahfModel.Props.C18Nest
