/-
C15 — Experiment records are exact: log entries and log export (the configuration export is in `Props/C15Cfg.lean`,
the files in `Props/C15Files.lean`, sequences of runs on one state in `Props/C15Runs.lean`).
Property theorems only; helper lemmas are in `Proofs/C15Log.lean` (one logger execution), `Proofs/C15Runs.lean`
(programs) and `Proofs/C15Export.lean` (compressed export).
-/
import MahfModel.Proofs.C15Runs
import MahfModel.Proofs.C15Export
namespace MahfModel.Props.C15
open MahfModel.Log

section Logger
variable {N V : Type} [DecidableEq N]

/-- One logger execution (no trigger fails), in ANY state — with a loop counter (`it = some v`) or
without one: rules are evaluated in order; the log grows by exactly one step holding the first fired
entry of every name, preceded by the iteration entry unless a rule logged that name itself or no
counter exists — or by nothing at all if no trigger fired. It never panics. -/
theorem logger_step (iterName : N) (rules : List (Rule N V)) (it : Option V) (log : Log N V)
    (h : ∀ r ∈ rules, r.trig = .fire ∨ r.trig = .skip) :
    loggerExec iterName rules it log = .ok (log ++ (specStepO iterName rules it).toList) :=
  loggerExec_of_noFail iterName rules it log h

/-- The iteration entry: in front with the counter's value if a counter exists and no rule logged
the name; absent if no counter exists (and no rule logged the name). -/
theorem iteration_entry (iterName : N) (rules : List (Rule N V)) (it : Option V) (st : Step N V)
    (h : specStepO iterName rules it = some st) (hn : contains (dedup (fired rules)) iterName = false) :
    (∀ v, it = some v → st = (iterName, some v) :: dedup (fired rules)) ∧
    (it = none → st = dedup (fired rules) ∧ lookup st iterName = none) := by
  cases specStepO_some h
  cases it <;> simp [pushIteration, hn, (lookup_none_iff _ _).2 (mt (contains_iff _ _).2 (ne_true_of_eq_false hn))]

/-- What a step contains: the first fired rule of a name wins, every name occurs once. -/
theorem step_first_rule_wins (rules : List (Rule N V)) (n : N) :
    lookup (dedup (fired rules)) n = lookup (fired rules) n ∧ ((dedup (fired rules)).map Prod.fst).Nodup :=
  ⟨lookup_dedup _ n, (dedupAux_names _ []).1⟩

/-- Every step a logger execution appends has pairwise distinct names (the hypothesis of the
export round-trip is met by every log the code can produce). -/
theorem step_names_nodup (iterName : N) (rules : List (Rule N V)) (it : Option V) (st : Step N V)
    (h : specStepO iterName rules it = some st) : (st.map Prod.fst).Nodup :=
  specStepO_some h ▸ pushIteration_nodup iterName it _ ((dedupAux_names _ []).1)

/-- A missing source is an explicit `null`, not a missing entry: the entry of a fired rule is in the
step whatever its value is. -/
theorem fired_rule_has_entry (rules : List (Rule N V)) (r : Rule N V) (hr : r ∈ rules)
    (hf : r.trig = .fire) : (lookup (dedup (fired rules)) r.name).isSome = true := by
  rw [(step_first_rule_wins rules r.name).1, lookup_isSome_iff]
  exact List.mem_map.2 ⟨_, (mem_fired rules _).2 ⟨r, hr, hf, rfl⟩, rfl⟩

/-- The entry of a name is the value read by the FIRST fired rule of that name — `some v`, or the
explicit null `none` if that rule's source state is missing (rules before it either do not fire or
carry another name; whatever comes after it is irrelevant). -/
theorem first_fired_rule_value (pre post : List (Rule N V)) (r : Rule N V) (hf : r.trig = .fire)
    (hpre : ∀ q ∈ pre, q.trig = .fire → q.name ≠ r.name) :
    lookup (dedup (fired (pre ++ r :: post))) r.name = some r.value := by
  rw [lookup_dedup, fired_append, fired_cons, if_pos hf, lookup_append_of_not_mem, lookup_cons, if_pos rfl]
  intro hm
  obtain ⟨e, he, hen⟩ := List.mem_map.1 hm
  obtain ⟨q, hq, hqf, rfl⟩ := (mem_fired pre e).1 he
  exact hpre q hq hqf hen

/-- Executions in which nothing fires add nothing: if no trigger fires (and none fails), the log is
unchanged — whatever the extractors would have read, with or without a loop counter. -/
theorem nothing_fires_adds_nothing (iterName : N) (rules : List (Rule N V)) (it : Option V) (log : Log N V)
    (h : ∀ r ∈ rules, r.trig = .skip) : loggerExec iterName rules it log = .ok log := by
  have hf : fired rules = [] :=
    List.eq_nil_iff_forall_not_mem.2 fun e he => by
      obtain ⟨r, hr, hfire, _⟩ := (mem_fired rules e).1 he
      rw [h r hr] at hfire
      cases hfire
  rw [logger_step iterName rules it log (fun r hr => Or.inr (h r hr)), specStepO_eq, hf]
  exact congrArg Except.ok (List.append_nil log)

/-- …and conversely a step is appended as soon as one trigger fires. -/
theorem some_trigger_fires_adds_one (iterName : N) (rules : List (Rule N V)) (it : Option V) (log : Log N V)
    (h : ∀ r ∈ rules, r.trig = .fire ∨ r.trig = .skip) (r : Rule N V) (hr : r ∈ rules) (hf : r.trig = .fire) :
    ∃ st, loggerExec iterName rules it log = .ok (log ++ [st]) ∧ (lookup st r.name).isSome = true := by
  have hm := fired_rule_has_entry rules r hr hf
  have hne : (dedup (fired rules)).isEmpty = false := by
    cases hd : dedup (fired rules) with
    | nil => rw [hd] at hm; cases hm
    | cons _ _ => rfl
  rw [logger_step iterName rules it log h, specStepO_eq, hne]
  exact ⟨_, rfl, lookup_pushIteration iterName it _ _ hm⟩

/-- A logger execution only completes if no trigger that was reached returned `Err` or panicked
(contrapositive: a failing trigger aborts the execution, which returns no log). -/
theorem failing_trigger_aborts (iterName : N) (rules : List (Rule N V)) (it : Option V) (log log' : Log N V)
    (h : loggerExec iterName rules it log = .ok log') : ∀ r ∈ rules, r.trig = .fire ∨ r.trig = .skip :=
  (loggerExec_ok iterName rules it log log' h).1

/-- The log after a run is the log before it followed, in execution order, by the steps of the
logger executions that fired. -/
theorem log_is_concat (iterName : N) (execs : List (List (Rule N V) × Option V)) (log log' : Log N V)
    (h : runExecs iterName execs log = .ok log') :
    log' = log ++ execs.filterMap (fun e => specStepO iterName e.1 e.2) := by
  induction execs generalizing log with
  | nil => simp only [runExecs] at h; cases h; simp
  | cons x xs ih =>
    obtain ⟨rules, it⟩ := x
    simp only [runExecs] at h
    cases hl : loggerExec iterName rules it log with
    | error e => simp [hl] at h
    | ok l =>
      simp only [hl] at h
      have h1 := (loggerExec_ok iterName rules it log l hl).2
      have h2 := ih l h
      rw [h2, h1, List.filterMap_cons]
      cases specStepO iterName rules it <;> simp

end Logger

/-- Every trigger is evaluated exactly once per logger execution, in rule order: the pass over the
rule specifications computes the same step as the resolved rules, and leaves every trigger's own
state advanced by exactly one evaluation. -/
theorem triggers_once (env : Env) (rs : List RuleSt) (s : Step String Nat) :
    (evalRules env rs s).1 = execRules (resolve env rs) s ∧
    ((∀ r ∈ resolve env rs, r.trig = .fire ∨ r.trig = .skip) → (evalRules env rs s).2 = advance env rs) :=
  ⟨(evalRules_spec env rs s).1, (evalRules_spec env rs s).2.2⟩

/-- The ghost trace the next theorem speaks about is faithful: every configured `Logger` execution
that completes adds exactly one record — the rules with their trigger outcomes and source values in
the state at that moment, and the loop counter then visible (`none` outside any loop). -/
theorem logger_execution_recorded (s s' : St) (rs : List RuleSt) (hr : s.rules = some rs)
    (h : doLog s = .ok s') : s'.trace = s.trace ++ [(resolve s.env rs, getIters s.env)] := by
  rw [doLog_eq, doLogR_eq, hr] at h
  simp only [lift] at h
  revert h
  cases loggerExec iterName (resolve s.env rs) (getIters s.env) s.log with
  | error e => exact fun h => nomatch h
  | ok l => rintro ⟨rfl⟩; rfl

/-- For every program of the language (any nesting of blocks, loops, branches, scopes, any logger
placement, loop-free programs included): a run that completes leaves the log = concatenation of
the steps of its logger executions. -/
theorem program_log_is_concat (fuel : Nat) (rules : Option (List RuleSt)) (prog : Nodes) (s : St)
    (h : runProgram fuel rules prog = .ok s) :
    s.log = s.trace.filterMap (fun e => specStepO iterName e.1 e.2) := by
  obtain ⟨tr, h1, h2⟩ := execs_trace fuel prog _ s h
  simp only [List.nil_append] at h1
  rw [h1]
  simpa using log_is_concat iterName tr [] s.log h2

section Export
variable {N V : Type} [DecidableEq N]

/-- The compressed export inverts: for every log whose steps have distinct names,
`decompress (compress log) = log` (same steps, names and values, in order). -/
theorem compress_decompress (log : Log N V) (h : ∀ s ∈ log, (s.map Prod.fst).Nodup) :
    decompress (compress log) = some log :=
  decompress_compress log h

/-- The name table lists every name once: keys and names correspond one to one. -/
theorem name_table_injective (log : Log N V) (h : ∀ s ∈ log, (s.map Prod.fst).Nodup) :
    (compress log).names.Nodup :=
  (compressFrom_dec log [] List.nodup_nil h).2.1

/-- The per-step maps of the export are hash maps, written in arbitrary order. Any permutation of a
step's entries decodes to a permutation of the step, which denotes the same name → value map. -/
theorem export_order_independent (names : List N) (m m' : List (Nat × Option V)) (s : Step N V)
    (hp : m.Perm m') (hd : decodeStep names m = some s) (hn : (s.map Prod.fst).Nodup) :
    ∃ s', decodeStep names m' = some s' ∧ s.Perm s' ∧ sameMap s s' :=
  decodeStep_perm_sameMap names hp hd hn

/-- The JSON export inverts as long as every logged value is one JSON can carry (`_partial`: logs
holding a non-finite float are excluded, see `json_nonfinite_violates`). The CBOR export is
`compress` itself (`compress_decompress`). -/
theorem json_export_partial (finite : V → Bool) (log : Log N V) (h : ∀ s ∈ log, (s.map Prod.fst).Nodup)
    (hf : ∀ s ∈ log, ∀ e ∈ s, ∀ v, e.2 = some v → finite v = true) :
    decompress (exportJson finite log) = some log :=
  exportJson_of_finite finite log hf ▸ compress_decompress log h

/-- The full statement (every log) — it does NOT hold: `serde_json` writes a non-finite float as null. -/
def json_export_full : Prop :=
  ∀ (finite : Nat → Bool) (log : Log String Nat), (∀ s ∈ log, (s.map Prod.fst).Nodup) →
    decompress (exportJson finite log) = some log

/-- Counterexample (known finding): a logged value JSON cannot carry (here: 7 stands for +inf) comes
back as `null`, i.e. as "source missing". -/
theorem json_nonfinite_violates :
    (decompress (exportJson (fun v : Nat => v != 7) [[("it", some 0), ("y", some 7)]])
      == some [[("it", some 0), ("y", some 7)]]) = false := by decide +kernel

theorem json_export_full_fails : ¬ json_export_full := by
  intro h
  have := h (fun v => v != 7) [[("it", some 0), ("y", some 7)]] (by decide +kernel)
  have hv := json_nonfinite_violates
  rw [this] at hv
  simp at hv

end Export

/-! Non-vacuity: concrete, non-trivial instances of the hypotheses. -/
example : ∀ r ∈ ([⟨.fire, "a", some 1⟩, ⟨.skip, "b", none⟩, ⟨.fire, "a", some 2⟩] : List (Rule String Nat)),
    r.trig = .fire ∨ r.trig = .skip := by decide +kernel
example : loggerExec "it" ([⟨.fire, "a", some 1⟩, ⟨.skip, "b", none⟩, ⟨.fire, "a", some 2⟩, ⟨.fire, "c", none⟩] : List (Rule String Nat))
    (some 4) [] = .ok [[("it", some 4), ("a", some 1), ("c", none)]] := by decide +kernel
example : loggerExec "it" ([⟨.fire, "a", some 1⟩, ⟨.fire, "c", none⟩] : List (Rule String Nat)) none []
    = .ok [[("a", some 1), ("c", none)]] := by decide +kernel
example : (match runProgram 10 (some [⟨.always, .xId⟩]) (.cons .log (.cons (.setx 2) (.cons .log .nil))) with
    | .ok s => s.log == [[("c15::X", none)], [("c15::X", some 2)]]
    | .error _ => false) = true := by decide +kernel
-- first_fired_rule_value: a skipped rule of the same name and a fired rule of another name in front, source missing
example : lookup (dedup (fired ([⟨.skip, "a", some 9⟩, ⟨.fire, "b", some 1⟩] ++ (⟨.fire, "a", none⟩ : Rule String Nat) :: [⟨.fire, "a", some 2⟩]))) "a"
    = some none := by decide +kernel
example : ∀ s ∈ ([[("it", some 0), ("a", some 1)], [("a", none), ("it", some 1), ("b", some 2)]] : Log String Nat),
    (s.map Prod.fst).Nodup := by decide +kernel
example : (compress ([[("it", some 0), ("a", some 1)], [("a", none), ("it", some 1), ("b", some 2)]] : Log String Nat)).names
    = ["it", "a", "b"] := by decide +kernel
example : (match runProgram 100 (some [⟨.every 2, .xId⟩, ⟨.always, .named 1 .iter⟩])
    (.cons (.setx 0) (.cons (.loop 3 (.cons .log (.cons (.addx 1) .nil))) .nil)) with
    | .ok s => s.log == [[("mahf::state::common::Iterations", some 0), ("c15::X", some 0), ("n1", some 0)],
                         [("mahf::state::common::Iterations", some 1), ("n1", some 1)],
                         [("mahf::state::common::Iterations", some 2), ("c15::X", some 2), ("n1", some 2)]]
    | .error _ => false) = true := by decide +kernel

end MahfModel.Props.C15
