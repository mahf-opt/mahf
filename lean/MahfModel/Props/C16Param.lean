/-
C16 — the shipped templates for ALL parameter values (not only the points instantiated in a run).

`Model/TemplatesParam.lean` writes every template constructor down as a function `tplT` of its parameters; the
explicit-parameter runs of the correspondence check compare, for parameter points drawn over the documented
domain (boundaries included), the tree the real constructor built with `tplT` at that point (size skeleton, loop
conditions) and evaluate the analyses on the real tree.  Here the analyses are proved to succeed on `tplT` for
every parameter value, and composed with their soundness theorems:

* `template_runs_balanced`       — every terminating execution of every template at every parameter point ends
                                    with one population and every loop pass was height-neutral;
* `template_runs_exact_iterations` — … made exactly the requested number of passes (outer loop and the scoped
                                    local search of ILS), whatever the termination condition's kind;
* `template_runs_sized_partial`  — … kept the population inside the prescribed bound at every pass boundary;
                                    *partial*: not for invasive weed optimisation and chemical reaction optimisation,
                                    whose loop invariant depends on the parameter values (widening) — for those the
                                    verdict is evaluated per parameter point (`Props/C16Size.lean`, and by the driver
                                    on every explicit-parameter run);
* `documented_parameters_accepted` — a parameter point that meets the documented requirements is accepted by the
                                    constructor (over any carrier of the real-valued parameters);
* `aco_coincident_cities_violates` — KNOWN FINDING: on a TSP instance with two cities at the same place the ant
                                    colony generation panics.
-/
import MahfModel.Proofs.C16
import MahfModel.Proofs.C16Iter
import MahfModel.Proofs.C16Param
import MahfModel.Proofs.C16Size
import MahfModel.Model.TemplatesInst
namespace MahfModel.Props.C16.Param
open MahfModel.Tpl

/-- Stack balance is independent of the parameters. -/
theorem template_balanced_all_parameters (name : Tid) (ps : List Nat) (cool : Bool) (t : SComp)
    (h : tplT name ps cool = some t) : balanced t.erase = true :=
  tpl_balanced_all name ps cool t h

/-- … so every terminating execution, at every parameter point, under every oracle (conditions, seeds, failure
points), ends with exactly one population and only height-neutral loop passes. -/
theorem template_runs_balanced (name : Tid) (ps : List Nat) (cool : Bool) (t : SComp)
    (h : tplT name ps cool = some t) (o : Oracle) (fuel : Nat) (s' : St)
    (hx : exec o fuel t.erase { height := 0, tick := 0, passesBalanced := true } = some s') :
    s'.height = 1 ∧ s'.passesBalanced = true :=
  balanced_run o fuel t.erase s' (tpl_balanced_all name ps cool t h) hx

/-- No template nests or chains loops within one scope level, whatever its parameters and conditions. -/
theorem template_iterations_all_parameters (name : Tid) (ps : List Nat) (cool : Bool) (t : SComp) (c ci : LCond)
    (h : tplT name ps cool = some t) : itersExact (t.toL c ci) = true :=
  tpl_iters_all name ps cool t c ci h

/-- … so in every terminating execution the flag `exact` is still set: every loop execution made a number of passes its
condition allows (`LCond.okCount`: with `LessThanN::iterations(n)` exactly `n`, also for the scoped local search of
ILS on every entry). -/
theorem template_runs_exact_iterations (name : Tid) (ps : List Nat) (cool : Bool) (t : SComp) (c ci : LCond)
    (h : tplT name ps cool = some t) (o : LOracle) (fuel : Nat) (s' : LSt)
    (hx : lexec o fuel 0 (t.toL c ci) (LSt.init (t.toL c ci)) = some s') : s'.exact = true :=
  (itersExact_sound o fuel _ s' (tpl_iters_all name ps cool t c ci h) hx).1

/-- The prescribed population-size bound, for every value of every parameter (19 of the 21 templates). -/
theorem template_size_all_parameters_partial (name : Tid) (ps : List Nat) (cool : Bool) (t : SComp)
    (lo : Nat) (hi : Option Nat) (hn1 : name ≠ .real_iwo) (hn2 : name ≠ .real_cro)
    (h : tplT name ps cool = some t) (hp : prescribedT name ps = some (lo, hi)) :
    sizeWithin t lo hi = true :=
  tpl_size_all name ps cool t lo hi hn1 hn2 h hp

/-- … so every terminating execution of the size interpreter (all condition outcomes, all choices a component
makes inside its interval) ends every pass of the outermost loop inside the bound. -/
theorem template_runs_sized_partial (name : Tid) (ps : List Nat) (cool : Bool) (t : SComp)
    (lo : Nat) (hi : Option Nat) (hn1 : name ≠ .real_iwo) (hn2 : name ≠ .real_cro)
    (h : tplT name ps cool = some t) (hp : prescribedT name ps = some (lo, hi))
    (o : SOracle) (fuel : Nat) (s' : SSt)
    (hx : sexec ⟨lo, hi⟩ o fuel 0 t { stack := [], tick := 0, ok := true } = some s') : s'.ok = true :=
  sizeWithin_sound o fuel t lo hi s' (tpl_size_all name ps cool t lo hi hn1 hn2 h hp) hx

section
variable {F : Type} [LE F] [LT F] [DecidableLE F] [DecidableLT F] [OfNat F 0] [OfNat F 1] [OfNat F 2]

/-- A documented-valid parameter point is accepted by the constructor. (`real_iwo` before fix f95fbe2 demanded
`initial_deviation < final_deviation` and violated this.) -/
theorem documented_parameters_accepted (name : Tid) (ns : List Nat) (fs : List F)
    (h : docValidT name ns fs = some true) : ctorOkT name ns fs = some true := by
  -- every check of the constructor is one of the conjuncts of the documented predicate
  unfold docValidT at h
  split at h <;> simp only [Option.some.injEq, Bool.and_eq_true, reduceCtorEq] at h <;>
    (show some _ = some true; simp only [h, Bool.and_self])

end

/-! Non-vacuity: the hypotheses are met by concrete parameter points, inside and on the border of the domain. -/
example : (tplT .real_ga [6, 2]).isSome = true ∧ prescribedT .real_ga [6, 2] = some (6, some 6) := by decide +kernel
example : (tplT .real_de [2, 1]).isSome = true ∧ prescribedT .real_de [2, 1] = some (2, some 2) := by decide +kernel
example : (tplT .ant_system [0]).isSome = true ∧ prescribedT .ant_system [0] = some (1, some 1) := by decide +kernel
example : (tplT .permutation_ils [0, 2, 0]).isSome = true := by decide +kernel
example : docValidT (F := Int) .real_iwo [3, 6, 0, 3, 2] [5, 5] = some true := by decide +kernel
example : docValidT (F := Int) .real_iwo [3, 6, 0, 3, 2] [1, 5] = some false := by decide +kernel
example : docValidT (F := Int) .real_de [4, 2] [2, 1] = some true := by decide +kernel
example : ctorOkT (F := Int) .real_de [4, 3] [2, 1] = some false := by decide +kernel
-- the interpreters run these trees
example : (tplT .real_es [3, 0]).bind (fun t => (exec ⟨fun x => x < 9, fun _ => false, fun _ => 0⟩ 200 t.erase
    { height := 0, tick := 0, passesBalanced := true }).map (·.height)) = some 1 := by decide +kernel
example : (tplT .real_ils [2, 2]).bind (fun t =>
    (lexec ⟨fun _ => true, fun _ => false⟩ 400 0 (t.toL (.iterLt 3) (.iterLt 2)) (LSt.init (t.toL (.iterLt 3) (.iterLt 2)))).map
      (fun s => (s.exact, passesAt 0 s, passesAt 1 s))) = some (true, 3, 6) := by decide +kernel
-- where the closed form is missing the per-point verdict still evaluates
example : (tplT .real_iwo [3, 6, 0, 3, 3]).map (fun t => sizeWithin t 3 (some 6)) = some true := by decide +kernel
example : (tplT .real_cro [4, 5]).map (fun t => sizeWithin t 1 none) = some true := by decide +kernel

/-! ### KNOWN FINDING — ant colony generation on coincident cities

`AcoGeneration` samples the next city with weights `pheromone^alpha * (1/distance)^beta + 1e-15`.  A distance of 0
between two DISTINCT cities (two cities at the same place — a legal TSP instance; `TravellingSalespersonProblem`
documents no positivity requirement) makes the weight infinite, `WeightedIndex::new(..).unwrap()` panics.
Shown on the code-shaped sampling step (`Model/TemplatesInst.lean`) over a carrier with an infinite element:
three cities, cities 1 and 2 coincide, an ant that first walks to city 1 (witness `[0, 0]`). -/

/-- cities 1 and 2 at the same place, everything else at distance 1 -/
def coincident (i j : Nat) : XN := if (i = 1 ∧ j = 2) ∨ (i = 2 ∧ j = 1) then .fin 0 else .fin 1

theorem aco_coincident_cities_violates :
    acoRoute XN.num (fun _ _ => XN.fin 1) coincident (XN.fin 1) (XN.fin 1) [0, 0] [0] 0 [1, 2] = none ∧
    acoPanics true 1 true = true := by
  decide +kernel

theorem _root_.MahfModel.Tpl.XN.add_inf (a : XN) : a + .inf = .inf := by cases a <;> rfl

theorem _root_.MahfModel.Tpl.XN.foldl_inf (l : List XN) : l.foldl (· + ·) .inf = .inf := by
  induction l with
  | nil => rfl
  | cons x xs ih => exact ih

/-- In general: a zero distance to a remaining city, with a positive trail, makes the weight list illegal. -/
theorem zero_distance_weight_illegal (pher dist : Nat → Nat → XN) (α β : XN) (last r : Nat) (pre post : List Nat)
    (hd : dist last r = .fin 0) (hp : ∃ p, pher last r = .fin (p + 1)) :
    weightedIndexOk XN.num (acoWeights XN.num pher dist α β last (pre ++ r :: post)) = false := by
  obtain ⟨p, hp⟩ := hp
  have hw : pher last r * (1 / dist last r) + XN.fin 0 = .inf := by rw [hp, hd]; rfl
  -- the total is a fold through the infinite weight of `r`
  cases pre <;> simp [acoWeights, weightedIndexOk, List.foldl_append, hw, XN.add_inf, XN.foldl_inf, XN.num]

/-- Without the zero distance the same walk is fine. -/
example : acoRoute XN.num (fun _ _ => XN.fin 1) (fun _ _ => XN.fin 1) (XN.fin 1) (XN.fin 1) [0, 0] [0] 0 [1, 2]
    = some [0, 1, 2] := by decide +kernel
example : coincident 1 2 = .fin 0 ∧ (∃ p, (fun _ _ => XN.fin 1 : Nat → Nat → XN) 1 2 = .fin (p + 1)) := ⟨by decide, 0, rfl⟩

end MahfModel.Props.C16.Param
