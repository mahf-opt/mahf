/-
C10 — Conditions decide what their names say; loops make exactly n passes.
Property theorems only; the lemmas they rest on are in `Proofs/C10.lean` (`Proofs/C09Basic.lean` for `partial_cmp` of
finite doubles in `changeOf_objective_stable_partial`). Loops on the registry chain and under composite guards:
`Props/C10Loops.lean`; the conditions on nested states: `Props/C10Nested.lean`.
-/
import MahfModel.Proofs.C10
import MahfModel.Proofs.C09Basic
import Mathlib.Algebra.Order.Field.Basic
namespace MahfModel.Props.C10
open MahfModel.Conditions

/-! ### LessThanN -/

/-- less-than-n is true exactly while the observed value is below `n` (any ordered carrier). -/
theorem lessThanN_iff {V F : Type} [LT V] [DecidableLT V] [Div F] (toF : V → F) (n v : V) :
    (lessThanN toF n v).1 = true ↔ v < n := by
  simp [lessThanN]

/-- …and it reports progress `value / n`. -/
theorem lessThanN_progress {V F : Type} [LT V] [DecidableLT V] [Div F] (toF : V → F) (n v : V) :
    (lessThanN toF n v).2 = toF v / toF n := rfl

/-! ### Loop guarded by less-than-n over the loop counter -/

/-- A loop bounded by `n` iterations, started with the counter at 0 (as `Loop::init` does), makes
exactly `n` passes, evaluates its condition `n + 1` times, leaves the counter at `n` and — in exact
arithmetic, for `n ≥ 1` — progress 1. It needs no more than `n + 1` condition evaluations. -/
theorem loop_exactly_n {F : Type} [Field F] [LinearOrder F] [IsStrictOrderedRing F] (n : Nat) :
    ∃ s, loopRun (F := F) Nat.cast n 1 0 (n + 1) = some s ∧
      s.passes = n ∧ s.tests = n + 1 ∧ s.counter = n ∧ (1 ≤ n → s.progress = 1) := by
  refine ⟨_, loopRun_exact (F := F) Nat.cast n n 0 (n + 1) (Nat.zero_add n) (Nat.le_refl _),
    rfl, rfl, rfl, fun hn => ?_⟩
  exact div_self (Nat.cast_ne_zero.mpr (Nat.one_le_iff_ne_zero.mp hn))

/-- The same over any carrier (e.g. IEEE doubles): passes, tests and counter do not depend on the
arithmetic; the progress written last is `n / n`. More fuel changes nothing. -/
theorem loop_exactly_n_counts {F : Type} [Div F] [OfNat F 0] (toF : Nat → F) (n fuel : Nat) (hf : n + 1 ≤ fuel) :
    ∃ s, loopRun toF n 1 0 fuel = some s ∧
      s.passes = n ∧ s.tests = n + 1 ∧ s.counter = n ∧ s.progress = toF n / toF n := by
  exact ⟨_, loopRun_exact toF n n 0 fuel (Nat.zero_add n) hf, rfl, rfl, rfl, rfl⟩

/-- General form: entered with the counter already at `c0 ≤ n` (e.g. a loop that is re-entered
without a `Scope`, so that `Iterations` is not reset) the loop makes the remaining `n − c0` passes.
(Nested iteration-bounded loops without a `Scope` share the one `Iterations` counter and therefore
do NOT each make `n` passes — the theorems are about a counter only this loop advances.) -/
theorem loop_from_counter {F : Type} [Div F] [OfNat F 0] (toF : Nat → F) (n c0 fuel : Nat)
    (hc : c0 ≤ n) (hf : n - c0 + 1 ≤ fuel) :
    ∃ s, loopRun toF n 1 c0 fuel = some s ∧
      s.passes = n - c0 ∧ s.tests = n - c0 + 1 ∧ s.counter = n ∧ s.progress = toF n / toF n := by
  exact ⟨_, loopRun_exact toF n (n - c0) c0 fuel (Nat.add_sub_cancel' hc) hf, rfl, rfl, rfl, rfl⟩

/-- A loop bounded by a counter that the body advances by `step ≥ 1` per pass (evaluation-bounded
loops) makes the least number `p` of passes with `p · step ≥ n`, and `p + 1` tests. -/
theorem loop_step_passes {F : Type} [Div F] [OfNat F 0] (toF : Nat → F) (n step fuel : Nat)
    (hs : 1 ≤ step) (hf : n + 1 ≤ fuel) :
    ∃ s p, loopRun toF n step 0 fuel = some s ∧ s.passes = p ∧ s.tests = p + 1 ∧
      s.counter = p * step ∧ n ≤ p * step ∧ (0 < p → (p - 1) * step < n) ∧
      s.progress = toF (p * step) / toF n := by
  -- the least pass count at which the counter has reached `n`; it is at most `n` because `step ≥ 1`
  obtain ⟨p, hle, hp, hmin⟩ := Arith.exists_first_stop (fun q => decide (q * step < n)) n
    (decide_eq_false (Nat.not_lt.mpr (Nat.le_mul_of_pos_right n hs)))
  have hp : n ≤ p * step := Nat.le_of_not_lt (of_decide_eq_false hp)
  have hmin : ∀ q, q < p → q * step < n := fun q hq => of_decide_eq_true (hmin q hq)
  have h := loopGo_least toF n step p 0 0 0 0 fuel
    (fun q hq => by rw [Nat.zero_add]; exact hmin q hq) (by rw [Nat.zero_add]; exact hp)
    (by omega)
  simp only [Nat.zero_add] at h
  exact ⟨_, p, h, rfl, rfl, rfl, hp, fun h0 => hmin _ (Nat.sub_lt h0 Nat.one_pos), rfl⟩

/-! ### EveryN -/

/-- every-n is true exactly on the multiples of `n` — for every `n`, including `n = 0`, whose only
multiple is 0 (the code takes `checked_rem`, so there is no remainder by zero). -/
theorem everyN_iff (n v : Nat) : everyN n v = true ↔ n ∣ v := by
  unfold everyN checkedRem
  by_cases hn : n = 0
  · subst hn; simp
  · simp [hn, Nat.dvd_iff_mod_eq_zero]

/-- The zero case spelled out: with `n = 0` the condition is true at value 0 only. -/
theorem everyN_zero (v : Nat) : everyN 0 v = true ↔ v = 0 := by
  simp [everyN, checkedRem]

/-! ### OptimumReached -/

/-- The code's test is the one-sided `best − optimum ≤ eps` (for any best value, any optimum). -/
theorem optimumReached_one_sided {F : Type} [Field F] [LinearOrder F] [IsStrictOrderedRing F]
    (eps : F) (best : Option F) (optimum : F) :
    optimumReached eps best optimum = true ↔ ∃ b, best = some b ∧ b - optimum ≤ eps := by
  cases best with
  | none => simp [optimumReached]
  | some b => simp only [optimumReached, decide_eq_true_eq, Option.some.injEq, exists_eq_left', sub_le_iff_le_add']

/-- optimum-reached is true exactly when a best value exists and is within `eps` of the known
optimum. Hypothesis `hlb`: the known optimum is what its name says, a lower bound of every
objective value (`KnownOptimumProblem`; a best value below it cannot occur on a correct problem);
then the one-sided test is the two-sided one. Without that hypothesis … -/
theorem optimumReached_iff {F : Type} [Field F] [LinearOrder F] [IsStrictOrderedRing F]
    (eps : F) (best : Option F) (optimum : F) (hlb : ∀ b, best = some b → optimum ≤ b) :
    optimumReached eps best optimum = true ↔ ∃ b, best = some b ∧ |b - optimum| ≤ eps := by
  rw [optimumReached_one_sided]
  exact exists_congr fun b => and_congr_right fun hb => by rw [abs_of_nonneg (sub_nonneg.mpr (hlb b hb))]

/-- … a best value BELOW `optimum − eps` (possible only if the problem misdeclares its optimum)
counts as "reached" although it is not within `eps`; this is outside the property's domain and is
not flagged by the check. -/
theorem optimumReached_below {F : Type} [Field F] [LinearOrder F] [IsStrictOrderedRing F]
    (eps b optimum : F) (he : 0 ≤ eps) (hb : b < optimum - eps) :
    optimumReached eps (some b) optimum = true ∧ ¬ |b - optimum| ≤ eps := by
  refine ⟨decide_eq_true (le_of_lt (hb.trans_le ((sub_le_self _ he).trans (le_add_of_nonneg_right he)))),
    not_le.mpr (lt_abs.mpr (.inr ?_))⟩
  rw [neg_sub]; exact lt_sub_comm.mp hb

/-- The constructor accepts exactly the non-negative tolerances. -/
theorem optimumReachedNew_iff {F : Type} [Field F] [LinearOrder F] [IsStrictOrderedRing F] (eps : F) :
    (optimumReachedNew eps = some eps ↔ 0 ≤ eps) ∧ (optimumReachedNew eps = none ↔ eps < 0) := by
  unfold optimumReachedNew
  by_cases h : 0 ≤ eps
  · simp [h]
  · simp [h, not_le.mp h]

/-! ### ChangeOf -/

/-- For every history of observed values and every position `k`: change-of fires iff nothing has
been reported before (`k = 0` is the only such position) or the value differs, by the checker's
measure, from the value it last reported. The reports before `k` depend on the first `k` values only. -/
theorem changeOf_iff {V : Type} (eqv : V → V → Bool) (h : List V) (k : Nat) (hk : k < h.length) :
    (changeOfRun eqv none h)[k]? =
      some (match lastReported (h.take k) ((changeOfRun eqv none h).take k) with
        | none => true
        | some p => !eqv h[k] p) ∧
    (changeOfRun eqv none h).take k = changeOfRun eqv none (h.take k) ∧
    (lastReported (h.take k) ((changeOfRun eqv none h).take k) = none ↔ k = 0) := by
  refine ⟨?_, changeOfRun_take eqv none h k, ?_⟩
  · rw [changeOfRun_take, changeOfRun_getElem? eqv none h k hk, changeOfState_eq]
    simp only [changeOfStep]
    cases lastReported (h.take k) (changeOfRun eqv none (h.take k)) <;> rfl
  · rw [changeOfRun_take, lastReported_run_none, List.take_eq_nil_iff]
    exact ⟨fun hz => hz.resolve_right (fun e => by simp [e] at hk), .inl⟩

/-- Re-initialisation (`init`, which `Loop::execute` calls on every entry): whatever happened
before, after an `init` the condition behaves like a fresh one — so `changeOf_iff` applies to the
evaluations since the last `init`, and the first evaluation after every `init` fires. -/
theorem changeOf_reinit {V : Type} (eqv : V → V → Bool) (slot : Option (Option V))
    (pre : List (Option V)) (vs : List V) :
    changeOfRunR eqv slot (pre ++ none :: vs.map some) =
      changeOfRunR eqv slot pre ++ (changeOfRun eqv none vs).map some ∧
    (∀ v rest, vs = v :: rest → ∃ out, changeOfRun eqv none vs = true :: out) := by
  refine ⟨by rw [changeOfRunR_append_init, changeOfRunR_evals], ?_⟩
  intro v rest h; subst h
  exact ⟨changeOfRun eqv (some v) rest, by simp [changeOfRun, changeOfStep]⟩

/-- Several ChangeOf conditions in one state, evaluated / re-initialised / interleaved with
changes of the observed values in any order: a condition whose `Previous` key is not used by any
other condition (in the code: whose lens type no other ChangeOf in the state shares) produces
exactly the verdicts of a single condition run on ITS OWN history. -/
theorem changeOf_conditions_independent (condOf : Nat → CondSpec) (c : Nat) (evs : List Ev)
    (vals : Nat → Nat) (f : Frame)
    (hk : ∀ c' ∈ condsIn evs, (condOf c').key = (condOf c).key → c' = c) :
    (runFlat condOf { vals := vals, stack := [f] } evs).filterMap
        (fun o => if o.1 = c then some o.2 else none) =
      changeOfRunR (condOf c).eqv (f (condOf c).key) (histOf condOf c vals evs) := by
  induction evs generalizing vals f with
  | nil => cases h : f (condOf c).key <;> simp [runFlat, histOf, changeOfRunR]
  | cons e es ih =>
    have hk' : ∀ c'' ∈ condsIn es, (condOf c'').key = (condOf c).key → c'' = c :=
      fun c'' h => hk c'' (by cases e <;> simp [condsIn, h])
    have hne : ∀ c' ∈ condsIn (e :: es), c' ≠ c → (condOf c).key ≠ (condOf c').key :=
      fun c' hm hc h => hc (hk c' hm h.symm)
    cases e with
    | set l v =>
      simp only [runFlat, evStep, histOf]
      exact ih _ _ hk'
    | init c' =>
      simp only [runFlat, evStep, histOf, initSlot]
      by_cases hc : c' = c
      · subst hc
        simp only [if_true]
        rw [ih _ _ hk', upd_same]
        cases f (condOf c').key <;> simp [changeOfRunR]
      · simp only [hc, if_false]
        rw [ih _ _ hk', upd_other _ _ _ _ (hne c' (by simp [condsIn]) hc)]
    | eval c' =>
      simp only [runFlat, evStep, histOf, findSlot]
      cases hs : f (condOf c').key with
      | none =>
        simp only [List.filterMap_cons]
        by_cases hc : c' = c
        · subst hc
          simp only [if_true]
          rw [ih _ _ hk', hs]
          simp [changeOfRunR]
        · simp only [hc, if_false]
          exact ih _ _ hk'
      | some prev =>
        simp only [writeSlot, hs, List.filterMap_cons]
        by_cases hc : c' = c
        · subst hc
          simp only [if_true]
          rw [ih _ _ hk', upd_same, hs]
          simp [changeOfRunR]
        · simp only [hc, if_false]
          rw [ih _ _ hk', upd_other _ _ _ _ (hne c' (by simp [condsIn]) hc)]

/-- The statement without the hypothesis — every condition follows its own history — … -/
def changeOf_conditions_private : Prop :=
  ∀ (condOf : Nat → CondSpec) (c : Nat) (evs : List Ev) (vals : Nat → Nat) (f : Frame),
    (∀ c', (condOf c').key = (condOf c').lens) →
    (runFlat condOf { vals := vals, stack := [f] } evs).filterMap
        (fun o => if o.1 = c then some o.2 else none) =
      changeOfRunR (condOf c).eqv (f (condOf c).key) (histOf condOf c vals evs)

/-- … is false of the code (recorded finding): two ChangeOf conditions over the SAME lens on one
registry level share `Previous<L>`. Here condition 1 has never reported anything, yet its first
evaluation is `false` because condition 0 reported the value before. -/
theorem changeOf_shared_lens_interferes :
    let condOf : Nat → CondSpec := fun _ => { lens := 2, key := 2, th := none }
    let evs := [Ev.init 0, .init 1, .set 2 5, .eval 0, .eval 1]
    runFlat condOf { vals := fun _ => 0, stack := [fun _ => none] } evs = [(0, some true), (1, some false)] ∧
    changeOfRunR (condOf 1).eqv none (histOf condOf 1 (fun _ => 0) evs) = [some true] := by
  decide +kernel

theorem changeOf_conditions_not_private : ¬ changeOf_conditions_private := by
  intro h
  have := h (fun _ => { lens := 2, key := 2, th := none }) 1
    [Ev.init 0, .init 1, .set 2 5, .eval 0, .eval 1] (fun _ => 0) (fun _ => none) (fun _ => rfl)
  revert this
  decide +kernel

/-- The two shipped measures: `PartialEqChecker` is equality, `DeltaEqChecker` is
"closer than the threshold" (so threshold 0 makes every value a change). -/
theorem checkers_iff (th a b : Nat) :
    (partialEq a b = true ↔ a = b) ∧
    (deltaEq th a b = true ↔ ((a : Int) - b < th ∧ (b : Int) - a < th)) := by
  refine ⟨by simp [partialEq], ?_⟩
  simp only [deltaEq, decide_eq_true_eq]
  split <;> omega

/-- In exact arithmetic the delta measure on an ordered field is `|a − b| < threshold`. -/
theorem deltaEq_field_iff {F : Type} [Field F] [LinearOrder F] [IsStrictOrderedRing F] (th a b : F) :
    deltaEqG th a b = true ↔ |a - b| < th := by
  unfold deltaEqG
  by_cases h : a < b
  · rw [if_pos h, decide_eq_true_eq, abs_of_neg (sub_neg.mpr h), neg_sub]
  · rw [if_neg h, decide_eq_true_eq, abs_of_nonneg (sub_nonneg.mpr (not_lt.mp h))]

/-- The statement the property asks for on objective values: an unchanged value is never a change. -/
def changeOf_objective_stable : Prop :=
  ∀ th v : Objective.F64, Objective.legal th = true → Objective.legal v = true →
    ∀ r, deltaEqObj th v v = some r → (changeOfStep (fun _ _ => r) (some v) v).1 = false

/-- Recorded finding: with `DeltaEqChecker<SingleObjective>` an objective that stays at +inf
(`SingleObjective::default()`, infeasible solutions) is reported as changed on every evaluation,
because `INFINITY − INFINITY = NaN` is not `< threshold` (C09's arithmetic finding surfacing here). -/
theorem changeOf_inf_inf_fires (th : Objective.F64) :
    deltaEqObj th .pinf .pinf = some false ∧
    (changeOfStep (fun _ _ => false) (some Objective.F64.pinf) .pinf).1 = true := by
  cases th <;> exact ⟨rfl, rfl⟩

theorem changeOf_objective_not_stable : ¬ changeOf_objective_stable := by
  intro h
  have := h .pinf .pinf rfl rfl false rfl
  simp [changeOfStep] at this

/-- …and +inf is the only such value: for a finite unchanged value the difference is exactly 0,
so the checker answers `0 < threshold` — "equal", hence no change, for every positive threshold. -/
theorem changeOf_objective_stable_partial (th v : Objective.F64)
    (hv : Objective.legal v = true) (hne : v ≠ .pinf) :
    deltaEqObj th v v = some (Objective.objLt (.fin 0) th) ∧
    (∀ t : Int, 0 < t → th = .fin t →
      (changeOfStep (fun _ _ => Objective.objLt (.fin 0) th) (some v) v).1 = false) := by
  cases v with
  | nan => simp [Objective.legal] at hv
  | ninf => simp [Objective.legal] at hv
  | pinf => exact absurd rfl hne
  | fin k =>
    refine ⟨by simp [deltaEqObj], ?_⟩
    intro t ht hth; subst hth
    have : Objective.objLt (.fin 0) (.fin t) = true := by
      simp [Objective.objLt, Objective.objPartialCmp, Objective.pc_fin, Int.compare_eq_lt, ht]
    simp [changeOfStep, this]

/-! ### And / Or / Not -/

/-- If no operand errs, the result is the Boolean combination and the evaluation log is exactly
the list of operands in left-to-right order — every operand once, also after a `false` (And) or a
`true` (Or) operand: there is no short-circuit. -/
theorem and_or_not_sem (env : Env) (f : Form) (log : List Nat) (h : errFree env f = true) :
    eval env f log = (.val (sem (fun o => (env o).toBool) f), log ++ leaves f) :=
  eval_ok env f log h

/-- With uniquely tagged operands "exactly once" is literal: every operand of the formula occurs
exactly once in the log of one evaluation. -/
theorem each_operand_once (env : Env) (f : Form) (h : errFree env f = true) (hu : (leaves f).Nodup) :
    ∀ t ∈ leaves f, (eval env f []).2.count t = 1 := by
  intro t ht
  rw [and_or_not_sem env f [] h]
  simp only [List.nil_append]
  rw [hu.count]; simp [ht]

/-- An operand error aborts: the result is the error and only a prefix of the operands has been evaluated. -/
theorem and_or_not_err (env : Env) (f : Form) (log : List Nat) (h : errFree env f = false) :
    (eval env f log).1 = .err ∧ ∃ l, (eval env f log).2 = log ++ l ∧ l <+: leaves f := by
  obtain ⟨l, e, hp⟩ := eval_err env f log h
  rw [e]; exact ⟨rfl, l, rfl, hp⟩

/-! ### RandomChance -/

/-- Counting: of the `N` words `0 … N−1` exactly `min m N` fire against threshold `m`. With
`N = 2^64` (one uniformly distributed `u64`) the probability of `true` is `m / 2^64`. -/
theorem randomChance_prob (m N : Nat) :
    ((List.range N).countP fun w =>
      match randomChance (.thr m) [w] with
      | .ok (r, _) => r
      | .panic => false) = min m N := by
  exact Arith.countP_lt_range N m

/-- The property fixes the PROBABILITY, not which generator words fire: apply the threshold test after
ANY bijective relabelling `σ` of the `N` words (a legal witness of "one uniform word decides") and
still exactly `min m N` of them fire. `σ = id` is `gen_bool`; `σ w = N − 1 − w` fires on the `m`
largest words instead. -/
theorem randomChance_prob_any_mapping (m N : Nat) (σ : Nat → Nat)
    (hσ : ((List.range N).map σ).Perm (List.range N)) :
    ((List.range N).countP fun w =>
      match randomChance (.thr m) [σ w] with
      | .ok (r, _) => r
      | .panic => false) = min m N := by
  exact countP_relabel N m σ hσ

/-- The instance "fire on the `m` LARGEST words" spelled out. -/
theorem randomChance_prob_upper_end (m N : Nat) :
    ((List.range N).countP fun w => decide (N - 1 - w < m)) = min m N := by
  refine countP_relabel N m (fun w => N - 1 - w) ?_
  have h : (List.range N).map (fun w => N - 1 - w) = (List.range' 0 N).reverse := by
    rw [List.reverse_range', Nat.zero_add]
  rw [h, List.range_eq_range']
  exact List.reverse_perm _

/-- What the sweep of the correspondence check measures: of `N` equidistant words `o + k · D`
(`k < N`, any offset `o < D`) the number that fires is `min c N` with `c = ⌊m / D⌋` or `⌊m / D⌋ + 1`
— with `N · D = 2^64` and `m = ⌊p · 2^64⌋` that is `p · N` up to one word (plus the truncation of `m`). -/
theorem randomChance_sweep (N D o m : Nat) (hD : 0 < D) (ho : o < D) :
    ∃ c, ((List.range N).countP fun k =>
        match randomChance (.thr m) [o + k * D] with
        | .ok (r, _) => r
        | .panic => false) = min c N ∧ m / D ≤ c ∧ c ≤ m / D + 1 := by
  refine ⟨(m - o + D - 1) / D, ?_, Nat.div_le_div_right (by omega), ?_⟩
  · -- `o + k·D < m` exactly for the `k` below `⌈(m − o)/D⌉`
    show ((List.range N).countP fun k => decide (o + k * D < m)) = _
    simp only [fun k => decide_eq_decide.2 (Nat.lt_sub_iff_add_lt'.symm.trans (Arith.lt_ceilDiv hD (m - o) k).symm)]
    exact Arith.countP_lt_range N _
  · calc (m - o + D - 1) / D ≤ (m + D) / D := Nat.div_le_div_right (by omega)
      _ = m / D + 1 := Nat.add_div_right m hD

/-- The threshold is `⌊p · 2^64⌋` for a double `p = k · 2^-1074` in `[0, 1)`; `p = 1` always fires
without drawing; every other `p` (negative, above 1, NaN, infinite) is rejected (panic). -/
theorem randomChance_threshold (k : Int) :
    (0 ≤ k → k < (Objective.scale : Int) →
      ∃ m, bernoulliNew (.fin k) = .thr m ∧ m < 2 ^ 64 ∧
        (m : Int) * wordUnit ≤ k ∧ k < ((m : Int) + 1) * wordUnit) ∧
    Objective.scale = 2 ^ 64 * wordUnit ∧
    bernoulliNew (.fin (Objective.scale : Int)) = .always ∧
    (k < 0 ∨ (Objective.scale : Int) < k → bernoulliNew (.fin k) = .invalid) ∧
    bernoulliNew .nan = .invalid ∧ bernoulliNew .pinf = .invalid ∧ bernoulliNew .ninf = .invalid ∧
    (∀ ws, randomChance .always ws = .ok (true, ws)) := by
  have hs : Objective.scale = 2 ^ 64 * wordUnit := by decide +kernel
  refine ⟨fun h0 h1 => ?_, hs, ?_, fun h => ?_, rfl, rfl, rfl, fun _ => rfl⟩
  · obtain ⟨kn, rfl⟩ := Int.eq_ofNat_of_zero_le h0
    have hk : kn < wordUnit * 2 ^ 64 := by rw [Nat.mul_comm, ← hs]; exact_mod_cast h1
    have hu := Nat.lt_mul_div_succ kn (by decide +kernel : 0 < wordUnit)
    rw [Nat.mul_comm] at hu
    refine ⟨kn / wordUnit, by simp only [bernoulliNew, Int.natCast_nonneg, h1, and_self, if_true, Int.toNat_natCast],
      Nat.div_lt_of_lt_mul hk, ?_, ?_⟩
    · exact_mod_cast Nat.div_mul_le_self kn wordUnit
    · exact_mod_cast hu
  · simp only [bernoulliNew, lt_self_iff_false, and_false, if_false, if_true]
  · have : ¬ (0 ≤ k ∧ k < (Objective.scale : Int)) := by omega
    have h2 : k ≠ (Objective.scale : Int) := by omega
    simp only [bernoulliNew, this, h2, if_false]

/-! Non-vacuity -/
example : errFree (fun _ => .val false) (.and (.cons (.leaf 0 0) (.cons (.not (.leaf 1 1)) .nil))) = true := by decide +kernel
example : (eval (fun _ => .val false) (.and (.cons (.leaf 0 0) (.cons (.not (.leaf 1 1)) .nil))) []) =
    (.val false, [0, 1]) := by decide +kernel
example : changeOfRun (partialEq (V := Nat)) none [5, 5, 6, 6] = [true, false, true, false] := by decide +kernel
example : changeOfRun (deltaEq 2) none [5, 6, 8, 8] = [true, false, true, false] := by decide +kernel
example : (loopRun (F := Nat) id 3 1 0 4).map (fun s => (s.passes, s.tests, s.counter)) = some (3, 4, 3) := by decide +kernel
example : everyN 3 9 = true ∧ everyN 3 10 = false ∧ everyN 0 0 = true ∧ everyN 0 5 = false ∧
    everyN 1 0 = true ∧ everyN 4294967295 4294967295 = true := by decide +kernel

example : (loopRun (F := Nat) id 7 2 0 8).map (fun s => (s.passes, s.tests, s.counter)) = some (4, 5, 8) := by decide +kernel
example : (leaves (.and (.cons (.leaf 0 0) (.cons (.not (.leaf 1 0)) .nil)))).Nodup := by decide +kernel
example : optimumReached (1 : Int) (some 3) 2 = true ∧ optimumReached (1 : Int) (some 4) 2 = false ∧
    optimumReached (1 : Int) none 2 = false := by decide +kernel
example : (changeOfRun (deltaEq 2) none [5, 6, 8, 8, 5])[3]? = some false ∧
    lastReported [5, 6, 8] [true, false, true] = some 8 := by decide +kernel
example : bernoulliNew (Objective.ofBits 0x3fe0000000000000) = .thr (2 ^ 63) := by decide +kernel
example : ((List.range 6).map (fun w => 5 - w)).Perm (List.range 6) := by decide +kernel
example : ((List.range 8).countP fun k => decide (3 + k * 4 < 18)) = 4 ∧ 18 / 4 = 4 := by decide +kernel
example : (eval (fun o => if o = 1 then .err else .val true)
    (.and (.cons (.leaf 0 0) (.cons (.leaf 1 1) (.cons (.leaf 2 2) .nil)))) []) = (.err, [0, 1]) := by decide +kernel

example : changeOfRunR (partialEq (V := Nat)) none [none, some 5, some 5, none, some 5, some 5] =
    [some true, some false, some true, some false] := by decide +kernel
example : (loopRun (F := Nat) id 7 1 3 5).map (fun s => (s.passes, s.tests, s.counter)) = some (4, 5, 7) := by decide +kernel
example : loopChangeRun partialEq 2 7 [] = some [1, 1] ∧ loopChangeRun partialEq 2 7 [8, 8] = some [2, 1] := by decide +kernel

end MahfModel.Props.C10
