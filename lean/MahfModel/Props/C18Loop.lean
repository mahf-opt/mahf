/-
C18 — loop-level statements: the clauses of the property along whole PSO runs
(`Model/PsoLoop.lean`: `heuristics::pso::pso` under `components::Loop` with an arbitrary termination
formula over iteration / evaluation bounds, with or without an inertia-weight update, started from any
heuristic-wide `BestIndividual`).  Property theorems only; lemmas are in `Proofs/C18Loop.lean`.
-/
import MahfModel.Proofs.C18Loop
import Mathlib.Tactic.Ring
namespace MahfModel.Props.C18Loop
open MahfModel.Pso MahfModel.Props.C18
set_option linter.unusedSectionVars false

variable {F : Type} [Field F] [LinearOrder F] [IsStrictOrderedRing F]

/-- Evaluating ANY termination formula leaves the counters alone and stores the iteration progress of
the iteration bound that is evaluated last — every operand of `&` / `|` is evaluated, whatever the
operands before it answered — and leaves `Progress<Iterations>` alone if the formula has no such bound. -/
theorem cond_progress (cast : Nat → F) (c : Cond) (s : LoopVars F) :
    (evalCond cast c s).2.iters = s.iters ∧ (evalCond cast c s).2.evals = s.evals ∧
    (evalCond cast c s).2.progIter =
      (match c.lastIterBound with
       | some n => some (cast s.iters / cast n)
       | none => s.progIter) :=
  evalCond_spec cast c s

/-- The iteration bound is found in every position of a composite formula. -/
example : (Cond.or (.ltEval 30) (.ltIter 10)).lastIterBound = some 10 ∧
    (Cond.or (.ltIter 10) (.ltEval 30)).lastIterBound = some 10 ∧
    (Cond.and (.ltEval 30) (.not (.not (.ltIter 10)))).lastIterBound = some 10 ∧
    (Cond.and (.and (.ltIter 10) (.ltEval 5)) (.or (.ltEval 7) (.not (.ltEval 9)))).lastIterBound = some 10 := by
  decide

/-- With the evaluation budget still open (`5 < 30`) the iteration bound behind the `|` is evaluated all
the same: in iteration 3 of 10 the stored progress is `3 / 10`. -/
example : (evalCond (Nat.cast : Nat → Rat) (.or (.ltEval 30) (.ltIter 10)) ⟨3, 5, some 0, some 0⟩).2.progIter = some (3 / 10) ∧
    (evalCond (Nat.cast : Nat → Rat) (.or (.ltEval 30) (.ltIter 10)) ⟨3, 5, some 0, some 0⟩).1 = true := by
  decide +kernel

/-- The schedule of the weight that scales the old velocity: the initial weight in the first pass,
afterwards the linear interpolation between start and end weight at the progress `j / n` of the pass
before (the value its inertia-weight update stored), or the initial weight throughout when the
configuration has no inertia-weight update. -/
theorem weight_schedule (cast : Nat → F) (P : Params F) (n : Nat) (w0 : F) (j : Nat) :
    wAt cast P n w0 0 = w0 ∧
    (P.inertia = true → wAt cast P n w0 (j + 1) = (P.stop - P.start) * (cast j / cast n) + P.start) ∧
    (P.inertia = false → wAt cast P n w0 j = w0) := by
  refine ⟨rfl, fun h => by simp [wAt, h, linear], fun h => wAt_no_inertia cast P n w0 h j⟩

set_option linter.unusedVariables false in
/-- The hypotheses of `run_keeps_swarm_consistent` on the run's inputs:
* a non-empty swarm of evaluated particles of dimension `d`, and no global best in the state yet;
* the sampled initial velocities are legal: one per particle, `d` coordinates in `[−v_max, v_max]`;
* `0 ≤ v_max` (the constructors demand `0 < v_max`); the boundary repair keeps the dimension;
* an inertia-weight update needs an iteration bound in the termination formula (`n` is the bound);
* two draws per coordinate and particle in every pass — their values are arbitrary. -/
def RunHyp (d : Nat) (cast : Nat → F) (P : Params F) (n : Nat) (repair : List F → List F) (c : Cond)
    (witness : List (List F)) (draws : Nat → List (List (F × F))) (st : RunSt F) : Prop :=
  st.sw.xs ≠ [] ∧ (∀ x ∈ st.sw.xs, x.pos.length = d ∧ x.ev = true) ∧ st.sw.gbest = none ∧
  velInitLegal P.vmax d witness st.sw = true ∧ 0 ≤ P.vmax ∧ (∀ l, (repair l).length = l.length) ∧
  (P.inertia = true → c.lastIterBound = some n) ∧
  (∀ j, (draws j).length = st.sw.xs.length ∧ ∀ r ∈ draws j, r.length = d)

/-- **Whole runs.** Start `pso` on a non-empty evaluated population, with ANY termination formula, ANY
objective function, ANY draws, ANY content of the heuristic-wide `BestIndividual` (hybrid heuristics),
with or without inertia-weight update.  After every number of passes:
* no component has returned `Err` or panicked;
* velocities, personal bests and particles have one entry per particle (the initial number);
* every velocity coordinate lies in `[−v_max, v_max]`;
* the global best is a personal best with the smallest objective value;
* the stored weight is `wAt` of the current iteration, and EVERY velocity update so far (the ghost log
  `wlog` records the stored weight each one read) scaled the old velocity with `wAt` of its iteration —
  see `weight_schedule`;
* the personal bests are the initial population folded over the populations the swarm was evaluated
  at (`pbest_is_best_visited` then says each is the best position its particle was evaluated at).
`hit`: `Loop::init` inserts `Iterations(0)`; `psoRun` does not model that step and starts from the counter as it is. -/
theorem run_keeps_swarm_consistent (d : Nat) (cast : Nat → F) (zero : F) (P : Params F) (n : Nat) (f : List F → F)
    (repair : List F → List F) (c : Cond) (witness : List (List F)) (draws : Nat → List (List (F × F)))
    (st : RunSt F) (h : RunHyp d cast P n repair c witness draws st) (hit : st.lv.iters = 0) (fuel : Nat) :
    let r := psoRun cast zero P f repair c witness draws fuel st
    r.1 = .ok ∧
    r.2.sw.vs.length = st.sw.xs.length ∧ r.2.sw.pbest.length = st.sw.xs.length ∧ r.2.sw.xs.length = st.sw.xs.length ∧
    (∀ v ∈ r.2.sw.vs, ∀ x ∈ v, -P.vmax ≤ x ∧ x ≤ P.vmax) ∧
    GbestIsMinPbest r.2.sw.pbest r.2.sw.gbest ∧
    r.2.sw.w = wAt cast P n st.sw.w r.2.lv.iters ∧
    (∀ e ∈ r.2.wlog, e.2 = wAt cast P n st.sw.w e.1) ∧
    r.2.sw.pbest = pbestRun st.sw.xs r.2.hist ∧ (∀ p ∈ r.2.hist, p.length = st.sw.xs.length) := by
  obtain ⟨hne, hev, hfresh, hlegal, hvm, hrep, hbound, hdraws⟩ := h
  have h0 : SwarmOk d P.vmax (swarmInit witness st.sw) :=
    swarmInit_ok d P.vmax witness st.sw hne hev hfresh hlegal
  have hinit : RunInv d cast P n st.sw.w st.sw.xs st.sw.xs.length
      { st with sw := swarmInit witness st.sw, lv := condInit zero c st.lv, wlog := [], hist := [] } := by
    refine ⟨h0, rfl, ?_, fun _ he => (nomatch he), rfl, fun _ hh => (nomatch hh)⟩
    simp only [condInit_iters, hit, wAt, swarmInit, pbestInit, velInit]
  obtain ⟨hs, hinv⟩ := loopGo_inv d cast P n st.sw.w st.sw.xs st.sw.xs.length f repair c draws hrep hvm
    hbound hdraws fuel _ hinit
  intro r
  exact ⟨hs, hinv.ok.lenV.trans hinv.size, hinv.ok.lenP.trans hinv.size, hinv.size, hinv.ok.vsClamp, hinv.ok.gb,
    hinv.weight, hinv.wlogOk, hinv.pbHist, hinv.histLen⟩

/-! The hypotheses are satisfiable on a non-trivial input: two particles in two dimensions, a composite
termination formula with the iteration bound behind an evaluation budget, an inertia-weight update,
and — the hybrid situation — a heuristic-wide best individual that is better than every particle. -/
def exRun : RunSt Rat :=
  { sw := { xs := [⟨[1, 2], 5, true⟩, ⟨[0, -1], 1, true⟩], vs := [], pbest := [], gbest := none, w := 9 / 10 },
    lv := ⟨0, 2, none, none⟩, best := some ⟨[0, 0], 0, true⟩, wlog := [], hist := [] }
def exParams : Params Rat := ⟨2, 2, 1, 9 / 10, 4 / 10, true⟩

example : RunHyp 2 (Nat.cast : Nat → Rat) exParams 10 id (.or (.ltEval 30) (.ltIter 10)) [[1 / 2, -1], [0, 1 / 4]]
    (fun _ => [[(1 / 2, 1 / 4), (0, 1)], [(1 / 3, 1 / 3), (1 / 2, 1 / 2)]]) exRun := by
  exact ⟨List.cons_ne_nil _ _, by decide +kernel, rfl, by decide +kernel, by decide +kernel,
    fun _ => rfl, fun _ => rfl, fun _ => ⟨rfl, by dsimp only; decide +kernel⟩⟩

/-- **Personal bests along a run.** After every number of passes the personal best of particle `k` is
one of the positions that particle was evaluated at — its initial one or one of a later pass — and no
position it was evaluated at is better. -/
theorem run_pbest_best_visited (d : Nat) (cast : Nat → F) (zero : F) (P : Params F) (n : Nat) (f : List F → F)
    (repair : List F → List F) (c : Cond) (witness : List (List F)) (draws : Nat → List (List (F × F)))
    (st : RunSt F) (h : RunHyp d cast P n repair c witness draws st) (hit : st.lv.iters = 0) (fuel : Nat)
    (k : Nat) (b0 : Part F) (hk : st.sw.xs[k]? = some b0) :
    let r := psoRun cast zero P f repair c witness draws fuel st
    ∃ b, r.2.sw.pbest[k]? = some b ∧ (b = b0 ∨ ∃ pop ∈ r.2.hist, pop[k]? = some b) ∧
      b.obj ≤ b0.obj ∧ ∀ pop ∈ r.2.hist, ∀ x, pop[k]? = some x → b.obj ≤ x.obj := by
  intro r
  obtain ⟨-, -, -, -, -, -, -, -, hr, -⟩ :=
    run_keeps_swarm_consistent d cast zero P n f repair c witness draws st h hit fuel
  obtain ⟨b, hb, hrest⟩ := pbest_is_best_visited st.sw.xs r.2.hist k b0 hk
  exact ⟨b, by rw [hr]; exact hb, hrest⟩

/-- The executable oracle the driver evaluates on the implementation's state is the invariant. -/
theorem gbest_oracle_sound (pbest : List (Part F)) (gbest : Option (Part F)) (hne : pbest ≠ []) :
    gbestHolds pbest gbest = true ↔ GbestIsMinPbest pbest gbest := by
  have hpe : ∀ a b : Part F, partBEq a b = true ↔ a = b := by
    intro a b
    cases a; cases b
    simp [partBEq, and_assoc]
  cases gbest with
  | none =>
    simp only [gbestHolds, GbestIsMinPbest]
    constructor
    · intro h; exact absurd (List.isEmpty_iff.mp h) hne
    · rintro ⟨g, hg, _⟩; cases hg
  | some g =>
    simp only [gbestHolds, GbestIsMinPbest, Bool.and_eq_true, List.any_eq_true, List.all_eq_true, Bool.not_eq_true',
      decide_eq_false_iff_not, not_lt, Option.some.injEq]
    constructor
    · rintro ⟨⟨p, hp, hpg⟩, hall⟩
      have : g = p := (hpe g p).mp hpg
      exact ⟨g, rfl, this ▸ hp, hall⟩
    · rintro ⟨g', hg', hin, hall⟩
      subst hg'
      exact ⟨⟨g, hin, (hpe g g).mpr rfl⟩, hall⟩

/-! ### The initialisation block on a state that already holds a global best (KNOWN FINDING)

`GlobalBestParticleUpdate::init` inserts a `BestParticle` only when the state has none, and `execute` never
forgets: when `ParticleSwarmInit` is executed on a state that still holds the global best of an EARLIER
swarm (second phase of a two-phase PSO on the same state, re-initialisation without a `Scope`) and that
one is at least as good as every new particle, it stays — a point no particle of the new swarm has ever
been evaluated at — while the personal bests are reset to the new population. -/

/-- The full-strength statement: the initialisation block establishes the invariant on EVERY state with a
non-empty population. It is false for the code as it is (`swarmInit_stale_gbest_violates`). -/
def SwarmInitEstablishesInvariant : Prop :=
  ∀ (witness : List (List Int)) (sw : Swarm Int), sw.xs ≠ [] →
    gbestHolds (swarmInit witness sw).pbest (swarmInit witness sw).gbest = true

/-- One new particle with objective value 5; the state still holds a global best with value 1. -/
def staleSw : Swarm Int :=
  { xs := [⟨[1], 5, true⟩], vs := [], pbest := [], gbest := some ⟨[0], 1, true⟩, w := 1 }

theorem swarmInit_stale_gbest_violates :
    gbestHolds (swarmInit [[0]] staleSw).pbest (swarmInit [[0]] staleSw).gbest = false := by decide

theorem swarmInit_full_statement_fails : ¬ SwarmInitEstablishesInvariant := by
  intro h
  have := h [[0]] staleSw (by decide)
  rw [swarmInit_stale_gbest_violates] at this
  cases this

/-- What does hold: on a state without a global best, or with a stale one that some new particle beats,
the initialisation block establishes the invariant. Excluded region: a stale global best that is at least
as good as every particle of the new swarm. -/
theorem swarmInit_establishes_invariant_partial (witness : List (List F)) (sw : Swarm F) (hne : sw.xs ≠ [])
    (h : sw.gbest = none ∨ ∃ g, sw.gbest = some g ∧ ∃ x ∈ sw.xs, x.obj < g.obj) :
    GbestIsMinPbest (swarmInit witness sw).pbest (swarmInit witness sw).gbest := by
  rcases h with h | ⟨g, hg, x, hx, hlt⟩
  · exact (gbest_eq_min_pbest witness sw).1 h hne
  · obtain ⟨m, hm, hin, hle⟩ := minBy_of_ne_nil sw.xs hne
    simp only [swarmInit, pbestInit, velInit, hg, gbestUpd, hm, lt_of_le_of_lt (hle x hx) hlt, if_true]
    exact ⟨m, rfl, hin, hle⟩

example : ∃ g, exSw.gbest = some g ∧ ∃ x ∈ [(⟨[0, 0], 1 / 2, true⟩ : Part Rat)], x.obj < g.obj :=
  ⟨⟨[0, -1], 1, true⟩, rfl, ⟨[0, 0], 1 / 2, true⟩, by simp, by norm_num⟩

/-- Why `RunHyp` demands a state without a global best: the stale state again, over `Rat`. -/
example : ¬ GbestIsMinPbest
    (swarmInit [[0]] ({ xs := [⟨[1], 5, true⟩], vs := [], pbest := [], gbest := some ⟨[0], 1, true⟩, w := 1 } : Swarm Rat)).pbest
    (swarmInit [[0]] ({ xs := [⟨[1], 5, true⟩], vs := [], pbest := [], gbest := some ⟨[0], 1, true⟩, w := 1 } : Swarm Rat)).gbest := by
  rintro ⟨g, hg, hin, _⟩
  norm_num [swarmInit, pbestInit, velInit, gbestUpd, minBy] at hg hin
  subst hg
  simp at hin

end MahfModel.Props.C18Loop
