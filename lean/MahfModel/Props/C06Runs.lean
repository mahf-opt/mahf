/-
C06 on configuration trees: evaluation steps at every position of a configuration (top level, `Scope`s, `Loop` and
`Branch` bodies), unregistered evaluator identifiers, and consecutive `Configuration::run`s on one `State`.
Model: `Model/EvalTreeC06.lean`; helper lemmas: `Proofs/C06Runs.lean`.

* `missing_evaluator_fails_before_anything` — an unregistered identifier outside every `Scope`: `require` refuses the
  run; no component ran, no objective call, the population stack is untouched.
* `scope_with_missing_evaluator_untouched` — a `Scope` whose body demands an unregistered identifier: the scope fails on
  entry, nothing inside it executes, the state is exactly the state before.
* `only_registered_evaluators_applied` / `missing_evaluator_never_applied` — in EVERY execution (whatever the tree, the
  registry, the prior state, wherever it stops) the evaluator applications name registered identifiers only: a step whose
  identifier is not registered never evaluates anything.
* `direct_step_without_evaluator_errs` — a single step executed directly on a state without its evaluator: `Err`,
  no call, counter unchanged.
* `run_reports_its_own_calls` — a run of a configuration without evaluation steps inside scopes, on ANY prior state
  (whatever an earlier run left in the counter): the reported number of evaluations is the number of objective calls of
  THIS run. `consecutive_runs_report_own_calls` is the two-run form.
* `budget_loop_ends_with_budget_used` — a `while evaluations < n` loop that ends, ends with `n ≤ evaluations`.
* FULL statements that the code does not satisfy, and their counterexamples (recorded findings):
  `MissingFailsBeforeAnything` / `scope_defers_require_violates`, `scope_never_entered_no_error_violates`
  (`Scope` does not forward `require`), `ReportedEqualsCalls` / `scoped_eval_count_violates` (a `Scope` with an
  evaluation step carries a shadowing counter — the ILS finding on a three-step configuration).
-/
import MahfModel.Proofs.C06Runs
namespace MahfModel.Props.C06.Runs
open MahfModel MahfModel.PopMachine MahfModel.EvalTree

variable {O : Type}

/-- An unregistered identifier outside every scope: the run is refused by `require`; nothing was executed
(no record, no objective call, no evaluator applied, stack as before; `init` runs before `require` and has
already reset the top-level counters). -/
theorem missing_evaluator_fails_before_anything (f : Nat → O) (reg : List String) (fuel : Nat) (body : TSteps O) (s : TSt O)
    (id : String) (hid : id ∈ reqIdss body) (hreg : reg.contains id = false) :
    (runT f reg fuel body s).2 = .required ∧
    (runT f reg fuel body s).1.recs = [] ∧ (runT f reg fuel body s).1.calls = s.calls ∧
    (runT f reg fuel body s).1.stack = s.stack ∧ (runT f reg fuel body s).1.evalLog = s.evalLog := by
  have hm := allRegistered_false hid hreg
  simp only [runT, hm, Bool.not_false, if_true, initT, and_self]

/-- A scope whose body demands an unregistered identifier fails on entry: the state is exactly the state before. -/
theorem scope_with_missing_evaluator_untouched (f : Nat → O) (reg : List String) (fuel : Nat) (body : TSteps O) (s : TSt O)
    (id : String) (hid : id ∈ reqIdss body) (hreg : reg.contains id = false) :
    execT f reg (fuel + 1) (.scope body) s = (s, .required) := by
  have hm := allRegistered_false hid hreg
  rw [execT_scope, hm]; rfl

/-- In every run — any tree, any registry, any prior state, finished or failed — every application of an evaluator
names a registered identifier. -/
theorem only_registered_evaluators_applied (f : Nat → O) (reg : List String) (fuel : Nat) (body : TSteps O) (s : TSt O) :
    ∃ l : List String, (runT f reg fuel body s).1.evalLog = s.evalLog ++ l ∧ ∀ id ∈ l, id ∈ reg := by
  obtain ⟨l, h1, h2⟩ := (applies_walk f reg).run fuel s (body := body) rfl
  exact ⟨l, h1, fun id hid => List.contains_iff_mem.mp (h2 id hid)⟩

/-- …so a step whose identifier is not registered never evaluates anything, wherever it sits. -/
theorem missing_evaluator_never_applied (f : Nat → O) (reg : List String) (fuel : Nat) (body : TSteps O) (s : TSt O)
    (id : String) (hreg : id ∉ reg) (hs : id ∉ s.evalLog) : id ∉ (runT f reg fuel body s).1.evalLog := by
  obtain ⟨l, h1, h2⟩ := only_registered_evaluators_applied f reg fuel body s
  rw [h1]
  intro h
  rcases List.mem_append.mp h with h | h
  · exact hs h
  · exact hreg (h2 id h)

/-- A single evaluation step executed directly (no `require`) on a state without its evaluator: `Err`; no objective
call, the counter does not move, no evaluator is applied. -/
theorem direct_step_without_evaluator_errs (f : Nat → O) (reg : List String) (id : String) (s : TSt O)
    (p : List (Ind O)) (rest : List (List (Ind O))) (hs : s.stack = p :: rest) (hreg : reg.contains id = false) :
    (evalT f reg id s).2 = .exec ∧ (evalT f reg id s).1.calls = s.calls ∧
    (evalT f reg id s).1.counters = s.counters ∧ (evalT f reg id s).1.evalLog = s.evalLog := by
  have hnot : id ∉ reg := by simpa using hreg
  simp [evalT, hs, hnot]

/-- With its evaluator registered and a counter in sight, the step of the tree model is `evalStep` of the machine
(`Props/C06.lean`: `evaluate_step`, `each_individual_called_once`) and moves the visible counter by the population size. -/
theorem tree_eval_is_evaluate_step (f : Nat → O) (reg : List String) (id : String) (s : TSt O) (v : Nat)
    (hreg : reg.contains id = true) (hv : visible s.counters = some v) (hne : s.stack ≠ []) :
    (evalT f reg id s).2 = .ok ∧
    (evalT f reg id s).1.stack = (evalStep f { stack := s.stack, calls := s.calls }).stack ∧
    (evalT f reg id s).1.calls = (evalStep f { stack := s.stack, calls := s.calls }).calls ∧
    visible (evalT f reg id s).1.counters = some (v + (s.stack.headD []).length) := by
  cases hst : s.stack with
  | nil => exact absurd hst hne
  | cons p rest =>
    simp only [evalT, hst, hreg, hv, evalStep]
    simp [visible_bump, hv, Ind.solution]

/-- THE RUN-LEVEL COUNT, on any prior state: a configuration with an evaluation step outside scopes and none inside
scopes, run on a state whose top-level counter holds anything at all (e.g. what an earlier run counted), reports exactly
the objective calls of this run. -/
theorem run_reports_its_own_calls (f : Nat → O) (reg : List String) (fuel : Nat) (body : TSteps O) (s s' : TSt O)
    (c : Option Nat) (hc : s.counters = [c]) (hn : noScopedEvals body = true) (he : evalHeres body = true)
    (h : runT f reg fuel body s = (s', .ok)) :
    ∃ l, s'.calls = s.calls ++ l ∧ s'.counters = [some l.length] := by
  obtain ⟨l, h1, h2⟩ := (tracks_walk f reg).run fuel s hn
  rw [h] at h1 h2
  refine ⟨l, h1, ?_⟩
  rw [h2]
  simp [initT, hc, initHead, initLevel, he, bump]

/-- Two consecutive runs on one state: each reports its own objective calls. -/
theorem consecutive_runs_report_own_calls (f : Nat → O) (reg : List String) (fuel : Nat) (b1 b2 : TSteps O) (s s1 s2 : TSt O)
    (c : Option Nat) (hc : s.counters = [c])
    (hn1 : noScopedEvals b1 = true) (he1 : evalHeres b1 = true) (hn2 : noScopedEvals b2 = true) (he2 : evalHeres b2 = true)
    (h1 : runT f reg fuel b1 s = (s1, .ok)) (h2 : runT f reg fuel b2 s1 = (s2, .ok)) :
    ∃ l1 l2, s1.calls = s.calls ++ l1 ∧ s1.counters = [some l1.length] ∧
             s2.calls = s1.calls ++ l2 ∧ s2.counters = [some l2.length] := by
  obtain ⟨l1, a1, a2⟩ := run_reports_its_own_calls f reg fuel b1 s s1 c hc hn1 he1 h1
  obtain ⟨l2, b1', b2'⟩ := run_reports_its_own_calls f reg fuel b2 s1 s2 _ a2 hn2 he2 h2
  exact ⟨l1, l2, a1, a2, b1', b2'⟩

/-- A budget loop that ends normally ends with the budget used up. -/
theorem budget_loop_ends_with_budget_used (f : Nat → O) (reg : List String) (fuel n : Nat) (body : TSteps O) (s s' : TSt O)
    (h : execT f reg (fuel + 1) (.loopEvals n body) s = (s', .ok)) :
    ∃ v, visible s'.counters = some v ∧ n ≤ v := by
  exact loopT_evals_exit f reg fuel n body s s' h

/-! ### Full statements the code does not satisfy, with counterexamples (recorded findings) -/

/-- FULL statement of the missing-evaluator clause: whenever SOME evaluation step of the configuration names an
unregistered identifier, the run fails and nothing has executed. Refuted by `scope_defers_require_violates` and
`scope_never_entered_no_error_violates`; the part that holds is `missing_evaluator_fails_before_anything`
(identifier outside every scope) + `scope_with_missing_evaluator_untouched` + `missing_evaluator_never_applied`. -/
def MissingFailsBeforeAnything : Prop :=
  ∀ (f : Nat → Int) (reg : List String) (fuel : Nat) (body : TSteps Int) (s : TSt Int),
    allRegistered reg (allIdss body) = false → (runT f reg fuel body s).2 ≠ .fuel →
    (runT f reg fuel body s).2 ≠ .ok ∧ (runT f reg fuel body s).1.calls = s.calls

/-- `push [7]; evaluate (Global); scope { evaluate_with::<A>() }` with only `Global` registered. -/
def deferredCfg : TSteps Int :=
  .cons (.push [⟨7, none⟩]) (.cons (.eval "g") (.cons (.scope (.cons (.eval "a") .nil)) .nil))

/-- The error comes only when the scope is entered: one objective call has been made by then. -/
theorem scope_defers_require_violates :
    (runT (fun x => (x : Int)) ["g"] 20 deferredCfg {}).2 = .required ∧ (runT (fun x => (x : Int)) ["g"] 20 deferredCfg {}).1.calls = [7] := by
  decide +kernel

/-- `while iterations < 0 { scope { evaluate_with::<A>() } }`: the scope is never entered, the run succeeds. -/
def neverEnteredCfg : TSteps Int :=
  .cons (.loopIter 0 (.cons (.scope (.cons (.eval "a") .nil)) .nil)) .nil

theorem scope_never_entered_no_error_violates : (runT (fun x => (x : Int)) ["g"] 20 neverEnteredCfg {}).2 = .ok := by
  decide +kernel

theorem missing_fails_before_anything_fails : ¬ MissingFailsBeforeAnything := by
  intro h
  have := h (fun x => (x : Int)) ["g"] 20 neverEnteredCfg {} (by decide +kernel) (by decide +kernel)
  exact this.1 scope_never_entered_no_error_violates

/-- FULL statement of the run-level count: every finished run reports its own objective calls. Refuted by
`scoped_eval_count_violates`; the part that holds is `run_reports_its_own_calls` (no evaluation step inside a scope). -/
def ReportedEqualsCalls : Prop :=
  ∀ (f : Nat → Int) (reg : List String) (fuel : Nat) (body : TSteps Int) (s' : TSt Int),
    allIdss body ≠ [] → runT f reg fuel body {} = (s', .ok) → s'.counters = [some s'.calls.length]

/-- `push [1]; evaluate; scope { push [2, 3]; evaluate }`. -/
def scopedEvalCfg : TSteps Int :=
  .cons (.push [⟨1, none⟩]) (.cons (.eval "g")
    (.cons (.scope (.cons (.push [⟨2, none⟩, ⟨3, none⟩]) (.cons (.eval "g") .nil))) .nil))

/-- 1 evaluation reported, 3 objective calls made: the scope's own `Evaluations(0)` took the other two and is dropped. -/
theorem scoped_eval_count_violates :
    (runT (fun x => (x : Int)) ["g"] 20 scopedEvalCfg {}).2 = .ok ∧
    (runT (fun x => (x : Int)) ["g"] 20 scopedEvalCfg {}).1.counters = [some 1] ∧
    (runT (fun x => (x : Int)) ["g"] 20 scopedEvalCfg {}).1.calls = [1, 2, 3] := by
  decide +kernel

theorem reported_equals_calls_fails : ¬ ReportedEqualsCalls := by
  intro h
  have hv := scoped_eval_count_violates
  have := h (fun x => (x : Int)) ["g"] 20 scopedEvalCfg (runT (fun x => (x : Int)) ["g"] 20 scopedEvalCfg {}).1 (by decide +kernel)
    (Prod.ext rfl hv.1)
  rw [hv.2.1, hv.2.2] at this
  revert this
  decide +kernel

/-! ### Non-vacuity -/

/-- the budget configuration of the two-run scenario: `push; evaluate; while evaluations < 10 { push; evaluate; pop }` -/
def budgetCfg : TSteps Int :=
  .cons (.push [⟨0, none⟩, ⟨1, none⟩, ⟨2, none⟩, ⟨3, none⟩]) (.cons (.eval "g")
    (.cons (.loopEvals 10 (.cons (.push [⟨4, none⟩, ⟨5, none⟩, ⟨6, none⟩, ⟨7, none⟩]) (.cons (.eval "g") (.cons .pop .nil)))) .nil))

/-! The executable predicate of step O (`holdsRun`, evaluated on the model's own output for these witnesses) says so. -/
open MahfModel.EvalTree.Wire in
theorem scope_defers_require_oracle_rejects :
    holdsRuns (fun x => (x : Int)) ["g"] [deferredCfg] [] [.required]
      ((runsT (fun x => (x : Int)) ["g"] 50 [deferredCfg] {}).map fun o => (o, false)) = "executed-before-error" := by
  decide +kernel

open MahfModel.EvalTree.Wire in
theorem scope_never_entered_oracle_rejects :
    holdsRuns (fun x => (x : Int)) ["g"] [neverEnteredCfg] [] [.ok]
      ((runsT (fun x => (x : Int)) ["g"] 50 [neverEnteredCfg] {}).map fun o => (o, false)) = "no-error" := by
  decide +kernel

open MahfModel.EvalTree.Wire in
theorem scoped_eval_count_oracle_rejects :
    holdsRuns (fun x => (x : Int)) ["g"] [scopedEvalCfg] [] [.ok]
      ((runsT (fun x => (x : Int)) ["g"] 50 [scopedEvalCfg] {}).map fun o => (o, false)) = "count" := by
  decide +kernel

/-- …and accepts the two-run budget scenario. -/
example : MahfModel.EvalTree.Wire.holdsRuns (fun x => (x : Int)) ["g"] [budgetCfg, budgetCfg] [] [.ok, .ok]
    ((runsT (fun x => (x : Int)) ["g"] 60 [budgetCfg, budgetCfg] {}).map fun o => (o, false)) = "-" := by decide +kernel

example : noScopedEvals budgetCfg = true ∧ evalHeres budgetCfg = true := by decide +kernel
/-- run twice on one state: 12 evaluations reported and 12 calls made, both times -/
example : (runsT (fun x => (x : Int)) ["g"] 60 [budgetCfg, budgetCfg] {}).map (fun o => (o.res, o.evals, o.ncalls)) =
    [(.ok, some 12, 12), (.ok, some 12, 12)] := by decide +kernel
example : "a" ∈ reqIdss (O := Int) (.cons (.loopIter 2 (.cons (.branch 3 (.cons (.eval "a") .nil) false .nil) .nil)) .nil) := by
  decide +kernel
example : (evalT (fun x => (x : Int) + 1) ["g"] "a" ({ stack := [[⟨1, none⟩]], counters := [some 4] } : TSt Int)).2 = .exec := by decide +kernel
example : (execT (fun x => (x : Int)) ["g"] 40 (.loopEvals 3 (.cons (.push [⟨4, none⟩, ⟨5, none⟩]) (.cons (.eval "g") .nil)))
    ({ counters := [some 0], iters := [some 0] } : TSt Int)).2 = .ok ∧
    visible (execT (fun x => (x : Int)) ["g"] 40 (.loopEvals 3 (.cons (.push [⟨4, none⟩, ⟨5, none⟩]) (.cons (.eval "g") .nil)))
    ({ counters := [some 0], iters := [some 0] } : TSt Int)).1.counters = some 4 := by decide +kernel

end MahfModel.Props.C06.Runs
