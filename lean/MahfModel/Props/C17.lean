/-
C17 — Simulated-annealing acceptance follows the Metropolis rule; geometric cooling.
Property theorems only; helper lemmas are in `Proofs/C17.lean`.  The carrier `F` is an arbitrary
ordered field (exact arithmetic); `exp` is abstract (`ExpSpec`, satisfied by `Real.exp`, see
`Props/C17Real.lean`); `u` is the uniform draw.
-/
import MahfModel.Proofs.C17
import MahfModel.Proofs.ArithNat
import Mathlib.Algebra.Order.Ring.Rat
import Mathlib.Algebra.Field.Rat
namespace MahfModel.Props.C17
open MahfModel.Sa

variable {F : Type} [Field F] [LinearOrder F] [IsStrictOrderedRing F]

/-- A candidate at least as good as the current solution always replaces it — for every
temperature, every draw and every `exp` (the comparison short-circuits before `p` is looked at). -/
theorem accept_better_or_equal (exp : F → F) (cur cand T u : F) (hle : cand ≤ cur) :
    accepts exp cur cand T u = true ∧ drawsUsed cur cand = 0 :=
  accepts_of_le exp T u hle

example : accepts (fun x : Rat => 1 + x) 3 3 (1 / 2) (9 / 10) = true :=
  (accept_better_or_equal _ _ _ _ _ (le_refl _)).1

/-- On the IEEE-like carrier `Ext F` two equal `+∞` objective values are a case of `<=`: the candidate is
accepted without a draw, although `p = exp(∞ − ∞) = NaN` (instance of `accepts_of_le`, as is the theorem above). -/
theorem accept_equal_inf (exp : Ext F → Ext F) (T u : Ext F) :
    accepts exp .pinf .pinf T u = true ∧ drawsUsed (.pinf : Ext F) .pinf = 0 :=
  accepts_of_le exp T u (show Ext.leb _ _ = true from rfl)

/-- Infinite objective values (`+∞` = infeasible) on the IEEE-like carrier, with `exp(−∞) = 0`:
an infeasible candidate never replaces a feasible current solution (`p = exp(−∞) = 0`, no draw
`u ≥ 0` is below it), and a feasible candidate always replaces an infeasible current one. -/
theorem accept_inf_candidate (f : F → F) (atPinf : Ext F) (x t y : F) (ht : 0 < t) (hy : 0 ≤ y) :
    accepts (Ext.lift f atPinf (.fin 0)) (.fin x) .pinf (.fin t) (.fin y) = false ∧
    accepts (Ext.lift f atPinf (.fin 0)) .pinf (.fin x) (.fin t) (.fin y) = true := by
  have h1 : ((Ext.fin x : Ext F) - .pinf) / .fin t = .ninf :=
    show (if 0 ≤ t then Ext.ninf else Ext.pinf) = _ from if_pos ht.le
  constructor
  · rw [accepts_of_not_le _ _ _ (show ¬ Ext.leb .pinf (.fin x) = true from Bool.false_ne_true), prob, h1]
    exact decide_eq_false ((Ext.fin_lt_fin y 0).not.mpr (not_lt.mpr hy))
  · exact (accepts_of_le _ _ _ (show Ext.leb (.fin x) .pinf = true from rfl)).1

example : (0 : Rat) < 1 / 1000 ∧ (0 : Rat) ≤ 0 := by decide +kernel

/-- A worse candidate is accepted exactly when the draw falls below `exp(−(f(cand) − f(cur)) / T)`. -/
theorem accept_worse_iff (exp : F → F) (cur cand T u : F) (h : cur < cand) :
    accepts exp cur cand T u = true ↔ u < exp (-(cand - cur) / T) := by
  rw [accepts_of_not_le exp T u (not_le.mpr h), decide_eq_true_iff, prob, neg_sub]

example : accepts (fun x : Rat => 1 + x) 1 2 4 (1 / 2) = true :=
  (accept_worse_iff _ 1 2 4 (1 / 2) (by decide +kernel)).mpr (by decide +kernel)

/-- The acceptance probability `p = exp(−Δ/T)` of a candidate worse by `Δ > 0` lies in
`[1 − Δ/T, T/(T+Δ)]`; it grows with the temperature and shrinks with the margin. -/
theorem accept_prob_bounds {exp : F → F} (he : ExpSpec exp) (cur cand T : F) (h : cur < cand) (hT : 0 < T) :
    1 - (cand - cur) / T ≤ prob exp cur cand T ∧ prob exp cur cand T ≤ T / (T + (cand - cur)) := by
  have hx : 0 ≤ (cand - cur) / T := (div_pos (sub_pos.mpr h) hT).le
  rw [prob_eq_exp_neg]
  exact ⟨(sub_eq_add_neg 1 _).trans_le (he.lower _),
    (he.neg_le_inv hx).trans_eq (by rw [one_add_div hT.ne', one_div_div])⟩

theorem accept_prob_monotone {exp : F → F} (he : ExpSpec exp) (cur cand T₁ T₂ : F) (h : cur ≤ cand)
    (h1 : 0 < T₁) (h12 : T₁ ≤ T₂) : prob exp cur cand T₁ ≤ prob exp cur cand T₂ := by
  simp only [prob, div_eq_mul_inv]
  exact he.mono (mul_le_mul_of_nonpos_left (inv_anti₀ h1 h12) (sub_nonpos.mpr h))

/-- Limits, stated as explicit bounds (no analysis library needed).
*Cold:* once `T ≤ ε·Δ` the acceptance probability is at most `ε`, so every draw `u ≥ ε` rejects a
candidate worse by `Δ` — "never as T approaches zero".
*Hot:* once `T ≥ Δ/ε` the probability is at least `1 − ε`, so every draw `u < 1 − ε` accepts —
"always as T grows without bound". -/
theorem accept_limits {exp : F → F} (he : ExpSpec exp) (cur cand ε : F) (h : cur < cand) (hε : 0 < ε) :
    (∀ T u, 0 < T → T ≤ ε * (cand - cur) → ε ≤ u → accepts exp cur cand T u = false) ∧
    (∀ T u, (cand - cur) / ε ≤ T → u < 1 - ε → accepts exp cur cand T u = true) := by
  have hd : 0 < cand - cur := sub_pos.mpr h
  have hn : ¬ cand ≤ cur := not_le.mpr h
  constructor
  · intro T u hT hTs hu
    have hp : prob exp cur cand T ≤ ε :=
      (accept_prob_bounds he cur cand T h hT).2.trans ((div_le_iff₀ (add_pos hT hd)).mpr
        (hTs.trans (mul_le_mul_of_nonneg_left (le_add_of_nonneg_left hT.le) hε.le)))
    rw [accepts_of_not_le exp T u hn]
    exact decide_eq_false (not_lt.mpr (hp.trans hu))
  · intro T u hT hu
    have hTpos : 0 < T := (div_pos hd hε).trans_le hT
    have hq : (cand - cur) / T ≤ ε := (div_le_comm₀ hTpos hε).mpr hT
    rw [accepts_of_not_le exp T u hn]
    exact decide_eq_true (hu.trans_le ((sub_le_sub_left hq 1).trans (accept_prob_bounds he cur cand T h hTpos).1))

/-- Stack frame: two single-individual populations (candidate on top, current below) are reduced
to one population holding the survivor; everything below is untouched; at most one draw is used
(none for a candidate that is at least as good). -/
theorem accept_frame (exp : F → F) (T u : F) (cand cur : Ind F) (rest : Stk F) :
    acceptStep exp T u ([cand] :: [cur] :: rest) =
      (.ok, [if accepts exp cur.obj cand.obj T u then cand else cur] :: rest,
       drawsUsed cur.obj cand.obj) :=
  acceptStep_two exp T u cand cur rest

/-- Malformed frames: an empty population is an `Err` and fewer than two populations a panic;
the stack is left as it was and no draw is consumed. -/
theorem accept_frame_errors (exp : F → F) (T u : F) (p : Pop F) (i : Ind F) (q : Pop F) (rest : Stk F) :
    acceptStep exp T u (p :: [] :: rest) = (.err, p :: [] :: rest, 0) ∧
    acceptStep exp T u ([] :: (i :: q) :: rest) = (.err, [] :: (i :: q) :: rest, 0) ∧
    acceptStep exp T u [p] = (.panic, [p], 0) ∧
    acceptStep exp T u [] = (.panic, [], 0) :=
  ⟨rfl, rfl, rfl, rfl⟩

/-- Geometric cooling: each execution multiplies the temperature by `alpha` exactly once — after
`n` executions the temperature is `T·alphaⁿ`, and the `k`-th recorded value is `T·alpha^(k+1)`. -/
theorem cooling_once (alpha T : F) (n : Nat) :
    cool alpha T = alpha * T ∧
    iter (cool alpha) n T = T * alpha ^ n ∧
    (coolTrace alpha n T).length = n ∧
    ∀ k, k < n → (coolTrace alpha n T)[k]? = some (T * alpha ^ (k + 1)) :=
  ⟨by simp [cool, mul_comm], iter_cool alpha n T, by rw [coolTrace_eq, List.length_map, List.length_range],
   fun k hk => by rw [coolTrace_eq, List.getElem?_map, List.getElem?_range hk]; rfl⟩

/-- Counting theorem behind the acceptance *probability*: `gen::<f64>()` maps a 64-bit word `w`
to `u = (w >> 11)·2⁻⁵³`. If `m = ⌈p·2⁵³⌉` (i.e. `(m−1)/2⁵³ < p ≤ m/2⁵³`, `m ≤ 2⁵³`), then exactly
`m·2¹¹` of the `2⁶⁴` words give `u < p`: the frequency over uniformly distributed words is
`m/2⁵³ ∈ [p, p + 2⁻⁵³)`. -/
theorem draws_below_count (p : F) (m : Nat) (hm : m ≤ 2 ^ 53)
    (hlo : ((m : F) - 1) / 2 ^ 53 < p) (hhi : p ≤ (m : F) / 2 ^ 53) :
    (List.range (2 ^ 64)).countP (fun w => decide (((unitNumer w : Nat) : F) / 2 ^ 53 < p)) = m * 2 ^ 11 := by
  have h53 : (0 : F) < 2 ^ 53 := pow_pos two_pos 53
  have key : ∀ w ∈ List.range (2 ^ 64),
      decide (((unitNumer w : Nat) : F) / 2 ^ 53 < p) = true ↔ decide (w < m * 2 ^ 11) = true := fun w hw => by
    rw [decide_eq_true_iff, decide_eq_true_iff, unitNumer_of_lt (List.mem_range.mp hw),
      div_lt_iff_lt_of_ceil h53 hlo hhi, Nat.div_lt_iff_lt_mul (Nat.two_pow_pos 11)]
  rw [List.countP_congr key, Arith.countP_lt_range]
  exact Nat.min_eq_left ((Nat.mul_le_mul_right _ hm).trans_eq (Nat.pow_add 2 53 11).symm)

/-- …hence the number of generator words for which a worse candidate is accepted. -/
theorem accept_worse_count (exp : F → F) (cur cand T : F) (h : cur < cand) (m : Nat) (hm : m ≤ 2 ^ 53)
    (hlo : ((m : F) - 1) / 2 ^ 53 < exp (-(cand - cur) / T)) (hhi : exp (-(cand - cur) / T) ≤ (m : F) / 2 ^ 53) :
    (List.range (2 ^ 64)).countP (fun w => accepts exp cur cand T (((unitNumer w : Nat) : F) / 2 ^ 53)) = m * 2 ^ 11 := by
  rw [← draws_below_count (exp (-(cand - cur) / T)) m hm hlo hhi]
  apply List.countP_congr
  intro w _
  rw [decide_eq_true_iff]
  exact accept_worse_iff exp cur cand T (((unitNumer w : Nat) : F) / 2 ^ 53) h

/-- The hypotheses of `draws_below_count` are satisfiable: `p = 1/2`, `m = 2⁵²`. -/
example : ((( (2 ^ 52 : Nat) : Rat) - 1) / 2 ^ 53 < 1 / 2) ∧ ((1 : Rat) / 2 ≤ ((2 ^ 52 : Nat) : Rat) / 2 ^ 53) := by
  decide +kernel

end MahfModel.Props.C17
