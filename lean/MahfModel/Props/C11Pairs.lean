/-
C11 — two further classes of inputs (property theorems only; helper lemmas in `Proofs/C11Pairs.lean`).

(1) Individuals are (solution, objective) PAIRS.  Members of a population may share a solution (`tag`)
and differ in the objective value (repeated evaluations of a noisy / dynamic objective, hand-built
populations, unit encodings) and vice versa.  Membership, counts and the documented errors are judged on
pairs: `Ind F` is the pair, `select_members` already speaks about pairs; here the one place where the
code itself compares individuals (`DECurrentToBest`: `filter(|&i| i != individual)`) is characterised.

(2) The `State` a selection component is executed on may hold OTHER best / memory states (`BestIndividual`,
`ElitistArchive`, PSO `BestParticles` / `BestParticle`) whose content is not in the current population.
`execute` is `select` on the source population and nothing else.
-/
import MahfModel.Proofs.C11Pairs
import MahfModel.Props.C11
namespace MahfModel.Props.C11
open MahfModel.Selection
set_option linter.unusedSectionVars false

variable {F : Type} [Field F] [LinearOrder F] [IsStrictOrderedRing F]

/-! ## Individuals are (solution, objective) pairs -/

/-- `Individual: PartialEq` as the selection code uses it: two individuals are the same exactly if they
have the same solution AND the same objective value (or are both unevaluated). -/
theorem same_individual_iff_pair (a b : Ind F) :
    sameInd a b = true ↔ a.tag = b.tag ∧ a.obj = b.obj := by
  rw [sameInd_iff]
  rcases a with ⟨ta, oa⟩
  rcases b with ⟨tb, ob⟩
  simp

/-- `DECurrentToBest`: the pool of "other" individuals of a member consists of ALL members that differ from
it as a pair — its size is the population size minus the number of identical copies of that member (itself
included).  A member that merely shares the solution, or merely shares the objective, stays in the pool. -/
theorem de_current_to_best_pool_counts_pairs (pop : Pop F) (ind : Ind F) :
    (pop.filter (fun j => !sameInd j ind)).length = pop.length - pop.count ind ∧
    ∀ j ∈ pop, (j ∈ pop.filter (fun j => !sameInd j ind) ↔ ¬ (j.tag = ind.tag ∧ j.obj = ind.obj)) := by
  refine ⟨by have := pool_length pop ind; omega, fun j hj => ?_⟩
  rw [List.mem_filter, ← same_individual_iff_pair]
  simp [hj]

/-- `DECurrentToBest` on ANY evaluated population (shared solutions, shared objectives, identical copies):
`Err` exactly if the population is empty or some member has fewer than `2y-1` members that differ from it as
a (solution, objective) pair; never a panic. -/
theorem de_current_to_best_err_iff_pairs (O : Ops F) (y bi : Nat) (ss : List (List Nat)) (pop : Pop F)
    (hev : Evaluated pop) (hbi : BestIdx pop bi) :
    (select O (.deCurrentToBest y) (.setsBest bi ss) pop = .error .exec ↔
      pop = [] ∨ ∃ ind ∈ pop, pop.length - pop.count ind < 2 * y - 1) ∧
    select O (.deCurrentToBest y) (.setsBest bi ss) pop ≠ .error .panic := by
  refine (deCurrentToBest_outcome O y bi ss pop hev hbi).congr ?_
  simp only [fun ind => (de_current_to_best_pool_counts_pairs pop ind).1]

/-- A population of at least `2y` pairwise different (solution, objective) pairs is a usable input of
`DECurrentToBest` — however many of its members share a solution (or an objective value): the result is `Ok`
with one block of `2y+1` per member. -/
theorem de_current_to_best_shared_solutions_ok (O : Ops F) (y bi : Nat) (ss : List (List Nat)) (pop : Pop F)
    (hev : Evaluated pop) (hl : Legal (.deCurrentToBest y) pop (.setsBest bi ss))
    (hnd : pop.Nodup) (hy : 1 ≤ y) (hlen : 2 * y ≤ pop.length) :
    ∃ sel, select O (.deCurrentToBest y) (.setsBest bi ss) pop = .ok sel ∧
      sel.length = pop.length * (2 * y + 1) := by
  have hok : ¬ (pop = [] ∨ ∃ ind ∈ pop, pop.length - pop.count ind < 2 * y - 1) := by
    rintro (h | ⟨ind, hm, hlt⟩)
    · subst h; exact absurd hlen (by simp; omega)
    · rw [List.count_eq_one_of_mem hnd hm] at hlt; omega
  obtain ⟨sel, h⟩ := ErrIff.ok_of_not (de_current_to_best_err_iff_pairs O y bi ss pop hev hl.2) hok
  exact ⟨sel, h, Option.some.inj (de_count O (.deCurrentToBest y) y (.inr (.inr ⟨rfl, hy⟩)) _ pop sel hl h).1⟩

/-! ## Other best / memory states in the State -/

/-- The `execute` path is the `select` path on the source population: whatever else the State holds, the
outcome is `select`'s outcome on the current population, on `Ok` exactly its result is pushed, and every
pushed individual is a member of the SOURCE population — an individual that is only held by another state
(a cached best-so-far, an elitist, a PSO best) can never appear in the selection. -/
theorem execute_is_select_on_source (O : Ops F) (op : Op F) (w : Witness F) (st : SelState F)
    (cur : Pop F) (rest : List (Pop F)) (hs : st.stack = cur :: rest) :
    (∃ sel, select O op w cur = .ok sel ∧ (∀ x ∈ sel, x ∈ cur) ∧
      execute O op w st = ({ st with stack := sel :: cur :: rest }, .ok)) ∨
    (select O op w cur = .error .exec ∧ execute O op w st = (st, .err)) ∨
    (select O op w cur = .error .panic ∧ execute O op w st = (st, .panic)) := by
  rcases st with ⟨stack, b, a, p, g⟩
  simp only at hs
  subst hs
  rcases select_frame O op w cur rest with ⟨sel, h1, h2⟩ | ⟨h1, h2⟩ | ⟨h1, h2⟩
  · exact .inl ⟨sel, h1, select_members O op w cur sel h1, by simp only [execute, h2]⟩
  · exact .inr (.inl ⟨h1, by simp only [execute, h2]⟩)
  · exact .inr (.inr ⟨h1, by simp only [execute, h2]⟩)

/-- The selection depends on the source population only: two States with the same population stack give the
same stack and the same outcome, whatever their other states contain. -/
theorem execute_depends_on_source_only (O : Ops F) (op : Op F) (w : Witness F) (st st' : SelState F)
    (h : st.stack = st'.stack) :
    (execute O op w st).1.stack = (execute O op w st').1.stack ∧
    (execute O op w st).2 = (execute O op w st').2 := by
  simp only [execute, h, and_self]

/-- The other states are left as they were.  (This and the previous theorem hold by the way the model's
`execute` is written; what ties them to /repo is the differential run on such States.) -/
theorem execute_keeps_other_states (O : Ops F) (op : Op F) (w : Witness F) (st : SelState F) :
    (execute O op w st).1.best = st.best ∧ (execute O op w st).1.archive = st.archive ∧
    (execute O op w st).1.pbest = st.pbest ∧ (execute O op w st).1.gbest = st.gbest :=
  ⟨rfl, rfl, rfl, rfl⟩

end MahfModel.Props.C11
