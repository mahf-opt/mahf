/-
C20 — Chemical-reaction steps conserve energy and keep molecules aligned.
Property theorems only; the lemmas are in `Proofs/C20Locate`, `C20Reaction`, `C20Energy`, `C20`.  The carrier `F` is an arbitrary
ordered field (exact arithmetic).  The population sits at depth 2 of the stack before an update
(products on top, reactants below) and on top afterwards.

Which of several EQUAL individuals is taken as the reactant is not part of the property: every clause
is proved about `Reaction` (`Proofs/C20Reaction.lean`), i.e. for every legal index witness (`legal1` / `legal2`:
an index of an individual equal to the reactant; two distinct ones for two reactants).  The `*_any`
theorems state it so; those without suffix are the instances for the code's choice (first match), legal
on every state (`legal1_first`, `legal2_first`).  The `history_*` theorems are about arbitrary sequences
of updates as the CRO loop produces them.
-/
import MahfModel.Proofs.C20
import MahfModel.Proofs.C20Energy
import Mathlib.Algebra.Order.Ring.Rat
namespace MahfModel.Props.C20
open MahfModel.Cro
set_option linter.unusedSectionVars false

variable {F : Type} [Field F] [LinearOrder F] [IsStrictOrderedRing F]

/-! ### Energy conservation: Σ objective + Σ kinetic energy + buffer is unchanged -/

theorem reaction_conserves_any (rx : Rx F) (st : St F) (hl : rx.legalIdx st = true) (h : (rx.apply st).status = .ok) :
    (rx.apply st).st.energyAt 0 = st.energyAt 2 :=
  (Rx.apply_reaction hl h).conserves

/-- The code's choice of reactant (first match; second reactant first match elsewhere). -/
theorem onwall_conserves (lr a : F) (st : St F) (h : (onWall lr a st).status = .ok) :
    (onWall lr a st).st.energyAt 0 = st.energyAt 2 :=
  reaction_conserves_any (.onWall lr a _) st (legal1_first st) h

theorem decomposition_conserves (dA δ1 δ2 dB : F) (st : St F)
    (h : (decomposition dA δ1 δ2 dB st).status = .ok) :
    (decomposition dA δ1 δ2 dB st).st.energyAt 0 = st.energyAt 2 :=
  reaction_conserves_any (.decomp dA δ1 δ2 dB _) st (legal1_first st) h

theorem intermolecular_conserves (d4 : F) (st : St F) (h : (intermolecular d4 st).status = .ok) :
    (intermolecular d4 st).st.energyAt 0 = st.energyAt 2 :=
  reaction_conserves_any (.inter d4 _ _) st (legal2_first st) h

theorem synthesis_conserves (st : St F) (h : (synthesis st).status = .ok) :
    (synthesis st).st.energyAt 0 = st.energyAt 2 :=
  reaction_conserves_any (.synth _ _) st (legal2_first st) h

/-! The hypothesis `status = ok` is satisfiable on non-trivial states (accepted on-wall collision,
buffer-assisted decomposition, accepted inter-molecular collision, accepted synthesis). -/
def exSt : St Rat :=
  { stack := [[⟨9, 4⟩], [⟨2, 3⟩], [⟨1, 5⟩, ⟨2, 3⟩, ⟨3, 7⟩]],
    mols := [⟨1, 0, 0, ⟨1, 5⟩⟩, ⟨2, 1, 0, ⟨2, 3⟩⟩, ⟨0, 2, 1, ⟨3, 7⟩⟩], buffer := 10 }
/-- two equal twins (tag 2, objective 3) with different molecules -/
def exTwins : St Rat :=
  { stack := [[⟨9, 4⟩], [⟨2, 3⟩], [⟨1, 5⟩, ⟨2, 3⟩, ⟨2, 3⟩]],
    mols := [⟨1, 0, 0, ⟨1, 5⟩⟩, ⟨2, 1, 0, ⟨2, 3⟩⟩, ⟨6, 2, 1, ⟨2, 3⟩⟩], buffer := 10 }
example : (onWall (1 / 5) (1 / 2) exSt).status = .ok ∧ (onWall (1 / 5) (1 / 2) exSt).st.energyAt 0 = 28 ∧
    exSt.energyAt 2 = 28 := by decide +kernel
example : (decomposition (1 / 2) (1 / 2) (1 / 2) (1 / 4) { exSt with stack := [[⟨8, 4⟩, ⟨9, 3⟩], [⟨2, 3⟩], [⟨1, 5⟩, ⟨2, 3⟩, ⟨3, 7⟩]] }).status = .ok ∧
    (decomposition (1 / 2) (1 / 2) (1 / 2) (1 / 4) { exSt with stack := [[⟨8, 4⟩, ⟨9, 3⟩], [⟨2, 3⟩], [⟨1, 5⟩, ⟨2, 3⟩, ⟨3, 7⟩]] }).st.buffer = 15 / 2 := by
  decide +kernel
example : (intermolecular (1 / 3) { exSt with stack := [[⟨8, 4⟩, ⟨9, 3⟩], [⟨3, 7⟩, ⟨1, 5⟩], [⟨1, 5⟩, ⟨2, 3⟩, ⟨3, 7⟩]] }).status = .ok := by
  decide +kernel
example : (synthesis { exSt with stack := [[⟨8, 4⟩], [⟨3, 7⟩, ⟨1, 5⟩], [⟨1, 5⟩, ⟨2, 3⟩, ⟨3, 7⟩]] }).st.mols.length = 2 := by
  decide +kernel

/-! ### Non-negativity does not depend on exact arithmetic

The other theorems of this file are about an ordered field.  The non-negativity clause holds on every carrier
whose (possibly rounded) operations satisfy `MonoArith` — monotone rounding with exact `0` and `1`
on a total order, which is what IEEE-754 doubles give as long as no NaN arises — so the clause is
not merely true "up to rounding". -/

section rounded
variable {G : Type} [BEq G] [Add G] [Sub G] [Mul G] [LT G] [LE G] [DecidableLT G] [DecidableLE G] [OfNat G 0] [OfNat G 1]

/-- One update (any of the four, any legal reactant index, legal draws) on a carrier with
monotone arithmetic: no kinetic energy and not the buffer becomes negative. -/
theorem reaction_nonneg_rounded (A : MonoArith G) (rx : Rx G) (st : St G) (hl : rx.legalIdx st = true)
    (hd : rx.legalDraws) (h : (rx.apply st).status = .ok) (hN : NonNeg st) : NonNeg (rx.apply st).st :=
  (Rx.apply_reaction hl h).nonneg A hd hN

/-- … and so after every history of updates. -/
theorem history_nonneg_rounded (A : MonoArith G) (steps : List (Step G)) (st st' : St G)
    (hl : runLegalIdx steps st = true) (hd : ∀ s ∈ steps, s.rx.legalDraws)
    (h : runSteps steps st = some st') (hN : NonNeg st) : NonNeg st' :=
  runSteps_induct (fun s hs _ _ hr hN => hr.nonneg A (hd s hs) hN) hl h hN

end rounded

/-! ### Non-negativity of kinetic energies and buffer: `reaction_nonneg_rounded` for exact arithmetic and the code's choice -/

/-- Exact arithmetic is one instance (the hypothesis `MonoArith` is satisfiable). -/
theorem monoArith_of_orderedField : MonoArith F :=
  ⟨fun _ _ _ => le_trans, fun _ _ h => not_lt.mp h, fun _ _ => add_nonneg, fun _ _ h => sub_nonneg.mpr h,
   fun _ _ => mul_nonneg, fun _ _ _ ha1 hb0 hb1 => mul_le_one₀ ha1 hb0 hb1⟩

theorem onwall_nonneg (lr a : F) (st : St F) (h : (onWall lr a st).status = .ok)
    (hk : ∀ m ∈ st.mols, 0 ≤ m.ke) (hb : 0 ≤ st.buffer) (h0 : 0 ≤ lr) (hla : lr ≤ a) (ha1 : a ≤ 1) :
    (∀ m ∈ (onWall lr a st).st.mols, 0 ≤ m.ke) ∧ 0 ≤ (onWall lr a st).st.buffer :=
  reaction_nonneg_rounded monoArith_of_orderedField (.onWall lr a _) st (legal1_first st) ⟨h0, hla, ha1⟩ h ⟨hk, hb⟩

theorem decomposition_nonneg (dA δ1 δ2 dB : F) (st : St F) (h : (decomposition dA δ1 δ2 dB st).status = .ok)
    (hk : ∀ m ∈ st.mols, 0 ≤ m.ke) (hb : 0 ≤ st.buffer)
    (hA : 0 ≤ dA ∧ dA ≤ 1) (h1 : 0 ≤ δ1 ∧ δ1 ≤ 1) (h2 : 0 ≤ δ2 ∧ δ2 ≤ 1) (hB : 0 ≤ dB ∧ dB ≤ 1) :
    (∀ m ∈ (decomposition dA δ1 δ2 dB st).st.mols, 0 ≤ m.ke) ∧ 0 ≤ (decomposition dA δ1 δ2 dB st).st.buffer :=
  reaction_nonneg_rounded monoArith_of_orderedField (.decomp dA δ1 δ2 dB _) st (legal1_first st) ⟨hA, h1, h2, hB⟩ h ⟨hk, hb⟩

theorem intermolecular_nonneg (d4 : F) (st : St F) (h : (intermolecular d4 st).status = .ok)
    (hk : ∀ m ∈ st.mols, 0 ≤ m.ke) (hb : 0 ≤ st.buffer) (hd : 0 ≤ d4 ∧ d4 ≤ 1) :
    (∀ m ∈ (intermolecular d4 st).st.mols, 0 ≤ m.ke) ∧ 0 ≤ (intermolecular d4 st).st.buffer :=
  reaction_nonneg_rounded monoArith_of_orderedField (.inter d4 _ _) st (legal2_first st) hd h ⟨hk, hb⟩

theorem synthesis_nonneg (st : St F) (h : (synthesis st).status = .ok)
    (hk : ∀ m ∈ st.mols, 0 ≤ m.ke) (hb : 0 ≤ st.buffer) :
    (∀ m ∈ (synthesis st).st.mols, 0 ≤ m.ke) ∧ 0 ≤ (synthesis st).st.buffer :=
  reaction_nonneg_rounded monoArith_of_orderedField (.synth _ _) st (legal2_first st) trivial h ⟨hk, hb⟩

/-- The hypotheses of the non-negativity theorems are satisfiable on a state where the loss is
positive (accepted on-wall collision with `lr = 1/5 ≤ a = 1/2 ≤ 1`). -/
example : (onWall (1 / 5) (1 / 2) exSt).status = .ok ∧ (∀ m ∈ exSt.mols, (0 : Rat) ≤ m.ke) ∧ (0 : Rat) ≤ exSt.buffer ∧
    (0 : Rat) ≤ 1 / 5 ∧ (1 / 5 : Rat) ≤ 1 / 2 ∧ (1 / 2 : Rat) ≤ 1 := by decide +kernel

/-! ### Alignment: one molecule record per individual, in the same order.
`pop.zip mols` pairs every individual with its molecule; an update only ever replaces the pair at
the reactant's index, appends one pair (decomposition) or removes the pair of the second reactant
(synthesis) — every other individual keeps *its* molecule at *its* index. -/

/-- `ZipChange rx z z'` spells the change out per update (set at `i` / set and append one / set at `i` and
`j ≠ i` / unchanged or set at `i` and erase `j ≠ i`), for the witness indices of `rx`. -/
theorem reaction_aligned_any (rx : Rx F) (st : St F) (hl : rx.legalIdx st = true) (h : (rx.apply st).status = .ok)
    (hal : (st.stack.getD 2 []).length = st.mols.length) :
    ((rx.apply st).st.stack.getD 0 []).length = (rx.apply st).st.mols.length ∧
    ZipChange rx ((st.stack.getD 2 []).zip st.mols) (((rx.apply st).st.stack.getD 0 []).zip (rx.apply st).st.mols) :=
  (Rx.apply_reaction hl h).aligned hal

/-- The indices at which the zipped list changes are indices of individuals EQUAL to the reactants
(for the code's choice: the first such index, and the first other such index): whenever the
reactants exist in the population, a legal witness points at them, and at two different places. -/
theorem legal_witness_is_reactant (i j : Nat) (q : Pop F) (pop : Pop F) (rest : List (Pop F)) (mols : List (Mol F))
    (buffer : F) (r1 r2 : Ind F) :
    (position pop r1 ≠ none → legal1 i ⟨q :: [r1] :: pop :: rest, mols, buffer⟩ = true →
        ∃ x, pop[i]? = some x ∧ (x == r1) = true) ∧
    (position pop r1 ≠ none → (∀ i0, position pop r1 = some i0 → positionOther pop i0 r2 ≠ none) →
        legal2 i j ⟨q :: [r1, r2] :: pop :: rest, mols, buffer⟩ = true →
        (∃ x, pop[i]? = some x ∧ (x == r1) = true) ∧ (∃ y, pop[j]? = some y ∧ (y == r2) = true) ∧ i ≠ j) := by
  constructor
  · intro hp hl
    obtain ⟨i0, hq⟩ := Option.ne_none_iff_exists'.mp hp
    exact legal1_reactant hq hl
  · intro hp hp2 hl
    obtain ⟨i0, hq⟩ := Option.ne_none_iff_exists'.mp hp
    obtain ⟨j0, hq2⟩ := Option.ne_none_iff_exists'.mp (hp2 i0 hq)
    exact legal2_reactants hq hq2 hl

/-- With two equal twins in the population both are legal reactants of an on-wall collision, and
they lead to different (both energy-conserving) states: the choice matters, and is a witness. -/
example : legal1 1 exTwins = true ∧ legal1 2 exTwins = true ∧ legal1 0 exTwins = false ∧
    (onWallAt (1 / 5) (1 / 2) 1 exTwins).st.energyAt 0 = exTwins.energyAt 2 ∧
    (onWallAt (1 / 5) (1 / 2) 2 exTwins).st.energyAt 0 = exTwins.energyAt 2 ∧
    (onWallAt (1 / 5) (1 / 2) 1 exTwins).st.buffer ≠ (onWallAt (1 / 5) (1 / 2) 2 exTwins).st.buffer := by
  decide +kernel

theorem molecules_aligned_onwall (lr a : F) (st : St F) (h : (onWall lr a st).status = .ok)
    (hal : (st.stack.getD 2 []).length = st.mols.length) :
    ((onWall lr a st).st.stack.getD 0 []).length = (onWall lr a st).st.mols.length ∧
    ∃ i x, ((onWall lr a st).st.stack.getD 0 []).zip (onWall lr a st).st.mols =
      ((st.stack.getD 2 []).zip st.mols).set i x :=
  have ha := (onWallAt_reaction (legal1_first st) h).aligned hal
  ⟨ha.1, _, ha.2⟩

theorem molecules_aligned_decomposition (dA δ1 δ2 dB : F) (st : St F)
    (h : (decomposition dA δ1 δ2 dB st).status = .ok)
    (hal : (st.stack.getD 2 []).length = st.mols.length) :
    ((decomposition dA δ1 δ2 dB st).st.stack.getD 0 []).length = (decomposition dA δ1 δ2 dB st).st.mols.length ∧
    ∃ i x, (((decomposition dA δ1 δ2 dB st).st.stack.getD 0 []).zip (decomposition dA δ1 δ2 dB st).st.mols =
              ((st.stack.getD 2 []).zip st.mols).set i x) ∨
           (∃ y, ((decomposition dA δ1 δ2 dB st).st.stack.getD 0 []).zip (decomposition dA δ1 δ2 dB st).st.mols =
              ((st.stack.getD 2 []).zip st.mols).set i x ++ [y]) :=
  have ha := (decompositionAt_reaction (legal1_first st) h).aligned hal
  ⟨ha.1, _, ha.2⟩

theorem molecules_aligned_intermolecular (d4 : F) (st : St F) (h : (intermolecular d4 st).status = .ok)
    (hal : (st.stack.getD 2 []).length = st.mols.length) :
    ((intermolecular d4 st).st.stack.getD 0 []).length = (intermolecular d4 st).st.mols.length ∧
    ∃ i j x y, j ≠ i ∧ ((intermolecular d4 st).st.stack.getD 0 []).zip (intermolecular d4 st).st.mols =
      (((st.stack.getD 2 []).zip st.mols).set i x).set j y :=
  have ha := (intermolecularAt_reaction (legal2_first st) h).aligned hal
  ⟨ha.1, _, _, ha.2⟩

theorem molecules_aligned_synthesis (st : St F) (h : (synthesis st).status = .ok)
    (hal : (st.stack.getD 2 []).length = st.mols.length) :
    ((synthesis st).st.stack.getD 0 []).length = (synthesis st).st.mols.length ∧
    (((synthesis st).st.stack.getD 0 []).zip (synthesis st).st.mols = (st.stack.getD 2 []).zip st.mols ∨
     ∃ i j x, j ≠ i ∧ ((synthesis st).st.stack.getD 0 []).zip (synthesis st).st.mols =
      (((st.stack.getD 2 []).zip st.mols).set i x).eraseIdx j) := by
  obtain ⟨h1, h2⟩ := (synthesisAt_reaction (legal2_first st) h).aligned hal
  exact ⟨h1, h2.imp id (fun ⟨x, hx⟩ => ⟨_, _, x, hx⟩)⟩

/-- `ChemicalReactionInit`: one fresh molecule (given kinetic energy, no hits, best = the
individual) per individual of the current population, in order. -/
theorem molecules_aligned_init (ke : F) (st : St F) :
    (init ke st).mols.length = (st.stack.headD []).length ∧
    (init ke st).mols = (st.stack.headD []).map (fun i => { ke := ke, numHit := 0, minHit := 0, best := i }) ∧
    (init ke st).stack = st.stack := by
  simp [init, Mol.new]

/-! ### Stack frame -/

/-- A successful update consumes exactly the product and the reactant population: what was the
third population is now on top (updated), everything below is untouched — whichever equal
individual was taken as the reactant. -/
theorem reaction_frame_any (rx : Rx F) (st : St F) (hl : rx.legalIdx st = true) (h : (rx.apply st).status = .ok) :
    3 ≤ st.stack.length ∧ (rx.apply st).st.stack.drop 1 = st.stack.drop 3 ∧
    (rx.apply st).st.stack.length + 2 = st.stack.length :=
  (Rx.apply_reaction hl h).frame

theorem reaction_frame (lr a dA δ1 δ2 dB d4 : F) (st : St F) :
    ((onWall lr a st).status = .ok →
        3 ≤ st.stack.length ∧ (onWall lr a st).st.stack.drop 1 = st.stack.drop 3 ∧
        (onWall lr a st).st.stack.length + 2 = st.stack.length) ∧
    ((decomposition dA δ1 δ2 dB st).status = .ok →
        3 ≤ st.stack.length ∧ (decomposition dA δ1 δ2 dB st).st.stack.drop 1 = st.stack.drop 3 ∧
        (decomposition dA δ1 δ2 dB st).st.stack.length + 2 = st.stack.length) ∧
    ((intermolecular d4 st).status = .ok →
        3 ≤ st.stack.length ∧ (intermolecular d4 st).st.stack.drop 1 = st.stack.drop 3 ∧
        (intermolecular d4 st).st.stack.length + 2 = st.stack.length) ∧
    ((synthesis st).status = .ok →
        3 ≤ st.stack.length ∧ (synthesis st).st.stack.drop 1 = st.stack.drop 3 ∧
        (synthesis st).st.stack.length + 2 = st.stack.length) :=
  ⟨reaction_frame_any (.onWall lr a _) st (legal1_first st),
   reaction_frame_any (.decomp dA δ1 δ2 dB _) st (legal1_first st),
   reaction_frame_any (.inter d4 _ _) st (legal2_first st),
   reaction_frame_any (.synth _ _) st (legal2_first st)⟩

/-- With fewer than three populations every update refuses with `Err` and touches nothing. -/
theorem reaction_frame_short (lr a dA δ1 δ2 dB d4 : F) (st : St F) (h : st.stack.length < 3) :
    ((onWall lr a st).status = .err ∧ (onWall lr a st).st = st) ∧
    ((decomposition dA δ1 δ2 dB st).status = .err ∧ (decomposition dA δ1 δ2 dB st).st = st) ∧
    ((intermolecular d4 st).status = .err ∧ (intermolecular d4 st).st = st) ∧
    ((synthesis st).status = .err ∧ (synthesis st).st = st) := by
  obtain ⟨stack, mols, buffer⟩ := st
  match stack, h with
  | [], _ | [_], _ | [_, _], _ => exact ⟨⟨rfl, rfl⟩, ⟨rfl, rfl⟩, ⟨rfl, rfl⟩, ⟨rfl, rfl⟩⟩

/-! ### Histories: any sequence of updates, as the CRO loop produces them

A step pushes a reactant and a product population (any populations: the selection and variation
operators are not constrained) and runs one update; `runSteps` chains steps and stops at the first
update that does not return `Ok`.  `runLegalIdx` says every reactant index witness is legal in the
state it is used in (the code's first-match choice always is). -/

/-- **Energy is constant over every history of updates** (accepted, rejected, buffer-assisted, in
any order, with any reactants and products, any draws, any legal choice among equal reactants). -/
theorem history_conserves (steps : List (Step F)) (st st' : St F) (hl : runLegalIdx steps st = true)
    (h : runSteps steps st = some st') : st'.energyAt 0 = st.energyAt 0 :=
  runSteps_induct (P := fun s => s.energyAt 0 = st.energyAt 0)
    (fun _ _ _ _ hr h0 => hr.conserves.trans h0) hl h rfl

/-- **The run invariant**: from a state in which population and molecule list are index-aligned, no
kinetic energy and not the buffer is negative, `min_hit ≤ num_hit` and every molecule's remembered
best is at least as good as its individual, every history of updates with legal draws (loss-rate
draw in `[lr, 1]`, `0 ≤ lr`; all others in `[0, 1]`) ends in such a state again. -/
theorem history_keeps_invariant (steps : List (Step F)) (st st' : St F) (hl : runLegalIdx steps st = true)
    (hd : ∀ s ∈ steps, s.rx.legalDraws) (h : runSteps steps st = some st') (hI : RunInv st) : RunInv st' :=
  runSteps_induct (fun s hs _ _ hr hI => hr.inv monoArith_of_orderedField (hd s hs) hI) hl h hI

/-- `ChemicalReactionInit` establishes the invariant (non-negative initial kinetic energy and
buffer, a population on the stack). -/
theorem init_establishes_invariant (ke buf : F) (st : St F) (hk : 0 ≤ ke) (hb : 0 ≤ buf) :
    RunInv (init ke { st with buffer := buf }) := by
  refine InvT.iff_pairs.mpr ⟨by simp [init], fun xm hxm => ?_, hb⟩
  change xm ∈ (st.stack.headD []).zip ((st.stack.headD []).map (Mol.new ke)) at hxm
  rw [← List.map_id (st.stack.headD []), List.map_map, List.zip_map'] at hxm
  obtain ⟨x, -, rfl⟩ := List.mem_map.mp hxm
  exact .new _ _ hk

/-- The stack below the population is never touched and the height is the same after every history:
each step consumes exactly the two populations it was given. -/
theorem history_frame (steps : List (Step F)) (st st' : St F) (hl : runLegalIdx steps st = true)
    (h : runSteps steps st = some st') :
    st'.stack.drop 1 = st.stack.drop 1 ∧ st'.stack.length = st.stack.length := by
  refine runSteps_induct (P := fun s => s.stack.drop 1 = st.stack.drop 1 ∧ s.stack.length = st.stack.length)
    (fun s _ t _ hr h0 => ?_) hl h ⟨rfl, rfl⟩
  obtain ⟨_, f2, f3⟩ := hr.frame
  exact ⟨f2.trans h0.1, (Nat.add_right_cancel f3).trans h0.2⟩

/-- A three-step history on a three-molecule population: accepted on-wall collision, accepted
synthesis, buffer-assisted decomposition; all witnesses legal, energy 28 before and after. -/
def exSteps : List (Step Rat) :=
  [⟨[⟨2, 3⟩], [⟨9, 4⟩], .onWall (1 / 5) (1 / 2) 1⟩,
   ⟨[⟨3, 7⟩, ⟨1, 5⟩], [⟨8, 4⟩], .synth 2 0⟩,
   ⟨[⟨9, 4⟩], [⟨10, 3⟩, ⟨11, 2⟩], .decomp (1 / 2) (1 / 2) (1 / 2) (1 / 4) 0⟩]
def exSt0 : St Rat := { exSt with stack := [[⟨1, 5⟩, ⟨2, 3⟩, ⟨3, 7⟩], [⟨77, 1⟩]] }
example : runLegalIdx exSteps exSt0 = true ∧ (runSteps exSteps exSt0).isSome = true ∧
    ((runSteps exSteps exSt0).map (·.energyAt 0)) = some 28 ∧ exSt0.energyAt 0 = 28 ∧
    ((runSteps exSteps exSt0).map (·.mols.length)) = some 3 ∧
    ((runSteps exSteps exSt0).map (·.stack.length)) = some 2 := by decide +kernel

/-- … and the hypotheses of `history_keeps_invariant` hold for it. -/
example : RunInv exSt0 ∧ ∀ s ∈ exSteps, s.rx.legalDraws := by
  refine ⟨⟨by decide, by decide +kernel, by decide +kernel, by decide +kernel, by decide +kernel⟩, ?_⟩
  intro s hs
  simp only [exSteps, List.mem_cons, List.not_mem_nil, or_false] at hs
  rcases hs with rfl | rfl | rfl <;> simp only [Rx.legalDraws] <;> decide +kernel

example : MonoArith Rat := monoArith_of_orderedField
example : NonNeg exSt0 ∧ ((runSteps exSteps exSt0).map (fun s => decide (0 ≤ s.buffer))) = some true := by
  refine ⟨⟨by decide +kernel, by decide +kernel⟩, by decide +kernel⟩

/-! ### The criteria read the molecule at the selected individual's index -/

/-- In every state satisfying the run invariant the decomposition criterion's `u32` subtraction
`num_hit - min_hit` cannot underflow: with a single selected individual that occurs in the
population below it, the criterion returns a value (no panic, no error).  (`InvT pop mols buffer` is
`RunInv` of a state with `pop` on top of the stack.) -/
theorem decomposition_criterion_total (alpha : Nat) (s : Ind F) (pop : Pop F) (rest : List (Pop F)) (mols : List (Mol F))
    (buffer : F) (hI : InvT pop mols buffer) (i : Nat) (hp : position pop s = some i) :
    ∃ b, decompositionCriterion alpha ⟨[s] :: pop :: rest, mols, buffer⟩ = .val b := by
  obtain ⟨x, hx, _⟩ := isAt_some (position_isAt hp)
  have hlt : i < mols.length := hI.aligned ▸ (List.getElem?_eq_some_iff.mp hx).1
  have hm := List.getElem?_eq_getElem hlt
  exact ⟨decide (mols[i].numHit - mols[i].minHit > alpha),
    by simp [decompositionCriterion, hp, hm, Nat.not_lt.mpr (hI.pair hx hm).2.1]⟩

/-- With the selected individual(s) on top of the population, both criteria read the molecule at the
index of the FIRST individual of the population equal to a selected one. -/
theorem criteria_index (alpha : Nat) (beta : F) (pop : Pop F) (rest : List (Pop F)) (mols : List (Mol F)) (buffer : F)
    (s s2 : Ind F) (i j : Nat) (m mj : Mol F)
    (hp : position pop s = some i) (hm : mols[i]? = some m) (hle : m.minHit ≤ m.numHit)
    (hq : position pop s2 = some j) (hmj : mols[j]? = some mj) :
    decompositionCriterion alpha ⟨[s] :: pop :: rest, mols, buffer⟩ = .val (decide (m.numHit - m.minHit > alpha)) ∧
    synthesisCriterion beta ⟨[s, s2] :: pop :: rest, mols, buffer⟩ = .val (decide (m.ke ≤ beta) && decide (mj.ke ≤ beta)) ∧
    (∃ x, pop[i]? = some x ∧ (x == s) = true) ∧ (∀ k, k < i → ∀ y, pop[k]? = some y → (y == s) = false) := by
  refine ⟨?_, ?_, isAt_some (position_isAt hp), position_first pop s i hp⟩
  · simp [decompositionCriterion, hp, hm, Nat.not_lt.mpr hle]
  · simp [synthesisCriterion, hp, hm, hq, hmj]

example : decompositionCriterion (F := Rat) 1 ⟨[⟨7, 2⟩] :: [⟨5, 1⟩, ⟨7, 2⟩] :: [], [⟨0, 0, 0, ⟨5, 1⟩⟩, ⟨3, 4, 1, ⟨7, 2⟩⟩], 0⟩ = .val true := by
  decide +kernel

end MahfModel.Props.C20
