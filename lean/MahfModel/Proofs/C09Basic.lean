/-
C09 — the IEEE comparisons of `Model/Objective.lean` (`<`, `<=`, `==`, `partial_cmp` on `F64`) and
their order laws, and which values `legal` leaves; `Proofs/C09.lean` builds the order of objective values on them,
`Proofs/C09Vec.lean` the Pareto order of vectors.
-/
import MahfModel.Model.Objective
namespace MahfModel.Objective

theorem pc_fin (x y : Int) : partialCmp (.fin x) (.fin y) = some (compare x y) := by
  simp only [partialCmp, le, ge]
  rcases Int.lt_trichotomy x y with h | h | h
  · simp [Int.compare_eq_lt.mpr h, Int.le_of_lt h, Int.not_le.mpr h]
  · simp [h]
  · simp [Int.compare_eq_gt.mpr h, Int.le_of_lt h, Int.not_le.mpr h]

/-! ### the order laws

`==` holds only between identical values (and never for NaN), so every law that mixes `<` with
`==` is a substitution; `<=` is `<` or `==`. -/

theorem eq_of_eq (a b : F64) (h : eq a b = true) : a = b := by
  cases a <;> cases b <;> simp_all [eq]

theorem eq_self (a : F64) (ha : isNan a = false) : eq a a = true := by
  cases a <;> simp_all [eq, isNan]

theorem eq_iff_of_not_nan (a b : F64) (ha : isNan a = false) : eq a b = true ↔ a = b :=
  ⟨eq_of_eq a b, fun h => h ▸ eq_self a ha⟩

theorem eq_symm' (a b : F64) : eq a b = eq b a := by
  cases a <;> cases b <;> simp [eq, eq_comm]

theorem le_iff_lt_or_eq (a b : F64) : le a b = (lt a b || eq a b) := by
  cases a <;> cases b <;> simp [le, lt, eq]
  rw [Bool.eq_iff_iff]; simp; omega

theorem lt_trans' (a b c : F64) (h1 : lt a b = true) (h2 : lt b c = true) : lt a c = true := by
  cases a <;> cases b <;> simp only [lt, Bool.false_eq_true] at h1 <;> cases c <;> simp_all [lt] <;> omega

theorem lt_asymm' (a b : F64) (h : lt a b = true) : lt b a = false := by
  cases a <;> cases b <;> simp_all [lt] <;> omega

theorem lt_irrefl' (a : F64) : lt a a = false := by
  cases a <;> simp [lt]

theorem eq_false_of_lt (a b : F64) (h : lt a b = true) : eq a b = false := by
  cases he : eq a b with
  | false => rfl
  | true => rw [eq_of_eq _ _ he, lt_irrefl'] at h; cases h

theorem lt_negF (a b : F64) (h : lt a b = true) : lt (negF b) (negF a) = true := by
  cases a <;> cases b <;> simp_all [lt, negF] <;> omega

theorem le_eq_not_lt (a b : F64) (ha : isNan a = false) (hb : isNan b = false) : le a b = !lt b a := by
  cases a <;> cases b <;> simp_all [lt, le, isNan]
  simp only [← Int.not_lt, decide_not]

theorem le_cases (a b : F64) (h : le a b = true) : lt a b = true ∨ a = b := by
  rw [le_iff_lt_or_eq, Bool.or_eq_true] at h
  exact h.imp_right (eq_of_eq a b)

theorem lt_le_trans (a b c : F64) (h1 : lt a b = true) (h2 : le b c = true) : lt a c = true := by
  rcases le_cases b c h2 with h | rfl
  · exact lt_trans' a b c h1 h
  · exact h1

theorem le_lt_trans (a b c : F64) (h1 : le a b = true) (h2 : lt b c = true) : lt a c = true := by
  rcases le_cases a b h1 with h | rfl
  · exact lt_trans' a b c h h2
  · exact h2

theorem le_trans' (a b c : F64) (h1 : le a b = true) (h2 : le b c = true) : le a c = true := by
  rcases le_cases b c h2 with h | rfl
  · rw [le_iff_lt_or_eq, le_lt_trans a b c h1 h]; rfl
  · exact h1

/-! ### legal values -/

theorem legal_cases (a : F64) (h : legal a = true) : a = .pinf ∨ ∃ x, a = .fin x := by
  cases a <;> simp_all [legal]

theorem legal_not_nan (a : F64) (h : legal a = true) : isNan a = false := by
  cases a <;> simp_all [legal, isNan]

theorem legal_eq (x : F64) : legal x = (!isNan x && !(isInfinite x && infIsNegative x)) := by
  cases x <;> rfl

end MahfModel.Objective
