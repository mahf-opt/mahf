/-
C03 over the shipped conditions — the conditions themselves: a shipped condition whose sources are in the state
evaluates to the value it denotes and writes nothing but the two `Progress` states (`rcondEval_shipped`); loops whose
test is false at once; counting loops (`counting_loop`).
-/
import MahfModel.Proofs.C03RealSeq
import MahfModel.Proofs.C03Reg
namespace MahfModel.ConfigReal
open MahfModel.Config

/-! ### Shipped conditions never invent an error -/

/-- The same value under every key other than the two `Progress` keys. -/
def Off56 (r r' : Reg) : Prop := ∀ k, k ≠ 5 → k ≠ 6 → r'.get? k = r.get? k

theorem off56_setv (r : Reg) (lens v : Nat) : Off56 r (r.setv (progKey lens) v) := by
  intro k h5 h6
  refine Reg.get_setv_ne _ _ _ _ fun e => ?_
  unfold progKey at e; split at e
  · exact h5 e.symm
  · exact h6 e.symm

theorem lensOk_ne {lens n : Nat} (hl : (RCond.ltN lens n).lensOk = true) : lens ≠ 5 ∧ lens ≠ 6 := by
  have : lens = 0 ∨ lens = 4 := by simpa [RCond.lensOk] using hl
  rcases this with rfl | rfl <;> decide

theorem den_congr (r r' : Reg) (h : Off56 r r') : ∀ (c : RCond), c.lensOk = true → c.den r' = c.den r := by
  intro c
  induction c using RCond.ind with
  | script | chance | all_nil | any_nil => exact fun _ => rfl
  | ltN lens n => exact fun hl => by rw [RCond.den, RCond.den, h lens (lensOk_ne hl).1 (lensOk_ne hl).2]
  | everyN n => exact fun _ => by rw [RCond.den, RCond.den, h 0 (by decide) (by decide)]
  | not c ih => exact fun hl => congrArg (!·) (ih hl)
  | all_cons c cs ihc ihcs =>
    intro hl
    have hl := Bool.and_eq_true_iff.mp hl
    exact (congrArg (· && _) (ihc hl.1)).trans (congrArg (_ && ·) (ihcs hl.2))
  | any_cons c cs ihc ihcs =>
    intro hl
    have hl := Bool.and_eq_true_iff.mp hl
    exact (congrArg (· || _) (ihc hl.1)).trans (congrArg (_ || ·) (ihcs hl.2))

theorem sourcesIn_congr (r r' : Reg) (h : Off56 r r') :
      ∀ (c : RCond), c.lensOk = true → c.sourcesIn r' = c.sourcesIn r := by
  intro c
  induction c using RCond.ind with
  | script | all_nil | any_nil => exact fun _ => rfl
  | ltN lens n =>
    exact fun hl => by
      rw [RCond.sourcesIn, RCond.sourcesIn, Reg.contains_iff_get, Reg.contains_iff_get,
        h lens (lensOk_ne hl).1 (lensOk_ne hl).2]
  | everyN n =>
    exact fun _ => by
      rw [RCond.sourcesIn, RCond.sourcesIn, Reg.contains_iff_get, Reg.contains_iff_get, h 0 (by decide) (by decide)]
  | chance =>
    exact fun _ => by
      rw [RCond.sourcesIn, RCond.sourcesIn, Reg.contains_iff_get, Reg.contains_iff_get, h 9 (by decide) (by decide)]
  | not c ih => exact ih
  | all_cons c cs ihc ihcs | any_cons c cs ihc ihcs =>
    intro hl
    have hl := Bool.and_eq_true_iff.mp hl
    exact (congrArg (· && _) (ihc hl.1)).trans (congrArg (_ && ·) (ihcs hl.2))

/-- What `shipped_condition_never_fails` says about one evaluation. -/
def EvalsTo (σ : St) (b : Bool) (x : St × RCRes) : Prop :=
  x.2 = .val b ∧ x.1.tr = σ.tr ∧ x.1.reg.length = σ.reg.length ∧ Off56 σ.reg x.1.reg

theorem evalsTo_val (σ : St) (b : Bool) : EvalsTo σ b (σ, .val b) := ⟨rfl, rfl, rfl, fun _ _ _ => rfl⟩

theorem evalsTo_rcbind {σ : St} {b b' : Bool} {x : St × RCRes} {k : Bool → St → St × RCRes}
    (hx : EvalsTo σ b x) (hk : EvalsTo x.1 b' (k b x.1)) : EvalsTo σ b' (rcbind x k) := by
  obtain ⟨σ1, vx⟩ := x
  obtain ⟨rfl, h2, h3, h4⟩ := hx
  exact ⟨hk.1, hk.2.1.trans h2, hk.2.2.1.trans h3, fun k h5 h6 => (hk.2.2.2 k h5 h6).trans (h4 k h5 h6)⟩

/-- A shipped condition `d` evaluated after `x`: `x` changed the `Progress` states only, so `d` still finds its
sources and denotes what it denoted before. -/
theorem evalsTo_then (s : Script) {σ : St} {b : Bool} {x : St × RCRes} (ih : EvalsTo σ b x) (d : RCond)
    (hl : d.lensOk = true) (hsrc : d.sourcesIn σ.reg = true)
    (ihd : ∀ σ', d.sourcesIn σ'.reg = true → EvalsTo σ' (d.den σ'.reg) (rcondEval s d σ')) (op : Bool → Bool → Bool) :
    EvalsTo σ (op b (d.den σ.reg))
      (rcbind x fun b σ1 => rcbind (rcondEval s d σ1) fun b' σ2 => (σ2, .val (op b b'))) := by
  have h4 := ih.2.2.2
  have ih2 := ihd x.1 ((sourcesIn_congr _ _ h4 d hl).trans hsrc)
  rw [den_congr _ _ h4 d hl] at ih2
  exact evalsTo_rcbind ih (evalsTo_rcbind ih2 (evalsTo_val _ _))

theorem rcondEval_shipped (s : Script) (c : RCond) : ∀ (σ : St), c.shipped = true → c.lensOk = true →
    c.sourcesIn σ.reg = true → EvalsTo σ (c.den σ.reg) (rcondEval s c σ) := by
  induction c using RCond.ind with
  | script => exact fun _ hs => nomatch hs
  | ltN lens n =>
    intro σ _ _ hsrc
    obtain ⟨v, hv⟩ := Option.isSome_iff_exists.mp ((Reg.contains_iff_get _ _).symm.trans hsrc)
    show EvalsTo σ (decide ((σ.reg.get? lens).getD 0 < n)) (ltEval lens n σ)
    rw [ltEval, hv]
    exact ⟨rfl, rfl, Reg.length_setv _ _ _, off56_setv _ _ _⟩
  | everyN n =>
    intro σ _ _ hsrc
    obtain ⟨v, hv⟩ := Option.isSome_iff_exists.mp ((Reg.contains_iff_get _ _).symm.trans hsrc)
    show EvalsTo σ (if n = 0 then (σ.reg.get? 0).getD 0 == 0 else (σ.reg.get? 0).getD 0 % n == 0) (everyEval n σ)
    rw [everyEval, hv]
    exact evalsTo_val σ _
  | chance b =>
    intro σ _ _ hsrc
    show EvalsTo σ b (chanceEval b σ)
    rw [chanceEval, if_pos (show σ.reg.contains 9 = true from hsrc)]
    exact evalsTo_val σ b
  | not c ih =>
    intro σ hs hl hsrc
    rw [rcondEval_not]
    exact evalsTo_rcbind (ih σ hs hl hsrc) (evalsTo_val _ _)
  | all_nil => exact fun σ _ _ _ => evalsTo_val σ true
  | all_cons c cs ihc ihcs =>
    intro σ hs hl hsrc
    have hs := Bool.and_eq_true_iff.mp hs
    have hl := Bool.and_eq_true_iff.mp hl
    have hsrc := Bool.and_eq_true_iff.mp hsrc
    rw [rcondEval_all_cons]
    exact evalsTo_then s (ihc σ hs.1 hl.1 hsrc.1) (.all cs) hl.2 hsrc.2 (fun σ' => ihcs σ' hs.2 hl.2) (· && ·)
  | any_nil => exact fun σ _ _ _ => evalsTo_val σ false
  | any_cons c cs ihc ihcs =>
    intro σ hs hl hsrc
    have hs := Bool.and_eq_true_iff.mp hs
    have hl := Bool.and_eq_true_iff.mp hl
    have hsrc := Bool.and_eq_true_iff.mp hsrc
    rw [rcondEval_any_cons]
    exact evalsTo_then s (ihc σ hs.1 hl.1 hsrc.1) (.any cs) hl.2 hsrc.2 (fun σ' => ihcs σ' hs.2 hl.2) (· || ·)

theorem revalAll_shipped (s : Script) : ∀ (cs : RConds) (σ : St), cs.shipped = true → cs.lensOk = true →
      cs.sourcesIn σ.reg = true → EvalsTo σ (cs.denAll σ.reg) (revalAll s cs σ) :=
  fun cs => rcondEval_shipped s (.all cs)

theorem revalAny_shipped (s : Script) : ∀ (cs : RConds) (σ : St), cs.shipped = true → cs.lensOk = true →
      cs.sourcesIn σ.reg = true → EvalsTo σ (cs.denAny σ.reg) (revalAny s cs σ) :=
  fun cs => rcondEval_shipped s (.any cs)

/-! ### Loops whose test is false at once; counting loops -/

theorem loop_skipped (s : Script) (trg : RConds) (fuel : Nat) (c : RCond) (b : RComp) (σ σ0 σ1 : St)
    (hf : 0 < fuel) (hi : rcondPhase s .cinit c σ = (σ0, .ok)) (he : rcondEval s c σ0 = (σ1, .val false)) :
    rexec s trg fuel (.loop c b) σ = (σ1, .ok) := by
  obtain ⟨n, rfl⟩ := Nat.exists_eq_succ_of_ne_zero (Nat.ne_of_gt hf)
  rw [rexec, hi, andThen, rloopN_succ, he]; rfl

theorem progKey_ne (lens : Nat) (h : lens = 0 ∨ lens = 4) : progKey lens ≠ lens := by
  rcases h with rfl | rfl <;> decide

theorem incr_of_get {r : Reg} {i : Nat} (h : r.get? 0 = some i) : ∃ r', r.incr = some r' ∧ r'.get? 0 = some (i + 1) :=
  ⟨r.setv 0 (i + 1), by rw [Reg.incr_eq, h]; rfl, by rw [Reg.get_setv_same, h]; rfl⟩

theorem ltN_iterations (s : Script) (n : Nat) {σ : St} {i : Nat} (hi : σ.reg.get? 0 = some i) :
    ∃ σ1, rcondEval s (.ltN 0 n) σ = (σ1, .val (decide (i < n))) ∧ σ1.reg.get? 0 = some i :=
  ⟨{ σ with reg := σ.reg.setv 5 (encP i n) }, by rw [rcondEval, ltEval, hi]; rfl,
    (Reg.get_setv_ne _ _ _ _ (by decide)).trans hi⟩

theorem counting_loop (s : Script) (n : Nat) (body : St → St × Res)
    (hb : ∀ σ, ∃ σ', body σ = (σ', .ok) ∧ σ'.reg.get? 0 = σ.reg.get? 0) :
    ∀ (m : Nat) (σ : St) (i : Nat), σ.reg.get? 0 = some i → n - i < m →
      ∃ σ', rloopN (rcondEval s (.ltN 0 n)) body m σ = (σ', .ok) ∧
        RPasses (rcondEval s (.ltN 0 n)) (fun σ => andThen (body σ) bump) (n - i) σ σ' ∧
        σ'.reg.get? 0 = some (max i n) := by
  intro m
  induction m with
  | zero => exact fun _ _ _ hm => absurd hm (Nat.not_lt_zero _)
  | succ m ih =>
    intro σ i hi hm
    obtain ⟨σ1, hc, hg⟩ := ltN_iterations s n hi
    rw [rloopN_succ, hc]
    by_cases hlt : i < n
    · obtain ⟨σ2, hb2, hg2⟩ := hb σ1
      obtain ⟨r3, hr3, hg3⟩ := incr_of_get (hg2.trans hg)
      have hbump : andThen (body σ1) bump = ({ σ2 with reg := r3 }, .ok) := by rw [hb2, andThen, bump, hr3]
      -- arithmetic by hand: `omega` is slow to check here
      have hpos := Nat.sub_ne_zero_of_lt hlt
      have hm' : n - (i + 1) < m := Nat.lt_of_lt_of_le (Nat.pred_lt hpos) (Nat.le_of_lt_succ hm)
      have hn : n - i = (n - (i + 1)) + 1 := (Nat.succ_pred hpos).symm
      have hmax : max (i + 1) n = max i n := (Nat.max_eq_right hlt).trans (Nat.max_eq_right (Nat.le_of_lt hlt)).symm
      obtain ⟨σ', hl, hp, hg'⟩ := ih { σ2 with reg := r3 } (i + 1) hg3 hm'
      rw [decide_eq_true hlt] at hc ⊢
      refine ⟨σ', ?_, hn ▸ RPasses.pass hc hbump hp, hmax ▸ hg'⟩
      show andThen (andThen _ bump) _ = _
      rw [hbump]; exact hl
    · have hn : n - i = 0 := Nat.sub_eq_zero_of_le (Nat.le_of_not_lt hlt)
      have hmax : i = max i n := (Nat.max_eq_left (Nat.le_of_not_lt hlt)).symm
      rw [decide_eq_false hlt] at hc ⊢
      exact ⟨σ1, rfl, hn ▸ RPasses.done hc, hmax ▸ hg⟩

end MahfModel.ConfigReal
