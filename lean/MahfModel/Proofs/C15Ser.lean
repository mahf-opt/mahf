/- C15 — the tree serialisation `ser` is a prefix code (given injective leaf encodings), hence injective; a clone
serialises identically; every node is named. -/
import MahfModel.Model.Log
namespace MahfModel.Log

section Ser
variable {A B A' B' : Type}

theorem serF_cls_ne_par (ea : A → A') (eb : B → B') (f : CForest A B) (r : List (Tok A' B')) :
    ∀ b r', serF ea eb f ++ Tok.cls :: r ≠ Tok.par b :: r' := by
  intro b r' h
  cases f with
  | nil => cases h
  | cons t ts => cases t; rw [serF, ser] at h; cases h

theorem params_prefix (eb : B → B') (hb : ∀ x y, eb x = eb y → x = y) (ps qs : List B)
    (r1 r2 : List (Tok A' B')) (h1 : ∀ b r', r1 ≠ Tok.par b :: r') (h2 : ∀ b r', r2 ≠ Tok.par b :: r')
    (h : ps.map (fun p => Tok.par (eb p)) ++ r1 = qs.map (fun p => Tok.par (eb p)) ++ r2) :
    ps = qs ∧ r1 = r2 := by
  induction ps generalizing qs with
  | nil =>
    cases qs with
    | nil => exact ⟨rfl, h⟩
    | cons q qs => exact absurd h (h1 (eb q) _)
  | cons p ps ih =>
    cases qs with
    | nil => exact absurd h.symm (h2 (eb p) _)
    | cons q qs =>
      injection h with hpq h
      obtain ⟨rfl, rfl⟩ := ih qs h
      exact ⟨by rw [hb _ _ (Tok.par.inj hpq)], rfl⟩

mutual
  theorem ser_prefix (ea : A → A') (eb : B → B') (ha : ∀ x y, ea x = ea y → x = y)
      (hb : ∀ x y, eb x = eb y → x = y) :
      ∀ (t t' : CTree A B) (r r' : List (Tok A' B')), ser ea eb t ++ r = ser ea eb t' ++ r' → t = t' ∧ r = r'
    | .node a ps kids, .node a' ps' kids', r, r', h => by
      simp only [ser, List.cons_append, List.append_assoc, List.cons.injEq, Tok.opn.injEq] at h
      have hp := params_prefix eb hb ps ps' _ _ (serF_cls_ne_par ea eb kids r) (serF_cls_ne_par ea eb kids' r') h.2
      obtain ⟨hk, hr⟩ := serF_prefix ea eb ha hb kids kids' r r' hp.2
      exact ⟨by rw [ha _ _ h.1, hp.1, hk], hr⟩
  theorem serF_prefix (ea : A → A') (eb : B → B') (ha : ∀ x y, ea x = ea y → x = y)
      (hb : ∀ x y, eb x = eb y → x = y) :
      ∀ (f f' : CForest A B) (r r' : List (Tok A' B')),
        serF ea eb f ++ Tok.cls :: r = serF ea eb f' ++ Tok.cls :: r' → f = f' ∧ r = r'
    | .nil, .nil, r, r', h => ⟨rfl, (List.cons.inj h).2⟩
    | .nil, .cons (.node ..) ts, r, r', h => by simp [serF, ser] at h
    | .cons (.node ..) ts, .nil, r, r', h => by simp [serF, ser] at h
    | .cons t ts, .cons t' ts', r, r', h => by
      simp only [serF, List.append_assoc] at h
      obtain ⟨ht, hrest⟩ := ser_prefix ea eb ha hb t t' _ _ h
      obtain ⟨hts, hr⟩ := serF_prefix ea eb ha hb ts ts' r r' hrest
      exact ⟨by rw [ht, hts], hr⟩
end
theorem ser_inj (ea : A → A') (eb : B → B') (ha : ∀ x y, ea x = ea y → x = y)
    (hb : ∀ x y, eb x = eb y → x = y) {t t' : CTree A B} (h : ser ea eb t = ser ea eb t') : t = t' :=
  (ser_prefix ea eb ha hb t t' [] [] (by simpa using h)).1

mutual
  theorem cloneT_id : ∀ t : CTree A B, cloneT t = t
    | .node a ps kids => by simp [cloneT, cloneF_id kids]
  theorem cloneF_id : ∀ f : CForest A B, cloneF f = f
    | .nil => rfl
    | .cons t ts => by simp [cloneF, cloneT_id t, cloneF_id ts]
end

mutual
  theorem names_in_ser (ea : A → A') (eb : B → B') :
      ∀ (t : CTree A B) (a : A), a ∈ nodeNames t → Tok.opn (ea a) ∈ ser ea eb t
    | .node a0 ps kids, a, h => by
      simp only [nodeNames, List.mem_cons] at h
      simp only [ser, List.mem_cons, List.mem_append]
      rcases h with rfl | h
      · exact Or.inl rfl
      · exact Or.inr (Or.inr (Or.inl (names_in_serF ea eb kids a h)))
  theorem names_in_serF (ea : A → A') (eb : B → B') :
      ∀ (f : CForest A B) (a : A), a ∈ forestNames f → Tok.opn (ea a) ∈ serF ea eb f
    | .nil, a, h => by simp [forestNames] at h
    | .cons t ts, a, h => by
      simp only [forestNames, List.mem_append] at h
      simp only [serF, List.mem_append]
      rcases h with h | h
      · exact Or.inl (names_in_ser ea eb t a h)
      · exact Or.inr (names_in_serF ea eb ts a h)
end

end Ser

end MahfModel.Log
