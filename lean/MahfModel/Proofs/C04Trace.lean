/- The plain-stack semantics of scoped programs by itself, neither `Vec` model nor registry chain: scopes and failing
steps only decide which operations run, so what the executed operations returned is a plain history of a subsequence of
the program's operations (`specItems_trace`); operations run by a caller that carries on are `specRun`. Core only. -/
import MahfModel.Model.PopStackScope
namespace MahfModel.PopStack

theorem specRun_append (s : Spec) (a b : List Op) :
    specRun s (a ++ b) = ((specRun (specRun s a).1 b).1, (specRun s a).2 ++ (specRun (specRun s a).1 b).2) := by
  induction a generalizing s with
  | nil => simp [specRun]
  | cons o a ih => simp [specRun, ih]

theorem opOuts_map_out (l : List Out) : opOuts (l.map SOut.out) = l := by
  induction l with
  | nil => rfl
  | cons x l ih => simp [opOuts, ih]

theorem opOuts_map_skip {α : Type} (l : List α) : opOuts (l.map fun _ => SOut.skip) = [] := by
  induction l with
  | nil => rfl
  | cons x l ih => exact ih

theorem opOuts_append (a b : List SOut) : opOuts (a ++ b) = opOuts a ++ opOuts b := by
  induction a with
  | nil => rfl
  | cons x a ih => cases x <;> simp [opOuts, ih]

theorem opOuts_result (b : Bool) (l : List SOut) :
    opOuts ((if b then SOut.sOk else SOut.sErr) :: l) = opOuts l := by
  cases b <;> rfl

mutual
theorem opOuts_item_skips (i : Item) : opOuts i.skips = [] := by
  cases i with
  | op o => rfl
  | fail => rfl
  | failing o => rfl
  | try_ i => exact opOuts_item_skips i
  | scope k b => exact opOuts_items_skips b
  | hold ok ops => exact opOuts_map_skip ops
theorem opOuts_items_skips (is : Items) : opOuts is.skips = [] := by
  cases is with
  | nil => rfl
  | cons i is => simp [Items.skips, opOuts_append, opOuts_item_skips i, opOuts_items_skips is]
end

/-- `tr` is the plain history a program amounts to from stack `s`. -/
def IsTrace (s : Spec) (ops : List Op) (q : Spec × List SOut × Bool) (tr : List Op) : Prop :=
  tr.Sublist ops ∧ q.1 = (specRun s tr).1 ∧ opOuts q.2.1 = (specRun s tr).2

mutual
theorem specItem_trace (i : Item) (s : Spec) : ∃ tr, IsTrace s i.ops (specItem s i) tr := by
  cases i with
  | op o | failing o => exact ⟨[o], .refl _, rfl, rfl⟩
  | fail => exact ⟨[], .refl _, rfl, rfl⟩
  | try_ i => exact specItem_trace i s
  | scope k b =>
    dsimp only [IsTrace, Item.ops, specItem]
    cases k.runsBody
    · exact ⟨[], List.nil_sublist _, rfl, (opOuts_result _ _).trans (opOuts_items_skips b)⟩
    · obtain ⟨tr, h1, h2, h3⟩ := specItems_trace b s
      exact ⟨tr, h1, h2, (opOuts_result _ _).trans h3⟩
  | hold ok ops => exact ⟨ops, .refl _, rfl, (opOuts_result _ _).trans (opOuts_map_out _)⟩
theorem specItems_trace (is : Items) (s : Spec) : ∃ tr, IsTrace s is.ops (specItems s is) tr := by
  cases is with
  | nil => exact ⟨[], .refl _, rfl, rfl⟩
  | cons i is =>
    obtain ⟨t1, h1, h2, h3⟩ := specItem_trace i s
    dsimp only [IsTrace, Items.ops, specItems]
    split
    · obtain ⟨t2, g1, g2, g3⟩ := specItems_trace is (specItem s i).1
      refine ⟨t1 ++ t2, h1.append g1, ?_, ?_⟩ <;> rw [specRun_append, ← h2]
      · exact g2
      · rw [opOuts_append, h3, g3]
    · exact ⟨t1, h1.trans (List.sublist_append_left _ _), h2, by rw [opOuts_append, opOuts_items_skips, List.append_nil, h3]⟩
end

theorem specItems_tryAll_ofOps (s : Spec) (ops : List Op) :
    specItems s (Items.ofOps ops).tryAll = ((specRun s ops).1, (specRun s ops).2.map SOut.out, true) := by
  induction ops generalizing s with
  | nil => rfl
  | cons o ops ih =>
    simp only [Items.ofOps, Items.tryAll, specItems, specItem, specRun, if_true, ih]
    rfl

end MahfModel.PopStack
