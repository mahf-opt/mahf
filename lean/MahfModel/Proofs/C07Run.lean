/- The run-level model (`Scoped`: event traces, visible best values per scope, values the objective function returned).
Whatever `<` is: what happens inside a well-bracketed scope body cannot reach below the records the scope can see (`Over`,
`over_run`, `scope_bracket`), and in every run whose updates see returned values only the records hold returned values
(`bests_mem_returned`). In a linear order: covered runs — every value returned is shown to a visible best-update right away —
keep the reported best at or below everything returned (`covered_inv`). -/
import MahfModel.Proofs.C07
import MahfModel.Model.PopMachineC07
namespace MahfModel.PopMachine

variable {O : Type}

/-! ### scopes: what happens inside cannot reach below the records the scope can see -/

/-- The records `bs` seen from inside the open scopes `fr` (innermost first) that were opened on top of the records
`r :: B`: one record per scope that brought its own, then the record that was visible when the first of them was
opened (it may have been updated since), then `B`. -/
def Over (B : List (Option O)) : List (Bool × Bool) → List (Option O) → Prop
  | [], bs => ∃ x, bs = x :: B
  | (_, true) :: fr, bs => ∃ x bs', bs = x :: bs' ∧ Over B fr bs'
  | (_, false) :: fr, bs => Over B fr bs

/-- Only the innermost record is ever written. -/
theorem Over.setTop {B : List (Option O)} {fr : List (Bool × Bool)} {bs : List (Option O)} (h : Over B fr bs)
    (v : Option O) : Over B fr (setTop v bs) := by
  induction fr with
  | nil => obtain ⟨x, rfl⟩ := h; exact ⟨v, rfl⟩
  | cons f fr ih =>
    obtain ⟨he, hb⟩ := f
    cases hb with
    | false => exact ih h
    | true => obtain ⟨x, bs', rfl, h'⟩ := h; exact ⟨v, bs', rfl, h'⟩

section Scopes
variable [LT O] [DecidableLT O]

theorem exit_step (c : Scoped O) (he hb : Bool) (F : List (Bool × Bool)) (h : c.frames = (he, hb) :: F) :
    (scopedStep c .exit).frames = F ∧ (scopedStep c .exit).bests = if hb then c.bests.drop 1 else c.bests := by
  simp [scopedStep, h]

/-- Inside the scopes `fr` opened on top of the frames `F` and the records `r :: B`, a trace that closes no other scope
leaves a state of the same kind: the depth `depthAfter` computes is the number of those scopes still open, and `B` is
untouched. -/
theorem over_run (F : List (Bool × Bool)) (B : List (Option O)) (evs : List (Ev O)) (fr : List (Bool × Bool)) (d' : Nat)
    (c : Scoped O) (h1 : c.frames = fr ++ F) (h3 : Over B fr c.bests) (hd : depthAfter fr.length evs = some d') :
    ∃ fr', (scopedRun c evs).frames = fr' ++ F ∧ fr'.length = d' ∧ Over B fr' (scopedRun c evs).bests := by
  induction evs generalizing fr c with
  | nil => exact ⟨fr, h1, Option.some.inj hd, h3⟩
  | cons ev evs ih =>
    cases ev with
    | enter he hb =>
      refine ih ((he, hb) :: fr) _ (congrArg ((he, hb) :: ·) h1) ?_ hd
      cases hb
      · exact h3
      · exact ⟨none, c.bests, rfl, h3⟩
    | exit =>
      cases fr with
      | nil => cases hd
      | cons f fr0 =>
        obtain ⟨he, hb⟩ := f
        obtain ⟨e1, e2⟩ := exit_step c he hb (fr0 ++ F) h1
        refine ih fr0 _ e1 ?_ hd
        rw [e2]
        cases hb
        · exact h3
        · -- the scope's own record sits in front of the ones it shadows
          obtain ⟨x, bs', hbs, h'⟩ := h3
          rw [hbs]; exact h'
    | eval n vals => exact ih fr _ h1 h3 hd
    | selfEval vals => exact ih fr _ h1 h3 hd
    | other => exact ih fr _ h1 h3 hd
    | update pop => exact ih fr _ h1 (h3.setTop _) hd

theorem scopedRun_bracket (s : Scoped O) (a e : Ev O) (body : List (Ev O)) :
    scopedRun s (a :: body ++ [e]) = scopedStep (scopedRun (scopedStep s a) body) e := by
  simp [scopedRun, List.foldl_append]

/-- A scope around a well-bracketed body: afterwards the frames are the caller's, and of the records only the
one the scope's body could see (`r`: its own fresh one if `hb`, else the caller's visible one) may have changed;
the scope's own record is dropped again. -/
theorem scope_bracket (s : Scoped O) (he hb : Bool) (body : List (Ev O)) (r : Option O) (B : List (Option O))
    (hwb : wellBracketed body = true) (h0 : (scopedStep s (.enter he hb)).bests = r :: B) :
    (∃ x, (scopedRun s (.enter he hb :: body ++ [.exit])).bests = if hb then B else x :: B) ∧
    (scopedRun s (.enter he hb :: body ++ [.exit])).frames = s.frames := by
  have hd : depthAfter 0 body = some 0 := by simpa [wellBracketed] using hwb
  obtain ⟨fr, h1, h2, h3⟩ := over_run ((he, hb) :: s.frames) B body [] 0 (scopedStep s (.enter he hb)) rfl ⟨r, h0⟩ hd
  obtain rfl : fr = [] := List.eq_nil_of_length_eq_zero h2
  obtain ⟨x, h3⟩ := h3
  rw [scopedRun_bracket]
  obtain ⟨e1, e2⟩ := exit_step _ he hb s.frames h1
  refine ⟨⟨x, ?_⟩, e1⟩
  rw [e2, h3]
  cases hb <;> rfl

end Scopes

/-! ### updates that only see returned values -/

section Returned
variable [LT O] [DecidableLT O]

theorem feedBest_mem (b : Option O) (pop : List O) (x : O) (h : feedBest b pop = some x) : b = some x ∨ x ∈ pop := by
  unfold feedBest at h
  cases hm : minByKey id pop with
  | none => rw [hm] at h; exact Or.inl h
  | some c =>
    rw [hm] at h
    have hc := minByKey_mem id pop c hm
    cases b with
    | none => simp at h; subst h; exact Or.inr hc
    | some bo =>
      simp only at h
      split at h
      · injection h with h; subst h; exact Or.inr hc
      · exact Or.inl h

/-- In EVERY run (covered or not) whose updates only see returned values, every recorded best is a value the
objective function returned. -/
theorem bests_mem_returned [DecidableEq O] (evs : List (Ev O)) (s : Scoped O)
    (hs : ∀ b ∈ s.bests, ∀ x, b = some x → x ∈ s.returned) (hu : updatesShowReturned s.returned evs = true) :
    ∀ b ∈ (scopedRun s evs).bests, ∀ x, b = some x → x ∈ (scopedRun s evs).returned := by
  induction evs generalizing s with
  | nil => exact hs
  | cons ev evs ih =>
    cases ev with
    | enter he hb =>
      refine ih _ ?_ hu
      cases hb
      · exact hs
      · exact List.forall_mem_cons.mpr ⟨fun x hx => (nomatch hx), hs⟩
    | exit =>
      have hret : (scopedStep s Ev.exit).returned = s.returned := by
        simp only [scopedStep]; split <;> rfl
      refine ih _ ?_ (hret ▸ hu)
      rw [hret]
      simp only [scopedStep]
      split
      · exact hs
      · rename_i he hb fr _
        cases hb
        · exact hs
        · exact fun b hb' => hs b (List.mem_of_mem_drop hb')
    | eval n vals => exact ih _ (fun b hb x hx => List.mem_append_left _ (hs b hb x hx)) hu
    | selfEval vals => exact ih _ (fun b hb x hx => List.mem_append_left _ (hs b hb x hx)) hu
    | other => exact ih _ hs hu
    | update pop =>
      obtain ⟨hu1, hu2⟩ := Bool.and_eq_true_iff.mp hu
      refine ih _ ?_ hu2
      show ∀ b ∈ setTop (feedBest (s.bests.headD none) pop) s.bests, _
      cases hbs : s.bests with
      | nil => exact fun b hb => nomatch hb
      | cons b0 bs =>
        obtain ⟨h0, htl⟩ := List.forall_mem_cons.mp (hbs ▸ hs)
        refine List.forall_mem_cons.mpr ⟨fun x hx => ?_, htl⟩
        rcases feedBest_mem b0 pop x hx with h | h
        · exact h0 x h
        · exact List.contains_iff_mem.mp (List.all_eq_true.mp hu1 x h)

end Returned

/-! ### covered traces -/

variable [LinearOrder O]

theorem feedBest_le (b : Option O) (pop : List O) :
    (∀ v ∈ pop, ∃ x, feedBest b pop = some x ∧ x ≤ v) ∧ (∀ bo, b = some bo → ∃ x, feedBest b pop = some x ∧ x ≤ bo) := by
  unfold feedBest
  cases hm : minByKey id pop with
  | none =>
    obtain rfl := (minByKey_none id pop).mp hm
    exact ⟨fun _ hv => (nomatch hv), fun bo hbo => ⟨bo, hbo, le_refl _⟩⟩
  | some c =>
    obtain ⟨_, hc⟩ := minByKey_le id pop c hm
    cases b with
    | none => exact ⟨fun v hv => ⟨c, rfl, hc v hv⟩, fun _ h => (nomatch h)⟩
    | some bo =>
      by_cases hlt : c < bo
      · simp only [hlt, if_true]
        exact ⟨fun v hv => ⟨c, rfl, hc v hv⟩, fun b2 hb2 => ⟨c, rfl, Option.some.inj hb2 ▸ le_of_lt hlt⟩⟩
      · simp only [hlt, if_false]
        exact ⟨fun v hv => ⟨bo, rfl, le_trans (not_lt.mp hlt) (hc v hv)⟩, fun b2 hb2 => ⟨bo, rfl, Option.some.inj hb2 ▸ le_refl _⟩⟩

/-- A trace in which every value the objective function returns is shown to a best-update right away,
and no scope shadows the best individual. -/
inductive Covered : List (Ev O) → Prop where
  | nil : Covered []
  | other (t) : Covered t → Covered (.other :: t)
  | enter (he t) : Covered t → Covered (.enter he false :: t)
  | exit (t) : Covered t → Covered (.exit :: t)
  | update (pop t) : Covered t → Covered (.update pop :: t)
  | eval (n vals pop t) : (∀ v ∈ vals, v ∈ pop) → Covered t → Covered (.eval n vals :: .update pop :: t)
  | selfEval (vals pop t) : (∀ v ∈ vals, v ∈ pop) → Covered t → Covered (.selfEval vals :: .update pop :: t)

/-- Invariant of covered runs: one visible best, which is ≤ every value returned so far. -/
def BestInv (s : Scoped O) : Prop :=
  ∃ b, s.bests = [b] ∧ (∀ fr ∈ s.frames, fr.2 = false) ∧ ∀ v ∈ s.returned, ∃ x, b = some x ∧ x ≤ v

theorem BestInv.init : BestInv ({} : Scoped O) :=
  ⟨none, rfl, fun _ h => (nomatch h), fun _ h => (nomatch h)⟩

theorem BestInv.update {s : Scoped O} {b : Option O} (pop : List O) (hb : s.bests = [b])
    (hf : ∀ fr ∈ s.frames, fr.2 = false) (hr : ∀ v ∈ s.returned, v ∈ pop ∨ ∃ x, b = some x ∧ x ≤ v) :
    BestInv (scopedStep s (.update pop)) := by
  refine ⟨feedBest b pop, by simp only [scopedStep, hb, List.headD_cons, setTop], hf, fun v hv => ?_⟩
  rcases hr v hv with h | ⟨x, hx, hxv⟩
  · exact (feedBest_le b pop).1 v h
  · obtain ⟨y, hy, hyx⟩ := (feedBest_le b pop).2 x hx
    exact ⟨y, hy, le_trans hyx hxv⟩

theorem covered_inv (evs : List (Ev O)) (hc : Covered evs) (s : Scoped O) (hs : BestInv s) :
    BestInv (scopedRun s evs) := by
  induction hc generalizing s with
  | nil => exact hs
  | other t _ ih => exact ih s hs
  | enter he t _ ih =>
    obtain ⟨b, h1, h2, h3⟩ := hs
    exact ih _ ⟨b, h1, List.forall_mem_cons.mpr ⟨rfl, h2⟩, h3⟩
  | exit t _ ih =>
    obtain ⟨b, h1, h2, h3⟩ := hs
    apply ih
    simp only [scopedStep]
    split
    · exact ⟨b, h1, h2, h3⟩
    · rename_i he hb fr hfr
      rw [hfr] at h2
      obtain ⟨hb0, htl⟩ := List.forall_mem_cons.mp h2
      obtain rfl : hb = false := hb0
      exact ⟨b, h1, htl, h3⟩
  | update pop t _ ih =>
    obtain ⟨b, h1, h2, h3⟩ := hs
    exact ih _ (BestInv.update pop h1 h2 fun v hv => Or.inr (h3 v hv))
  | eval n vals pop t hsub _ ih =>
    obtain ⟨b, h1, h2, h3⟩ := hs
    refine ih _ (BestInv.update (s := scopedStep s (.eval n vals)) pop h1 h2 fun v hv => ?_)
    exact (List.mem_append.mp hv).elim (fun hv => Or.inr (h3 v hv)) (fun hv => Or.inl (hsub v hv))
  | selfEval vals pop t hsub _ ih =>
    obtain ⟨b, h1, h2, h3⟩ := hs
    refine ih _ (BestInv.update (s := scopedStep s (.selfEval vals)) pop h1 h2 fun v hv => ?_)
    exact (List.mem_append.mp hv).elim (fun hv => Or.inr (h3 v hv)) (fun hv => Or.inl (hsub v hv))

end MahfModel.PopMachine
