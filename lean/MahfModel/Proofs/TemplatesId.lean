/- Soundness of `usesOnly` (C06: a template applies only the requested evaluator) for every execution of `execI`: what
`require` demands of a `usesOnly w` tree, that only `w` is applied (`execI_sound`), and that no other registered evaluator
matters (`execI_reg_congr`). -/
import MahfModel.Model.TemplatesId
namespace MahfModel.Tpl

/-! ### `require` -/

theorem requiresEvaluator_calls (k : LeafKind) (h : requiresEvaluator k = true) : callsObjective k = true := by
  unfold requiresEvaluator at h
  split at h
  · rfl
  · cases h

theorem requiresEvaluator_not_opaque (k : LeafKind) (h : requiresEvaluator k = true) : k ≠ .opaque := by
  rintro rfl; cases h

theorem usesOnly_leaf (w : EvId) (k : LeafKind) (id : Option EvId) (h : usesOnly w (.leaf k id) = true) :
    (k == LeafKind.opaque) = false ∧ (callsObjective k = true → id = some w) := by
  simp only [usesOnly, Bool.and_eq_true, bne_iff_ne, ne_eq, Bool.or_eq_true, Bool.not_eq_true', beq_iff_eq] at h
  exact ⟨beq_eq_false_iff_ne.mpr h.1, fun hc => h.2.resolve_left fun hf => Bool.noConfusion (hc.symm.trans hf)⟩

theorem requiredIds_eq (w : EvId) (c : IComp) : usesOnly w c = true → ∀ i ∈ requiredIds c, i = w := by
  refine IComp.rec (motive_1 := fun c => usesOnly w c = true → ∀ i ∈ requiredIds c, i = w)
    (motive_2 := fun cs => usesOnlys w cs = true → ∀ i ∈ requiredIdss cs, i = w) ?_ ?_ ?_ ?_ ?_ ?_ ?_ c
  · intro k id h i hi
    rw [requiredIds] at hi
    split at hi
    · rename_i hr
      rw [List.mem_singleton.mp hi, (usesOnly_leaf w k id h).2 (requiresEvaluator_calls k hr)]; rfl
    · cases hi
  · exact fun cs ih => ih
  · exact fun b ih => ih
  · intro t e iht ihe h i hi
    rw [usesOnly, Bool.and_eq_true] at h
    exact (List.mem_append.mp hi).elim (iht h.1 i) (ihe h.2 i)
  · exact fun _ _ _ _ hi => nomatch hi
  · exact fun _ _ hi => nomatch hi
  · intro c cs ihc ihcs h i hi
    rw [usesOnlys, Bool.and_eq_true] at h
    exact (List.mem_append.mp hi).elim (ihc h.1 i) (ihcs h.2 i)

theorem requiredIdss_eq (w : EvId) : ∀ (cs : IComps), usesOnlys w cs = true → ∀ i ∈ requiredIdss cs, i = w :=
  fun cs => requiredIds_eq w (.seq cs)

theorem requireOk_of_usesOnly (w : EvId) (reg : List EvId) (c : IComp)
    (h : usesOnly w c = true) (hw : reg.contains w = true) : requireOk reg c = true := by
  simp only [requireOk, List.all_eq_true]
  intro i hi
  rw [requiredIds_eq w c h i hi]; exact hw

theorem requireOk_false_of_missing (w : EvId) (reg : List EvId) (c : IComp)
    (h : usesOnlyTop w c = true) (hw : reg.contains w = false) : requireOk reg c = false := by
  simp only [usesOnlyTop, Bool.and_eq_true, Bool.not_eq_true', List.isEmpty_eq_false_iff] at h
  obtain ⟨hne, hu⟩ := h
  cases hr : requiredIds c with
  | nil => exact absurd hr hne
  | cons i rest =>
    have : i = w := requiredIds_eq w c hu i (by simp [hr])
    have hw' : w ∉ reg := by simpa using hw
    simp [requireOk, hr, this, hw']

/-! ### `execute`: only `w` is applied -/

/-- the run appended `l` to the log and every entry of `l` is an application of `w` -/
def IGood (w : EvId) (s s' : ISt) : Prop :=
  ∃ l : List (EvId × Nat), s'.log = s.log ++ l ∧ ∀ e ∈ l, e.1 = w

theorem IGood.refl (w : EvId) (s : ISt) : IGood w s s := ⟨[], (List.append_nil _).symm, fun _ h => nomatch h⟩

theorem IGood.trans {w : EvId} {s s1 s2 : ISt} (a : IGood w s s1) (b : IGood w s1 s2) : IGood w s s2 := by
  obtain ⟨l1, e1, h1⟩ := a
  obtain ⟨l2, e2, h2⟩ := b
  exact ⟨l1 ++ l2, by rw [e2, e1, List.append_assoc], List.forall_mem_append.mpr ⟨h1, h2⟩⟩

section
variable (reg : List EvId) (o : IOracle) (fuel : Nat) (s : ISt)

theorem execI_branch (t e : IComp) : execI reg o (fuel + 1) (.branch t e) s =
    execI reg o fuel (if o.cond s.tick then t else e) { s with tick := s.tick + 1 } := by
  simp only [execI]; split <;> rfl

theorem execI_scope (b : IComp) : execI reg o (fuel + 1) (.scope b) s =
    if requireOk reg b then execI reg o fuel b s else none := rfl

theorem execsI_cons (c : IComp) (rest : IComps) :
    execsI reg o (fuel + 1) (.cons c rest) s = (execI reg o fuel c s).bind (execsI reg o fuel rest) := by
  show (match execI reg o fuel c s with | none => none | some s' => _) = _
  cases execI reg o fuel c s <;> rfl

theorem loopI_succ (b : IComp) : loopI reg o (fuel + 1) b s =
    if o.cond s.tick then (execI reg o fuel b { s with tick := s.tick + 1 }).bind (loopI reg o fuel b)
    else some { s with tick := s.tick + 1 } := by
  show (if o.cond s.tick then (match execI reg o fuel b _ with | none => none | some s1 => _) else _) = _
  cases execI reg o fuel b _ <;> rfl

end

theorem execI_leaf_of_usesOnly (w : EvId) (reg : List EvId) (o : IOracle) (fuel : Nat) (k : LeafKind) (id : Option EvId)
    (s : ISt) (hc : usesOnly w (.leaf k id) = true) : execI reg o (fuel + 1) (.leaf k id) s =
    if o.fails s.tick then none
    else if callsObjective k then
      if reg.contains w then some { log := s.log ++ [(w, o.calls s.tick)], tick := s.tick + 1 } else none
    else some { s with tick := s.tick + 1 } := by
  obtain ⟨hk, hid⟩ := usesOnly_leaf w k id hc
  change (if o.fails s.tick then none else if (k == LeafKind.opaque) = true then _ else
    if callsObjective k then if reg.contains (evaluatorOf id) then _ else none else _) = _
  rw [hk, if_neg Bool.false_ne_true]
  cases hcall : callsObjective k with
  | false => rfl
  | true => rw [hid hcall]; rfl

/-- By strong induction on the fuel; the tail of a sequence and the rest of a loop are again a `.seq` / `.loop`
at the fuel of the node itself. -/
theorem execI_sound (w : EvId) (reg : List EvId) (o : IOracle) : ∀ (fuel : Nat) (c : IComp) (s s' : ISt),
    usesOnly w c = true → execI reg o fuel c s = some s' → IGood w s s' := by
  intro fuel
  induction fuel using Nat.strongRecOn with
  | ind fuel ih =>
    intro c s s' hc h
    cases fuel with
    | zero => cases h
    | succ fuel =>
      cases c with
      | leaf k id =>
        rw [execI_leaf_of_usesOnly w reg o fuel k id s hc] at h
        obtain ⟨_, h⟩ := Option.ite_none_left_eq_some.mp h
        split at h
        · obtain ⟨_, h⟩ := Option.ite_none_right_eq_some.mp h
          cases h
          exact ⟨[(w, o.calls s.tick)], rfl, fun e he => by rw [List.mem_singleton.mp he]⟩
        · cases h; exact IGood.refl w _
      | seq cs =>
        cases fuel with
        | zero => cases h
        | succ f =>
          cases cs with
          | nil => cases h; exact IGood.refl w _
          | cons c rest =>
            rw [usesOnly, usesOnlys, Bool.and_eq_true] at hc
            change execsI reg o (f + 1) (.cons c rest) s = some s' at h
            rw [execsI_cons] at h
            obtain ⟨s1, h1, h2⟩ := Option.bind_eq_some_iff.mp h
            exact (ih f (Nat.lt_succ_of_lt (Nat.lt_succ_self f)) c s s1 hc.1 h1).trans
              (ih (f + 1) (Nat.lt_succ_self _) (.seq rest) s1 s' hc.2 h2)
      | loop b =>
        cases fuel with
        | zero => cases h
        | succ f =>
          change loopI reg o (f + 1) b s = some s' at h
          rw [loopI_succ] at h
          split at h
          · obtain ⟨s1, h1, h2⟩ := Option.bind_eq_some_iff.mp h
            exact IGood.trans (ih f (Nat.lt_succ_of_lt (Nat.lt_succ_self f)) b { s with tick := s.tick + 1 } s1 hc h1)
              (ih (f + 1) (Nat.lt_succ_self _) (.loop b) s1 s' hc h2)
          · cases h; exact IGood.refl w _
      | branch t e =>
        rw [usesOnly, Bool.and_eq_true] at hc
        exact ih fuel (Nat.lt_succ_self _) (if o.cond s.tick then t else e) { s with tick := s.tick + 1 } s'
          (by split <;> simp only [hc]) (execI_branch .. ▸ h)
      | scope b =>
        rw [execI_scope] at h
        exact ih fuel (Nat.lt_succ_self _) b s s' hc (Option.ite_none_right_eq_some.mp h).2

theorem execsI_sound (w : EvId) (reg : List EvId) (o : IOracle) : ∀ (fuel : Nat) (cs : IComps) (s s' : ISt),
    usesOnlys w cs = true → execsI reg o fuel cs s = some s' → IGood w s s' :=
  fun fuel cs => execI_sound w reg o (fuel + 1) (.seq cs)

theorem loopI_sound (w : EvId) (reg : List EvId) (o : IOracle) : ∀ (fuel : Nat) (b : IComp) (s s' : ISt),
    usesOnly w b = true → loopI reg o fuel b s = some s' → IGood w s s' :=
  fun fuel b => execI_sound w reg o (fuel + 1) (.loop b)

/-! ### `execute`: no other registered evaluator matters -/

theorem execI_reg_congr (w : EvId) (reg reg' : List EvId) (o : IOracle) (hw : reg.contains w = true)
    (hw' : reg'.contains w = true) (fuel : Nat) :
    (∀ c s, usesOnly w c = true → execI reg o fuel c s = execI reg' o fuel c s) ∧
    (∀ cs s, usesOnlys w cs = true → execsI reg o fuel cs s = execsI reg' o fuel cs s) ∧
    (∀ b s, usesOnly w b = true → loopI reg o fuel b s = loopI reg' o fuel b s) := by
  induction fuel with
  | zero => exact ⟨fun _ _ _ => rfl, fun _ _ _ => rfl, fun _ _ _ => rfl⟩
  | succ fuel ih =>
    obtain ⟨ih1, ih2, ih3⟩ := ih
    refine ⟨fun c s hc => ?_, fun cs s hc => ?_, fun b s hc => ?_⟩
    · cases c with
      | leaf k id => rw [execI_leaf_of_usesOnly w reg o fuel k id s hc, execI_leaf_of_usesOnly w reg' o fuel k id s hc, hw, hw']
      | seq cs => exact ih2 cs s hc
      | loop b => exact ih3 b s hc
      | branch t e =>
        rw [usesOnly, Bool.and_eq_true] at hc
        rw [execI_branch, execI_branch, ih1 (if o.cond s.tick then t else e) _ (by split <;> simp only [hc])]
      | scope b =>
        rw [execI_scope, execI_scope, requireOk_of_usesOnly w reg b hc hw, requireOk_of_usesOnly w reg' b hc hw', ih1 b s hc]
    · cases cs with
      | nil => rfl
      | cons c rest =>
        rw [usesOnlys, Bool.and_eq_true] at hc
        rw [execsI_cons, execsI_cons, ih1 c s hc.1, funext fun s1 => ih2 rest s1 hc.2]
    · rw [loopI_succ, loopI_succ, ih1 b _ hc, funext fun s1 => ih3 b s1 hc]

theorem execI_reg_irrelevant (w : EvId) (reg : List EvId) (o : IOracle) (hw : reg.contains w = true) :
    ∀ (fuel : Nat) (c : IComp) (s : ISt), usesOnly w c = true → execI reg o fuel c s = execI [w] o fuel c s :=
  fun fuel => (execI_reg_congr w reg [w] o hw List.elem_cons_self fuel).1

theorem execsI_reg_irrelevant (w : EvId) (reg : List EvId) (o : IOracle) (hw : reg.contains w = true) :
    ∀ (fuel : Nat) (cs : IComps) (s : ISt), usesOnlys w cs = true → execsI reg o fuel cs s = execsI [w] o fuel cs s :=
  fun fuel => (execI_reg_congr w reg [w] o hw List.elem_cons_self fuel).2.1

theorem loopI_reg_irrelevant (w : EvId) (reg : List EvId) (o : IOracle) (hw : reg.contains w = true) :
    ∀ (fuel : Nat) (b : IComp) (s : ISt), usesOnly w b = true → loopI reg o fuel b s = loopI [w] o fuel b s :=
  fun fuel => (execI_reg_congr w reg [w] o hw List.elem_cons_self fuel).2.2

end MahfModel.Tpl
