/- Soundness of `counterExact` (C06: no scope shadows the evaluation counter) for every execution of `execC`. -/
import MahfModel.Model.TemplatesEval
namespace MahfModel.Tpl

theorem bumpFirst_zero (cs : Counters) : bumpFirst 0 cs = cs := by
  fun_induction bumpFirst 0 cs <;> simp_all

theorem bumpFirst_add (a b : Nat) (cs : Counters) :
    bumpFirst b (bumpFirst a cs) = bumpFirst (a + b) cs := by
  fun_induction bumpFirst a cs <;> simp_all [bumpFirst, Nat.add_assoc]

theorem visible_bumpFirst (n : Nat) (cs : Counters) (k : Nat) (h : visible cs = some k) :
    visible (bumpFirst n cs) = some (k + n) := by
  fun_induction bumpFirst n cs <;> simp_all [visible]

/-- the step made `d` objective calls and added exactly `d` to the innermost visible counter -/
def CGood (d : Nat) (s s' : CSt) : Prop :=
  s'.calls = s.calls + d ∧ s'.counters = bumpFirst d s.counters

theorem CGood.visible {d k : Nat} {s s' : CSt} (h : CGood d s s') (hk : visible s.counters = some k) :
    visible s'.counters = some (k + d) := by
  rw [h.2]; exact visible_bumpFirst d s.counters k hk

theorem CGood.tick (s : CSt) (t : Nat) : CGood 0 s { s with tick := t } := ⟨rfl, (bumpFirst_zero _).symm⟩

theorem CGood.trans {d1 d2 : Nat} {s s1 s2 : CSt} (a : CGood d1 s s1) (b : CGood d2 s1 s2) : CGood (d1 + d2) s s2 :=
  ⟨by rw [b.1, a.1, Nat.add_assoc], by rw [b.2, a.2, bumpFirst_add]⟩

section
variable (o : COracle) (fuel : Nat) (s : CSt)

theorem execC_scope (b : Comp) : execC o (fuel + 1) (.scope b) s =
    (execC o fuel b { s with counters := (if insertsOutside b then some 0 else none) :: s.counters }).map
      fun s' => { s' with counters := s'.counters.tail } := by
  show (match execC o fuel b _ with | none => none | some s' => _) = _
  cases execC o fuel b _ <;> rfl

theorem execsC_cons (c : Comp) (rest : Comps) :
    execsC o (fuel + 1) (.cons c rest) s = (execC o fuel c s).bind (execsC o fuel rest) := by
  show (match execC o fuel c s with | none => none | some s' => _) = _
  cases execC o fuel c s <;> rfl

theorem loopC_succ (b : Comp) : loopC o (fuel + 1) b s =
    if o.cond s.tick then (execC o fuel b { s with tick := s.tick + 1 }).bind (loopC o fuel b)
    else some { s with tick := s.tick + 1 } := by
  show (if o.cond s.tick then (match execC o fuel b _ with | none => none | some s1 => _) else _) = _
  cases execC o fuel b _ <;> rfl

end

/-- By strong induction on the fuel; the tail of a sequence and the rest of a loop are again a `.seq` / `.loop`
at the fuel of the node itself. -/
theorem execC_sound (o : COracle) : ∀ (fuel : Nat) (c : Comp) (s s' : CSt),
    counterExact c = true → execC o fuel c s = some s' → ∃ d, CGood d s s' := by
  intro fuel
  induction fuel using Nat.strongRecOn with
  | ind fuel ih =>
    intro c s s' hc h
    cases fuel with
    | zero => cases h
    | succ fuel =>
      cases c with
      | leaf k =>
        change (if o.fails s.tick then none else if callsObjective k then if hasCounter s.counters then _ else none else _)
          = _ at h
        obtain ⟨_, h⟩ := Option.ite_none_left_eq_some.mp h
        by_cases hk : callsObjective k = true
        · rw [if_pos hk] at h
          obtain ⟨_, h⟩ := Option.ite_none_right_eq_some.mp h
          cases h; exact ⟨o.calls s.tick, rfl, rfl⟩
        · rw [if_neg hk] at h
          cases h; exact ⟨0, CGood.tick s _⟩
      | seq cs =>
        cases fuel with
        | zero => cases h
        | succ f =>
          cases cs with
          | nil => cases h; exact ⟨0, CGood.tick s _⟩
          | cons c rest =>
            rw [counterExact, counterExacts, Bool.and_eq_true] at hc
            change execsC o (f + 1) (.cons c rest) s = some s' at h
            rw [execsC_cons] at h
            obtain ⟨s1, h1, h2⟩ := Option.bind_eq_some_iff.mp h
            obtain ⟨d1, a⟩ := ih f (Nat.lt_succ_of_lt (Nat.lt_succ_self f)) c s s1 hc.1 h1
            obtain ⟨d2, b⟩ := ih (f + 1) (Nat.lt_succ_self _) (.seq rest) s1 s' hc.2 h2
            exact ⟨d1 + d2, a.trans b⟩
      | loop b =>
        cases fuel with
        | zero => cases h
        | succ f =>
          change loopC o (f + 1) b s = some s' at h
          rw [loopC_succ] at h
          split at h
          · obtain ⟨s1, h1, h2⟩ := Option.bind_eq_some_iff.mp h
            obtain ⟨d1, a⟩ := ih f (Nat.lt_succ_of_lt (Nat.lt_succ_self f)) b _ s1 hc h1
            obtain ⟨d2, b'⟩ := ih (f + 1) (Nat.lt_succ_self _) (.loop b) s1 s' hc h2
            exact ⟨d1 + d2, CGood.trans a b'⟩
          · cases h; exact ⟨0, CGood.tick s _⟩
      | branch t e =>
        rw [counterExact, Bool.and_eq_true] at hc
        change (if o.cond s.tick then _ else _) = _ at h
        split at h
        · obtain ⟨d, g⟩ := ih fuel (Nat.lt_succ_self _) t _ s' hc.1 h
          exact ⟨d, g⟩
        · obtain ⟨d, g⟩ := ih fuel (Nat.lt_succ_self _) e _ s' hc.2 h
          exact ⟨d, g⟩
      | scope b =>
        rw [counterExact, Bool.and_eq_true, Bool.not_eq_true'] at hc
        rw [execC_scope, hc.1] at h
        obtain ⟨s1, h1, rfl⟩ := Option.map_eq_some_iff.mp h
        obtain ⟨d, g1, g2⟩ := ih fuel (Nat.lt_succ_self _) b _ s1 hc.2 h1
        exact ⟨d, g1, by rw [g2]; rfl⟩

theorem execsC_sound (o : COracle) : ∀ (fuel : Nat) (cs : Comps) (s s' : CSt),
    counterExacts cs = true → execsC o fuel cs s = some s' → ∃ d, CGood d s s' :=
  fun fuel cs => execC_sound o (fuel + 1) (.seq cs)

theorem loopC_sound (o : COracle) : ∀ (fuel : Nat) (b : Comp) (s s' : CSt),
    counterExact b = true → loopC o fuel b s = some s' → ∃ d, CGood d s s' :=
  fun fuel b => execC_sound o (fuel + 1) (.loop b)

end MahfModel.Tpl
