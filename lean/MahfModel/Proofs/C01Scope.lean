/- C01: one map of the registry as an association list (`Scope`), and the model's own list functions `modifyAt`,
`findIdx`, `distinct` (identified with core's where core has them); `Spec.updFirst` as `modifyAt` at `depthOf`
(`updFirst_eq`), here so that `C01Edit` has it without the chain. Lean core only, no Mathlib. -/
import MahfModel.Model.Registry
namespace MahfModel.Registry

@[simp] theorem Scope.get?_nil (k : Key) : Scope.get? [] k = none := rfl

theorem Scope.get?_cons (k' : Key) (c : Cell) (t : Scope) (k : Key) :
    Scope.get? ((k', c) :: t) k = if k' = k then some c else Scope.get? t k := rfl

theorem Scope.get?_erase (s : Scope) (k k' : Key) :
    (s.erase k).get? k' = if k' = k then none else s.get? k' := by
  induction s with
  | nil => simp [Scope.erase]
  | cons e t ih =>
    obtain ⟨a, c⟩ := e
    simp only [Scope.erase]
    split <;> simp only [Scope.get?_cons, ih] <;> grind

theorem Scope.get?_put (s : Scope) (k : Key) (c : Cell) (k' : Key) :
    (s.put k c).get? k' = if k' = k then some c else s.get? k' := by
  simp only [Scope.put, Scope.get?_cons, Scope.get?_erase]; grind

theorem Scope.get?_modify (s : Scope) (k : Key) (f : Cell → Cell) (k' : Key) :
    (s.modify k f).get? k' = if k' = k then (s.get? k).map f else s.get? k' := by
  induction s with
  | nil => simp [Scope.modify]
  | cons e t ih =>
    obtain ⟨a, c⟩ := e
    simp only [Scope.modify]
    split <;> simp only [Scope.get?_cons, ih] <;> grind

theorem Scope.modify_congr (s : Scope) (k : Key) (f g : Cell → Cell)
    (h : ∀ c, s.get? k = some c → f c = g c) : s.modify k f = s.modify k g := by
  induction s with
  | nil => rfl
  | cons e t ih =>
    obtain ⟨a, c⟩ := e
    simp only [Scope.modify]
    by_cases hk : a = k
    · simp only [hk, if_true]; rw [h c (by simp [Scope.get?_cons, hk])]
    · simp only [hk, if_false]; rw [ih (fun c' hc => h c' (by simpa [Scope.get?_cons, hk] using hc))]

theorem Scope.modify_modify (s : Scope) (k : Key) (f g : Cell → Cell) :
    (s.modify k f).modify k g = s.modify k (fun c => g (f c)) := by
  induction s with
  | nil => rfl
  | cons e t ih =>
    obtain ⟨a, c⟩ := e
    simp only [Scope.modify]
    by_cases hk : a = k
    · simp [hk, Scope.modify]
    · simp [hk, Scope.modify, ih]

theorem Scope.modify_id (s : Scope) (k : Key) : s.modify k id = s := by
  induction s with
  | nil => rfl
  | cons e t ih =>
    obtain ⟨a, c⟩ := e
    simp only [Scope.modify]
    split
    · rfl
    · rw [ih]

theorem Scope.modify_self (s : Scope) (k : Key) (f : Cell → Cell) (h : ∀ c, s.get? k = some c → f c = c) :
    s.modify k f = s :=
  (Scope.modify_congr s k f id h).trans (Scope.modify_id s k)

theorem Scope.erase_eq_filter (s : Scope) (k : Key) : s.erase k = s.filter (fun e => e.1 != k) := by
  induction s with
  | nil => rfl
  | cons e t ih =>
    obtain ⟨a, c⟩ := e
    by_cases h : a = k <;> simp [Scope.erase, h, ih]

theorem Scope.has_eq (s : Scope) (k : Key) : s.has k = (s.view k).isSome := by
  simp [Scope.has, Scope.view]

theorem Scope.has_modify (s : Scope) (k : Key) (f : Cell → Cell) (k' : Key) :
    (s.modify k f).has k' = s.has k' := by
  simp only [Scope.has, Scope.get?_modify]; split
  · rename_i h; subst h; cases s.get? k' <;> simp
  · rfl

theorem view_nil : Scope.view [] = PMap.empty := rfl

theorem Scope.view_erase (s : Scope) (k : Key) : (s.erase k).view = (s.view).set k none := by
  funext k'; simp only [Scope.view, PMap.set, Scope.get?_erase]; grind

theorem Scope.view_put (s : Scope) (k : Key) (c : Cell) : (s.put k c).view = (s.view).set k (some c.val) := by
  funext k'; simp only [Scope.view, PMap.set, Scope.get?_put]; grind

theorem Scope.view_modify (s : Scope) (k : Key) (f : Cell → Cell) :
    (s.modify k f).view = (s.view).set k ((s.get? k).map fun c => (f c).val) := by
  funext k'; simp only [Scope.view, PMap.set, Scope.get?_modify]
  split
  · cases s.get? k <;> simp
  · rfl

theorem Scope.quiet_get (s : Scope) (k : Key) (c : Cell) (h : s.quiet = true) (hc : s.get? k = some c) :
    c.readers = 0 ∧ c.writer = false := by
  induction s with
  | nil => simp at hc
  | cons e t ih =>
    obtain ⟨a, c'⟩ := e
    simp only [Scope.quiet, List.all_cons, Bool.and_eq_true] at h
    simp only [Scope.get?_cons] at hc
    split at hc
    · cases hc; simpa [Cell.quiet] using h.1
    · exact ih h.2 hc

theorem Scope.quiet_erase (s : Scope) (k : Key) (h : s.quiet = true) : (s.erase k).quiet = true := by
  rw [Scope.erase_eq_filter]
  exact List.all_eq_true.mpr fun e he => List.all_eq_true.mp h e (List.mem_filter.mp he).1

@[simp] theorem fresh_val (v : Nat) : (fresh v).val = v := rfl

theorem Scope.quiet_put (s : Scope) (k : Key) (v : Nat) (h : s.quiet = true) : (s.put k (fresh v)).quiet = true := by
  have := Scope.quiet_erase s k h
  simp only [Scope.put, Scope.quiet, List.all_cons, Bool.and_eq_true]
  exact ⟨by simp [fresh, Cell.quiet], this⟩

theorem Scope.quiet_modify (s : Scope) (k : Key) (f : Cell → Cell) (h : s.quiet = true)
    (hf : ∀ c, c.quiet = true → (f c).quiet = true) : (s.modify k f).quiet = true := by
  induction s with
  | nil => rfl
  | cons e t ih =>
    obtain ⟨a, c'⟩ := e
    simp only [Scope.quiet, List.all_cons, Bool.and_eq_true] at h
    simp only [Scope.modify]
    split
    · simp only [Scope.quiet, List.all_cons, Bool.and_eq_true]; exact ⟨hf _ h.1, h.2⟩
    · simp only [Scope.quiet, List.all_cons, Bool.and_eq_true]; exact ⟨h.1, ih h.2⟩

theorem Scope.keys_erase (s : Scope) (k : Key) : (s.erase k).keys = s.keys.filter (fun a => a != k) := by
  rw [Scope.erase_eq_filter, Scope.keys, Scope.keys, List.filter_map]; rfl

theorem Scope.nodup_erase (s : Scope) (k : Key) (h : s.nodupKeys) : (s.erase k).nodupKeys := by
  simp only [Scope.nodupKeys, Scope.keys_erase]; exact h.filter _

theorem Scope.nodup_put (s : Scope) (k : Key) (c : Cell) (h : s.nodupKeys) : (s.put k c).nodupKeys := by
  have h1 := Scope.nodup_erase s k h
  simp only [Scope.nodupKeys, Scope.put, Scope.keys, List.map_cons, List.nodup_cons] at *
  refine ⟨?_, h1⟩
  have := Scope.keys_erase s k
  simp only [Scope.keys] at this
  rw [this]; simp

theorem Scope.keys_modify (s : Scope) (k : Key) (f : Cell → Cell) : (s.modify k f).keys = s.keys := by
  induction s with
  | nil => rfl
  | cons e t ih =>
    obtain ⟨a, c⟩ := e
    simp only [Scope.modify]
    split
    · simp [Scope.keys]
    · simp only [Scope.keys, List.map_cons] at *; rw [ih]

theorem Scope.nodup_modify (s : Scope) (k : Key) (f : Cell → Cell) (h : s.nodupKeys) : (s.modify k f).nodupKeys := by
  simp only [Scope.nodupKeys, Scope.keys_modify]; exact h

theorem Scope.get?_of_mem (s : Scope) (k : Key) (c : Cell) (hn : s.nodupKeys) (h : (k, c) ∈ s) :
    s.get? k = some c := by
  induction s with
  | nil => simp at h
  | cons e t ih =>
    obtain ⟨a, c'⟩ := e
    simp only [Scope.nodupKeys, Scope.keys, List.map_cons, List.nodup_cons] at hn
    simp only [Scope.get?_cons]
    rcases List.mem_cons.mp h with h1 | h1
    · cases h1; simp
    · have : a ≠ k := by
        intro hak; apply hn.1; subst hak
        exact List.mem_map.mpr ⟨(a, c), h1, rfl⟩
      simp [this]; exact ih hn.2 h1

theorem Scope.quiet_of_cells (s : Scope) (hn : s.nodupKeys)
    (h : ∀ k c, s.get? k = some c → c.readers = 0 ∧ c.writer = false) : s.quiet = true := by
  simp only [Scope.quiet, List.all_eq_true]
  intro e he
  obtain ⟨k, c⟩ := e
  have := h k c (Scope.get?_of_mem s k c hn he)
  simp [Cell.quiet, this.1, this.2]

/-- The model's `modifyAt` and `findIdx` are core's `List.modify` and `List.findIdx?`: their general lemmas come from
core through these two equations. -/
theorem modifyAt_eq_modify {α : Type} (l : List α) (i : Nat) (f : α → α) : modifyAt l i f = l.modify i f := by
  induction l generalizing i with
  | nil => simp [modifyAt]
  | cons a t ih => cases i <;> simp [modifyAt, ih]

theorem findIdx_eq_findIdx? {α : Type} (p : α → Bool) (l : List α) : findIdx p l = l.findIdx? p := by
  induction l with
  | nil => rfl
  | cons a t ih => simp only [findIdx, List.findIdx?_cons, ih]

theorem modifyAt_length {α : Type} (l : List α) (i : Nat) (f : α → α) : (modifyAt l i f).length = l.length := by
  rw [modifyAt_eq_modify, List.length_modify]

theorem modifyAt_modifyAt {α : Type} (l : List α) (i : Nat) (f g : α → α) :
    modifyAt (modifyAt l i f) i g = modifyAt l i (fun a => g (f a)) := by
  simp only [modifyAt_eq_modify, List.modify_modify_eq]; rfl

theorem modifyAt_id {α : Type} (l : List α) (i : Nat) : modifyAt l i id = l := by
  rw [modifyAt_eq_modify, List.modify_id]

theorem modifyAt_ne_nil {α : Type} (l : List α) (i : Nat) (f : α → α) (h : l ≠ []) : modifyAt l i f ≠ [] := by
  rw [modifyAt_eq_modify]; exact fun h' => h (List.modify_eq_nil_iff.mp h')

theorem getD_modifyAt {α : Type} (l : List α) (i j : Nat) (f : α → α) (d : α) (h : i < l.length) :
    (modifyAt l i f).getD j d = if j = i then f (l.getD i d) else l.getD j d := by
  rw [modifyAt_eq_modify]; simp only [List.getD_eq_getElem?_getD]
  split
  · rename_i hj; subst hj; rw [List.getElem?_modify_eq, List.getElem?_eq_getElem h]; rfl
  · rename_i hj; rw [List.getElem?_modify_ne]; exact fun e => hj e.symm

theorem modifyAt_congr {α : Type} (l : List α) (i : Nat) (f g : α → α) (d : α)
    (h : f (l.getD i d) = g (l.getD i d)) : modifyAt l i f = modifyAt l i g := by
  induction l generalizing i with
  | nil => rfl
  | cons a t ih =>
    cases i with
    | zero => exact congrArg (· :: t) h
    | succ i => exact congrArg (a :: ·) (ih i h)

theorem map_modifyAt {α β : Type} (l : List α) (i : Nat) (f : α → α) (g : β → β) (m : α → β) (d : α)
    (h : m (f (l.getD i d)) = g (m (l.getD i d))) : (modifyAt l i f).map m = modifyAt (l.map m) i g := by
  induction l generalizing i with
  | nil => rfl
  | cons a t ih =>
    cases i with
    | zero => exact congrArg (· :: t.map m) h
    | succ i => exact congrArg (m a :: ·) (ih i h)

theorem forall_mem_modifyAt {α : Type} {P : α → Prop} (l : List α) (i : Nat) (f : α → α) (h : ∀ a ∈ l, P a)
    (hf : ∀ a, P a → P (f a)) : ∀ a ∈ modifyAt l i f, P a := by
  induction l generalizing i with
  | nil => exact h
  | cons a t ih =>
    have ht := fun b hb => h b (List.mem_cons_of_mem _ hb)
    cases i with
    | zero => exact List.forall_mem_cons.mpr ⟨hf a (h a (List.mem_cons_self ..)), ht⟩
    | succ i => exact List.forall_mem_cons.mpr ⟨h a (List.mem_cons_self ..), ih i ht⟩

theorem findIdx_modifyAt {α : Type} (p : α → Bool) (l : List α) (i : Nat) (f : α → α)
    (h : ∀ a, p (f a) = p a) : findIdx p (modifyAt l i f) = findIdx p l := by
  induction l generalizing i with
  | nil => rfl
  | cons a t ih => cases i <;> simp [modifyAt, findIdx, h, ih]

theorem take_append_modifyAt_drop {α : Type} (l : List α) (d i : Nat) (F : α → α) :
    l.take d ++ modifyAt (l.drop d) i F = modifyAt l (d + i) F := by
  simp only [modifyAt_eq_modify, List.modify_eq_take_drop, List.take_add, List.drop_drop, List.append_assoc]

theorem drop_ne_nil {α : Type} (l : List α) (d : Nat) (h : d < l.length) : l.drop d ≠ [] :=
  fun h' => Nat.not_le_of_lt h (List.drop_eq_nil_iff.mp h')

theorem updFirst_eq (sp : Spec) (k : Key) (v : Option Nat) :
    sp.updFirst k v = match sp.depthOf k with
      | none => sp
      | some i => modifyAt sp i (·.set k v) := by
  induction sp with
  | nil => rfl
  | cons m p ih =>
    rw [Spec.updFirst, Spec.depthOf]
    by_cases hm : (m k).isSome = true
    · simp only [hm, if_true, modifyAt]
    · simp only [hm, ih]
      cases Spec.depthOf p k <;> simp [modifyAt]

theorem setTop_eq (sp : Spec) (k : Key) (v : Option Nat) (h : sp ≠ []) :
    sp.setTop k v = modifyAt sp 0 (fun m : PMap => m.set k v) := by
  cases sp with
  | nil => exact absurd rfl h
  | cons m p => rfl

theorem distinctGo_iff (seen ks : List Key) :
    distinctGo seen ks = true ↔ ks.Nodup ∧ ∀ k ∈ ks, k ∉ seen := by
  induction ks generalizing seen with
  | nil => simp [distinctGo]
  | cons k ks ih =>
    by_cases hk : k ∈ seen <;> simp [distinctGo, hk, ih]
    grind

theorem distinct_iff (ks : List Key) : distinct ks = true ↔ ks.Nodup := by
  simp [distinct, distinctGo_iff]

theorem distinct_eq_false (ks : List Key) (h : ¬ ks.Nodup) : distinct ks = false := by
  cases hx : distinct ks with
  | false => rfl
  | true => exact absurd ((distinct_iff ks).mp hx) h

end MahfModel.Registry
