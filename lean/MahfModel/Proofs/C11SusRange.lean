/- C11: functional specification of stochastic universal sampling over an ordered field (exact
arithmetic) — the `k`-th selected position is the FIRST position whose cumulative weight reaches the
`k`-th selection point `(u + k)·total/n`.  The property theorems take `susIndices_spec` and the laws of the
cumulative weight `cum` (`cum_zero`, `cum_succ`, `cum_mono`, `cum_le_total`); the walk (`susInner_spec`, `susGo_ok`)
and `SusOK`, read through `SusOK.get` and `SusOK.sorted`, serve `susIndices_spec` only. -/
import MahfModel.Proofs.C11Sus
import MahfModel.Proofs.C11Weights
namespace MahfModel.Selection

section
variable {F : Type} [Field F]

/-- cumulative weight of the first `i` positions -/
def cum (ws : List F) (i : Nat) : F := sum (ws.take i)

theorem cum_zero (ws : List F) : cum ws 0 = 0 := by simp [cum, sum_nil]

theorem cum_length (ws : List F) : cum ws ws.length = sum ws := by simp [cum]

theorem cum_succ (ws : List F) (i : Nat) (hi : i < ws.length) : cum ws (i + 1) = cum ws i + ws[i] := by
  simp only [cum]
  rw [List.take_succ_eq_append_getElem hi, sum_append, sum_cons, sum_nil, add_zero]

variable [LinearOrder F]

/-- The pointer state is a function of the position `i`: the weights after it and the cumulative weight up to and
including it.  One walk ends at the first position from `i` on whose cumulative weight reaches `distance`, or at
the last one. -/
theorem susInner_spec (ws : List F) (distance : F) (i : Nat) (hi : i < ws.length) :
    ∃ j, susInner distance (ws.drop (i + 1)) i (cum ws (i + 1)) = (j, cum ws (j + 1), ws.drop (j + 1)) ∧
      i ≤ j ∧ j < ws.length ∧ (j = i ∨ cum ws j < distance) ∧ (distance ≤ cum ws (j + 1) ∨ j + 1 = ws.length) := by
  generalize hr : ws.drop (i + 1) = rest
  induction rest generalizing i with
  | nil =>
    exact ⟨i, by rw [susInner, hr]; split <;> rfl, le_refl _, hi, .inl rfl,
      .inr (Nat.le_antisymm hi (List.drop_eq_nil_iff.mp hr))⟩
  | cons w rest ih =>
    by_cases hlt : cum ws (i + 1) < distance
    · have hi1 : i + 1 < ws.length := by
        by_contra hc; rw [List.drop_eq_nil_iff.mpr (not_lt.mp hc)] at hr; cases hr
      rw [List.drop_eq_getElem_cons hi1] at hr
      injection hr with hw hr
      obtain ⟨j, e, g1, g2, g3, g4⟩ := ih (i + 1) hi1 hr
      refine ⟨j, by rw [susInner, if_pos hlt, ← hw, ← cum_succ ws (i + 1) hi1]; exact e, Nat.le_of_succ_le g1, g2,
        .inr (g3.elim (fun g3 => g3 ▸ hlt) id), g4⟩
    · exact ⟨i, by rw [susInner, if_neg hlt, hr], le_refl _, hi, .inl rfl, .inl (not_lt.mp hlt)⟩

/-- what SUS promises about the `k`-th, `k+1`-th, … selected positions -/
def SusOK (ws : List F) (start gaps : F) : Nat → Nat → List Nat → Prop
  | _, _, [] => True
  | k, lo, idx :: l =>
    (lo ≤ idx ∧ idx < ws.length ∧
     (idx = 0 ∨ cum ws idx < start + (k : F) * gaps) ∧
     (start + (k : F) * gaps ≤ cum ws (idx + 1) ∨ idx + 1 = ws.length)) ∧
    SusOK ws start gaps (k + 1) idx l

theorem SusOK.get {ws : List F} {start gaps : F} {k lo : Nat} {l : List Nat} (h : SusOK ws start gaps k lo l)
    (j : Nat) (hj : j < l.length) :
    lo ≤ l[j] ∧ l[j] < ws.length ∧ (l[j] = 0 ∨ cum ws l[j] < start + ((k + j : Nat) : F) * gaps) ∧
    (start + ((k + j : Nat) : F) * gaps ≤ cum ws (l[j] + 1) ∨ l[j] + 1 = ws.length) := by
  induction l generalizing k lo j with
  | nil => simp at hj
  | cons idx l ih =>
    obtain ⟨h1, h2⟩ := h
    cases j with
    | zero => exact h1
    | succ j =>
      have := ih h2 j (Nat.lt_of_succ_lt_succ hj)
      rw [Nat.add_right_comm k 1 j] at this
      exact ⟨le_trans h1.1 this.1, this.2⟩

variable [IsStrictOrderedRing F]

theorem cum_mono (ws : List F) (hw : ∀ w ∈ ws, 0 ≤ w) (i j : Nat) (hij : i ≤ j) : cum ws i ≤ cum ws j := by
  obtain ⟨d, rfl⟩ := Nat.exists_eq_add_of_le hij
  unfold cum
  rw [List.take_add, sum_append]
  exact le_add_of_nonneg_right
    (sum_nonneg _ fun x hx => hw x (List.mem_of_mem_drop (List.mem_of_mem_take hx)))

theorem cum_le_total (ws : List F) (hw : ∀ w ∈ ws, 0 ≤ w) (i : Nat) : cum ws i ≤ sum ws := by
  by_cases h : i ≤ ws.length
  · rw [← cum_length ws]; exact cum_mono ws hw i ws.length h
  · simp [cum, List.take_of_length_le (le_of_lt (not_le.mp h))]

theorem susGo_ok (O : Ops F) (hcast : ∀ k : Nat, O.ofNat k = (k : F)) (ws : List F) (start gaps : F)
    (hg : 0 ≤ gaps) (cnt k i : Nat) (hi : i < ws.length) (hlb : i = 0 ∨ cum ws i < start + (k : F) * gaps) :
    SusOK ws start gaps k i (susGo O start gaps cnt k (ws.drop (i + 1)) i (cum ws (i + 1))) := by
  induction cnt generalizing k i with
  | zero => simp [susGo, SusOK]
  | succ cnt ih =>
    obtain ⟨j, e, g1, g2, g3, g4⟩ := susInner_spec ws (start + (k : F) * gaps) i hi
    simp only [susGo, hcast, e]
    have hlb' : j = 0 ∨ cum ws j < start + (k : F) * gaps := g3.elim (fun g3 => g3 ▸ hlb) Or.inr
    exact ⟨⟨g1, g2, hlb', g4⟩, ih (k + 1) j g2 (hlb'.imp_right fun h => lt_of_lt_of_le h
      (add_le_add_right (mul_le_mul_of_nonneg_right (Nat.cast_le.mpr (Nat.le_succ k)) hg) start))⟩

-- stated over the ordered field its users work in; the proof needs only the order
set_option linter.unusedSectionVars false in
theorem SusOK.sorted {ws : List F} {start gaps : F} {k lo : Nat} {l : List Nat} (h : SusOK ws start gaps k lo l) :
    (∀ x ∈ l, lo ≤ x) ∧ l.Pairwise (· ≤ ·) := by
  induction l generalizing k lo with
  | nil => simp
  | cons idx l ih =>
    obtain ⟨h1, h2⟩ := h
    obtain ⟨i1, i2⟩ := ih h2
    exact ⟨List.forall_mem_cons.mpr ⟨h1.1, fun x hx => le_trans h1.1 (i1 x hx)⟩,
      List.pairwise_cons.mpr ⟨i1, i2⟩⟩

theorem susIndices_spec (O : Ops F) (hcast : ∀ k : Nat, O.ofNat k = (k : F)) (ws : List F) (n : Nat) (u : F)
    (is : List Nat) (hu1 : u < 1)
    (h : susIndices O ws n u = .ok is) :
    is.length = n ∧ is.Pairwise (· ≤ ·) ∧
    ∀ k (hk : k < is.length), is[k] < ws.length ∧
      (is[k] = 0 ∨ cum ws is[k] < (u + (k : F)) * (sum ws / (n : F))) ∧
      (u + (k : F)) * (sum ws / (n : F)) ≤ cum ws (is[k] + 1) := by
  have hlen := (susIndices_count O ws n u is h).1
  simp only [susIndices] at h
  split_ifs at h with htot
  cases ws with
  | nil => cases h
  | cons w0 rest =>
    injection h with h
    rw [hcast] at h
    have hg : 0 ≤ sum (w0 :: rest) / (n : F) := div_nonneg htot.le (Nat.cast_nonneg n)
    -- every selection point `(u + k)·total/n` with `k < n` lies below the total
    have hpt : ∀ k : Nat, k < n → (u + (k : F)) * (sum (w0 :: rest) / (n : F)) ≤ sum (w0 :: rest) := by
      intro k hk
      have hn : (0 : F) < n := Nat.cast_pos.mpr (Nat.zero_lt_of_lt hk)
      have hk' : u + (k : F) ≤ n :=
        le_trans (add_le_add_left hu1.le _) (by rw [add_comm]; exact_mod_cast Nat.succ_le_of_lt hk)
      exact le_of_le_of_eq (mul_le_mul_of_nonneg_right hk' hg) (mul_div_cancel₀ _ hn.ne')
    generalize sum (w0 :: rest) / (n : F) = g at h hg hpt ⊢
    have hok := susGo_ok O hcast (w0 :: rest) (u * g) g hg n 0 0 (Nat.zero_lt_succ _) (Or.inl rfl)
    rw [show cum (w0 :: rest) (0 + 1) = w0 from (sum_cons w0 []).trans (add_zero w0), List.drop_succ_cons,
      List.drop_zero, h] at hok
    refine ⟨hlen, hok.sorted.2, fun k hk => ?_⟩
    obtain ⟨_, g2, g3, g4⟩ := hok.get k hk
    have hd : u * g + ((0 + k : Nat) : F) * g = (u + (k : F)) * g := by rw [Nat.zero_add, add_mul]
    rw [hd] at g3 g4
    -- at the last position the cumulative weight is the total
    refine ⟨g2, g3, g4.elim id fun hlast => ?_⟩
    rw [hlast, cum_length]
    exact hpt k (hlen ▸ hk)

end
end MahfModel.Selection
