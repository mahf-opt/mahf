/- The PSO loop of `Model/PsoLoop.lean` keeps a well-formed swarm well formed.  First what the loop's bookkeeping does, on the model's
own classes: a termination formula leaves the counters alone and stores the progress of its last iteration bound (`condInit_iters`,
`evalCond_spec`), the weight schedule without inertia update (`wAt_no_inertia`).  Then `SwarmOk`, one pass in closed form
(`passResult`, `passBody_ok`), the invariant `RunInv` at every pass boundary (`loopGo_inv`).  The step-level property theorems of
`Props/C18.lean` are used as lemmas, and its definitions `DrawsCover`, `GbestIsMinPbest` in statements. -/
import MahfModel.Model.PsoLoop
import MahfModel.Props.C18
namespace MahfModel.Pso
open MahfModel.Props.C18

section bookkeeping
variable {F : Type}

theorem condInit_iters (zero : F) (c : Cond) (s : LoopVars F) : (condInit zero c s).iters = s.iters := by
  induction c generalizing s with
  | ltIter n => rfl
  | ltEval n => rfl
  | not c ih => exact ih s
  | and a b iha ihb | or a b iha ihb => simp only [condInit]; rw [ihb, iha]

variable [Div F]

theorem evalCond_spec (cast : Nat → F) (c : Cond) (s : LoopVars F) :
    (evalCond cast c s).2.iters = s.iters ∧ (evalCond cast c s).2.evals = s.evals ∧
    (evalCond cast c s).2.progIter =
      (match c.lastIterBound with
       | some n => some (cast s.iters / cast n)
       | none => s.progIter) := by
  induction c generalizing s with
  | ltIter n | ltEval n => exact ⟨rfl, rfl, rfl⟩
  | not c ih => exact ih s
  | and a b iha ihb | or a b iha ihb =>
    obtain ⟨a1, a2, a3⟩ := iha s
    obtain ⟨b1, b2, b3⟩ := ihb (evalCond cast a s).2
    refine ⟨b1.trans a1, b2.trans a2, b3.trans ?_⟩
    simp only [Cond.lastIterBound]
    -- the right operand's bound wins; it reads the counter the left operand left alone
    cases b.lastIterBound with
    | some n => exact a1 ▸ rfl
    | none => exact a3

variable [Add F] [Sub F] [Mul F]

theorem wAt_no_inertia (cast : Nat → F) (P : Params F) (n : Nat) (w0 : F) (h : P.inertia = false) (j : Nat) :
    wAt cast P n w0 j = w0 := by
  cases j <;> simp [wAt, h]

end bookkeeping

variable {F : Type} [Field F] [LinearOrder F] [IsStrictOrderedRing F]

/-- A particle of dimension `d` that carries an objective value. -/
def GoodPart (d : Nat) (p : Part F) : Prop := p.pos.length = d ∧ p.ev = true

/-- One entry per particle in all three collections, everything of dimension `d` and evaluated,
velocities within `[−v_max, v_max]`, the global best a minimal personal best. -/
structure SwarmOk (d : Nat) (vmax : F) (sw : Swarm F) : Prop where
  lenV : sw.vs.length = sw.xs.length
  lenP : sw.pbest.length = sw.xs.length
  xsOk : ∀ x ∈ sw.xs, GoodPart d x
  vsDim : ∀ v ∈ sw.vs, v.length = d
  vsClamp : ∀ v ∈ sw.vs, ∀ c ∈ v, -vmax ≤ c ∧ c ≤ vmax
  pbOk : ∀ p ∈ sw.pbest, GoodPart d p
  gb : GbestIsMinPbest sw.pbest sw.gbest

/-- The swarm initialisation (`ParticleSwarmInit`) of a non-empty evaluated population with a legal
velocity witness, on a state that holds no global best yet, gives a well-formed swarm. -/
theorem swarmInit_ok (d : Nat) (vmax : F) (witness : List (List F)) (sw : Swarm F)
    (hne : sw.xs ≠ []) (hx : ∀ x ∈ sw.xs, GoodPart d x) (hg : sw.gbest = none)
    (hl : velInitLegal vmax d witness sw = true) : SwarmOk d vmax (swarmInit witness sw) := by
  simp only [velInitLegal, Bool.and_eq_true, beq_iff_eq, List.all_eq_true, decide_eq_true_eq] at hl
  exact ⟨hl.1, rfl, hx, fun v hv => (hl.2 v hv).1, fun v hv => (hl.2 v hv).2, hx,
    (gbest_eq_min_pbest witness sw).1 hg hne⟩

section pass
variable (P : Params F) (f : List F → F) (repair : List F → List F) (draws : List (List (F × F)))

/-- The population after velocity update, boundary repair and evaluation. -/
def movedPop (sw : Swarm F) (g : Part F) : List (Part F) :=
  ((velUpd sw.w P.c1 P.c2 P.vmax g.pos sw.xs sw.vs sw.pbest draws).1.map
    (fun x => ({ x with pos := repair x.pos } : Part F))).map (fun x => { x with obj := f x.pos, ev := true })

/-- The state after one successful pass, explicitly. -/
def passResult (st : RunSt F) (g : Part F) : RunSt F :=
  { sw := { xs := movedPop P f repair draws st.sw g,
            vs := (velUpd st.sw.w P.c1 P.c2 P.vmax g.pos st.sw.xs st.sw.vs st.sw.pbest draws).2,
            pbest := pbestUpd st.sw.pbest (movedPop P f repair draws st.sw g),
            gbest := gbestUpd st.sw.gbest (movedPop P f repair draws st.sw g),
            w := if P.inertia then (match st.lv.progIter with | some p => linear P.start P.stop p | none => st.sw.w)
                 else st.sw.w },
    lv := { st.lv with evals := st.lv.evals + (movedPop P f repair draws st.sw g).length },
    best := gbestUpd st.best (movedPop P f repair draws st.sw g),
    wlog := (st.lv.iters, st.sw.w) :: st.wlog,
    hist := st.hist ++ [movedPop P f repair draws st.sw g] }

/-- One pass on a well-formed swarm succeeds — no `Err`, no panic — with `passResult` as its result,
and the swarm is well formed again. -/
theorem passBody_ok (d : Nat) (hrep : ∀ l, (repair l).length = l.length) (hvm : 0 ≤ P.vmax)
    (st : RunSt F) (hok : SwarmOk d P.vmax st.sw) (hd : DrawsCover st.sw.vs draws)
    (hprog : P.inertia = true → ∃ p, st.lv.progIter = some p) :
    ∃ g, passBody P f repair draws st = (.ok, passResult P f repair draws st g) ∧
      (movedPop P f repair draws st.sw g).length = st.sw.xs.length ∧
      SwarmOk d P.vmax (passResult P f repair draws st g).sw := by
  obtain ⟨g, hg, hgin, hgle⟩ := hok.gb
  have hgood := hok.pbOk g hgin
  have hdim : dimsOk g.pos st.sw.xs st.sw.vs st.sw.pbest = true :=
    dimsOk_of d g.pos hgood.1 _ _ _ (fun x h => (hok.xsOk x h).1) hok.vsDim (fun p h => (hok.pbOk p h).1)
  have hvel : velStep P.c1 P.c2 P.vmax draws st.sw = (.ok, { st.sw with
      xs := (velUpd st.sw.w P.c1 P.c2 P.vmax g.pos st.sw.xs st.sw.vs st.sw.pbest draws).1,
      vs := (velUpd st.sw.w P.c1 P.c2 P.vmax g.pos st.sw.xs st.sw.vs st.sw.pbest draws).2 }) := by
    simp [velStep, hok.lenV, hok.lenP, hg, hdim]
  obtain ⟨lx, lv⟩ := velUpd_length st.sw.w P.c1 P.c2 P.vmax g.pos st.sw.xs st.sw.vs st.sw.pbest draws
  have hpopLen : (movedPop P f repair draws st.sw g).length = st.sw.xs.length := by simp [movedPop, lx]
  obtain ⟨dx, dv⟩ := velUpd_dims st.sw.w P.c1 P.c2 P.vmax g.pos st.sw.xs st.sw.vs st.sw.pbest draws d
    (fun x h => (hok.xsOk x h).1) hok.vsDim
  have hpopGood : ∀ x ∈ movedPop P f repair draws st.sw g, GoodPart d x := by
    intro x hx
    simp only [movedPop, List.map_map, List.mem_map, Function.comp] at hx
    obtain ⟨y, hy, rfl⟩ := hx
    exact ⟨(hrep _).trans (dx y hy), rfl⟩
  have hclamp := velocity_clamped P.c1 P.c2 P.vmax draws st.sw _ hvel hvm hd
  have hpp : pbestPanics st.sw.pbest (movedPop P f repair draws st.sw g) = false :=
    pbestPanics_false _ _ (fun b h => (hok.pbOk b h).2) (fun c h => (hpopGood c h).2)
  have hgp : gbestPanics (some g) (movedPop P f repair draws st.sw g) = false := by
    simp only [gbestPanics, Bool.or_eq_false_iff, List.any_eq_false, Bool.not_eq_true', Bool.and_eq_false_iff]
    refine ⟨fun x hx => by simp [(hpopGood x hx).2], Or.inr (by simp [hgood.2])⟩
  have hpb' := (gbest_eq_min_pbest (F := F) [] { st.sw with xs := movedPop P f repair draws st.sw g }).2
    ⟨g, hg, hgin, hgle⟩ (by simp [hpopLen, hok.lenP])
  refine ⟨g, ?_, hpopLen, ?_⟩
  · simp only [movedPop, List.map_map] at hpp hgp
    simp only [passBody, hvel, passResult, movedPop, List.map_map, evaluate, inertiaStep, pbestStep,
      gbestStep]
    cases hi : P.inertia
    · simp only [hpp, hg, hgp, Bool.false_eq_true, if_false]
    · obtain ⟨p, hp⟩ := hprog hi
      simp only [hp, hpp, hg, hgp, Bool.false_eq_true, if_false, if_true]
  · exact ⟨(lv.trans hok.lenV).trans hpopLen.symm, (pbestUpd_length _ _).trans (hok.lenP.trans hpopLen.symm),
      hpopGood, dv, hclamp, fun q hq => (pbestUpd_mem _ _ q hq).elim (hok.pbOk q) (hpopGood q), hpb'⟩

end pass

/-- What holds at every pass boundary of a PSO loop over `N` particles of dimension `d`. -/
structure RunInv (d : Nat) (cast : Nat → F) (P : Params F) (n : Nat) (w0 : F) (pb0 : List (Part F)) (N : Nat)
    (st : RunSt F) : Prop where
  ok : SwarmOk d P.vmax st.sw
  size : st.sw.xs.length = N
  weight : st.sw.w = wAt cast P n w0 st.lv.iters
  wlogOk : ∀ e ∈ st.wlog, e.2 = wAt cast P n w0 e.1
  pbHist : st.sw.pbest = pbestRun pb0 st.hist
  histLen : ∀ h ∈ st.hist, h.length = N

theorem loopGo_inv (d : Nat) (cast : Nat → F) (P : Params F) (n : Nat) (w0 : F) (pb0 : List (Part F)) (N : Nat)
    (f : List F → F) (repair : List F → List F) (c : Cond) (draws : Nat → List (List (F × F)))
    (hrep : ∀ l, (repair l).length = l.length) (hvm : 0 ≤ P.vmax)
    (hc : P.inertia = true → c.lastIterBound = some n)
    (hd : ∀ j, (draws j).length = N ∧ ∀ r ∈ draws j, r.length = d) :
    ∀ (fuel : Nat) (st : RunSt F), RunInv d cast P n w0 pb0 N st →
      (loopGo cast P f repair c draws fuel st).1 = .ok ∧
      RunInv d cast P n w0 pb0 N (loopGo cast P f repair c draws fuel st).2 := by
  intro fuel
  induction fuel with
  | zero => intro st h; exact ⟨rfl, h⟩
  | succ fuel ih =>
    intro st h
    obtain ⟨fi, -, hprogEq⟩ := evalCond_spec cast c st.lv
    have h1 : RunInv d cast P n w0 pb0 N { st with lv := (evalCond cast c st.lv).2 } :=
      ⟨h.ok, h.size, by simp only [fi]; exact h.weight, h.wlogOk, h.pbHist, h.histLen⟩
    simp only [loopGo]
    by_cases hb : (evalCond cast c st.lv).1 = true
    · simp only [hb, if_true]
      have hprog : P.inertia = true → ∃ p, (evalCond cast c st.lv).2.progIter = some p := by
        intro hi; rw [hprogEq, hc hi]; exact ⟨_, rfl⟩
      obtain ⟨g, hpass, hlen, hok'⟩ := passBody_ok P f repair (draws (evalCond cast c st.lv).2.iters) d hrep hvm
        { st with lv := (evalCond cast c st.lv).2 } h1.ok
        ⟨by rw [(hd _).1, h1.ok.lenV, h1.size], fun k v r hv hr => by
          rw [(hd _).2 r (List.mem_of_getElem? hr), h1.ok.vsDim v (List.mem_of_getElem? hv)]⟩ hprog
      rw [hpass]
      simp only
      apply ih
      refine ⟨hok', hlen.trans h.size, ?_, List.forall_mem_cons.mpr ⟨by rw [fi]; exact h.weight, h.wlogOk⟩, ?_,
        List.forall_mem_append.mpr ⟨h.histLen, List.forall_mem_singleton.mpr (hlen.trans h.size)⟩⟩
      · simp only [passResult, fi, wAt]
        by_cases hi : P.inertia = true
        · simp only [hi, if_true, hprogEq, hc hi]
        · have hi' : P.inertia = false := by simpa using hi
          simp only [hi', Bool.false_eq_true, if_false]
          rw [h.weight, wAt_no_inertia cast P n w0 hi']
      · simp only [passResult]
        rw [pbestRun_append, ← h.pbHist]
    · have hb' : (evalCond cast c st.lv).1 = false := by simpa using hb
      simp only [hb', Bool.false_eq_true, if_false]
      exact ⟨trivial, h1⟩

end MahfModel.Pso
