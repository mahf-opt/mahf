/- C08 — a completion order read slot by slot (`getElem?_evalPar`) and exactly when it reproduces the sequential
evaluation (`evalPar_eq_iff`); run states that agree up to the order of the ghost call record (`SameUpToCallOrder.elim`,
`runPar_rel`); the recursions of child seeds, of the `Random` wrapper and of `jobGenerator` in closed form; a split tree
and `par_chunks_mut` tile the slice (`Split.blocks_tile`, `chunks_prefix`). Core only. -/
import MahfModel.Model.Determinism
import MahfModel.Proofs.ListIndex
namespace MahfModel.Determinism

theorem modifyAt_eq_modify {α : Type} (g : α → α) (l : List α) (i : Nat) : modifyAt g l i = l.modify i g := by
  induction l generalizing i with
  | nil => cases i <;> rfl
  | cons x xs ih => cases i <;> simp [modifyAt, ih]

theorem getElem?_modifyAt {α : Type} (g : α → α) (l : List α) (i j : Nat) :
    (modifyAt g l i)[j]? = if i = j then l[j]?.map g else l[j]? := by
  rw [modifyAt_eq_modify, List.getElem?_modify]
  split
  · rfl
  · exact id_map' _

theorem length_modifyAt {α : Type} (g : α → α) (l : List α) (i : Nat) : (modifyAt g l i).length = l.length := by
  rw [modifyAt_eq_modify, List.length_modify]

theorem getElem?_foldl_modifyAt {α : Type} (g : α → α) (hg : ∀ x, g (g x) = g x) (sched : List Nat)
    (l : List α) (j : Nat) :
    (sched.foldl (modifyAt g) l)[j]? = if j ∈ sched then l[j]?.map g else l[j]? := by
  induction sched generalizing l with
  | nil => simp
  | cons i is ih =>
    simp only [List.foldl_cons, ih, getElem?_modifyAt, List.mem_cons]
    by_cases hij : i = j
    · subst hij
      simp only [if_true, true_or]
      cases h : l[i]? with
      | none => simp
      | some x => simp [hg]
    · have hji : ¬ j = i := fun h => hij h.symm
      simp [hij, hji]

theorem getElem?_evalPar {S O : Type} (f : S → O) (pop : List (Ind S O)) (sched : List Nat) (j : Nat) :
    (evalPar f pop sched)[j]? = if j ∈ sched then pop[j]?.map (evalInd f) else pop[j]? :=
  getElem?_foldl_modifyAt (evalInd f) (fun _ => rfl) sched pop j

theorem evalPar_eq_iff {S O : Type} (f : S → O) (pop : List (Ind S O)) (sched : List Nat) :
    evalPar f pop sched = evalSeq f pop ↔
      ∀ j (h : j < pop.length), j ∈ sched ∨ pop[j].obj = some (f pop[j].sol) := by
  have slot : ∀ j (h : j < pop.length), (evalPar f pop sched)[j]? = (evalSeq f pop)[j]? ↔
      (j ∈ sched ∨ pop[j].obj = some (f pop[j].sol)) := fun j h => by
    rw [getElem?_evalPar, evalSeq, List.getElem?_map, List.getElem?_eq_getElem h]
    by_cases hm : j ∈ sched
    · simp [hm]
    · obtain ⟨sol, obj⟩ := pop[j]
      simp [hm, evalInd]
  constructor
  · exact fun he j h => (slot j h).1 (by rw [he])
  · refine fun hall => List.ext_getElem? fun j => ?_
    by_cases h : j < pop.length
    · exact (slot j h).2 (hall j h)
    · rw [getElem?_evalPar, evalSeq, List.getElem?_map, List.getElem?_eq_none (by omega)]
      simp

theorem evalPar_eq {S O : Type} (f : S → O) (pop : List (Ind S O)) (sched : List Nat)
    (h : sched.Perm (List.range pop.length)) : evalPar f pop sched = evalSeq f pop :=
  (evalPar_eq_iff f pop sched).2 fun _ hj => Or.inl (h.mem_iff.2 (List.mem_range.2 hj))

theorem SameUpToCallOrder.elim {a b : RunSt} (h : SameUpToCallOrder a b) :
    ∃ c, a = { b with calls := c } ∧ c.Perm b.calls := by
  obtain ⟨st, rng, ev, be, lg, ca⟩ := a
  obtain ⟨h1, h2, h3, h4, h5, h6⟩ := h
  simp only at h1 h2 h3 h4 h5 h6
  subst h1 h2 h3 h4 h5
  exact ⟨ca, rfl, h6⟩

theorem SameUpToCallOrder.symm {a b : RunSt} (h : SameUpToCallOrder a b) : SameUpToCallOrder b a :=
  ⟨h.1.symm, h.2.1.symm, h.2.2.1.symm, h.2.2.2.1.symm, h.2.2.2.2.1.symm, h.2.2.2.2.2.symm⟩

theorem SameUpToCallOrder.trans {a b c : RunSt} (h : SameUpToCallOrder a b) (g : SameUpToCallOrder b c) :
    SameUpToCallOrder a c :=
  ⟨h.1.trans g.1, h.2.1.trans g.2.1, h.2.2.1.trans g.2.2.1, h.2.2.2.1.trans g.2.2.2.1,
   h.2.2.2.2.1.trans g.2.2.2.2.1, h.2.2.2.2.2.trans g.2.2.2.2.2⟩

/-- No step other than evaluation reads or writes the ghost field. -/
theorem stepOther_calls (stream : Nat → Nat) (op : Op) (s : RunSt) (c : List Nat) :
    stepOther stream op { s with calls := c } = { stepOther stream op s with calls := c } ∧
    (stepOther stream op s).calls = s.calls := by
  cases op
  case merge => obtain ⟨_ | ⟨t, _ | ⟨u, r⟩⟩, _, _, _, _, _⟩ := s <;> exact ⟨rfl, rfl⟩
  all_goals exact ⟨rfl, rfl⟩

theorem stepOther_rel (stream : Nat → Nat) (op : Op) (a b : RunSt) (h : SameUpToCallOrder a b) :
    SameUpToCallOrder (stepOther stream op a) (stepOther stream op b) := by
  obtain ⟨c, rfl, h6⟩ := h.elim
  rw [(stepOther_calls stream op b c).1]
  exact ⟨rfl, rfl, rfl, rfl, rfl, (stepOther_calls stream op b c).2 ▸ h6⟩

theorem evalStep_rel (f : Nat → Nat) (sch : List Nat) (a b : RunSt) (h : SameUpToCallOrder a b)
    (hs : sch.Perm (List.range (cur b).length)) :
    SameUpToCallOrder (evalStepPar f sch a) (evalStepSeq f b) := by
  obtain ⟨c, rfl, h6⟩ := h.elim
  exact ⟨congrArg (· :: _) (evalPar_eq f (cur b) sch hs), rfl, rfl, rfl, rfl,
    h6.append (perm_filterMap_getElem?_map _ hs)⟩

theorem evalStepSeq_rel (f : Nat → Nat) (a b : RunSt) (h : SameUpToCallOrder a b) :
    SameUpToCallOrder (evalStepSeq f a) (evalStepSeq f b) := by
  obtain ⟨c, rfl, h6⟩ := h.elim
  exact ⟨rfl, rfl, rfl, rfl, rfl, h6.append_right _⟩

theorem runPar_rel (f : Nat → Nat) (stream : Nat → Nat) (ops : List Op) :
    ∀ (schs : List (List Nat)) (a b : RunSt), SameUpToCallOrder a b → Legal f stream ops schs b →
      SameUpToCallOrder (runPar f stream ops schs a) (runSeq f stream ops b) := by
  induction ops with
  | nil => intro schs a b h _; cases schs <;> exact h
  | cons op ops ih =>
    intro schs a b h hl
    cases op
    case eval =>
      cases schs with
      | nil => exact hl.elim
      | cons sch schs => exact ih _ _ _ (evalStep_rel f sch a b h hl.1) hl.2
    all_goals exact ih _ _ _ (stepOther_rel stream _ a b h) hl

theorem childSeeds_eq (d : Nat → Nat) (k : Nat) (r : Rng) :
    childSeeds d k r = (List.range k).map (fun i => d (r.stream (r.pos + i))) := by
  induction k generalizing r with
  | zero => rfl
  | succ k ih =>
    simp only [childSeeds, Rng.next, ih, List.range_succ_eq_map, List.map_cons, List.map_map]
    simp only [Nat.add_zero, List.cons.injEq, true_and]
    apply List.map_congr_left
    intro i _
    simp [Nat.add_assoc, Nat.add_comm 1 i]

theorem children_eq (ctor : Nat → Nat → Nat) (d : Nat → Nat) (k : Nat) (r : Rng) :
    (children ctor d k r).1 = (childSeeds d k r).map (mkRng ctor) ∧
    (children ctor d k r).2 = { r with pos := r.pos + k } := by
  induction k generalizing r with
  | zero => exact ⟨rfl, rfl⟩
  | succ k ih =>
    obtain ⟨h1, h2⟩ := ih r.next.2
    simp only [children, childSeeds, List.map_cons]
    refine ⟨by rw [h1], ?_⟩
    rw [h2]
    simp [Rng.next, Nat.add_assoc, Nat.add_comm 1 k]

theorem Random.run_eq {B : Backend} (script : List Draw) (r : Random B) :
    r.run script = B.run script r.inner := by
  induction script generalizing r with
  | nil => rfl
  | cons d ds ih => simp only [Random.run, Backend.run, Random.draw, ih]

theorem Random.nthChild_eq {B : Backend} (d : Nat → Nat) (i : Nat) (r : Random B) :
    Random.nthChild d i r = Random.withRng B (d (B.nthWord i r.inner)) := by
  induction i generalizing r with
  | zero => rfl
  | succ i ih => simp only [Random.nthChild, Backend.nthWord, ih, Random.child]

/-- Deriving children advances the parent by exactly the words handed out and nothing else. -/
theorem Random.child_parent {B : Backend} (d : Nat → Nat) (r : Random B) :
    (r.child d).2.cfgSeed = r.cfgSeed ∧ (r.child d).2.inner = (B.nextU64 r.inner).2 := ⟨rfl, rfl⟩

theorem ctr_first_word (a : Nat) (ha : a < 2 ^ 64) : ctr.nthWord 0 (ctr.seedFrom a) = a := by
  simp only [Backend.nthWord, ctr]
  exact Nat.mod_eq_of_lt ha

theorem mem_jobs (runs nprob r p : Nat) : (r, p) ∈ jobs runs nprob ↔ r < runs ∧ p < nprob := by
  simp [jobs, List.mem_flatMap, List.mem_map, List.mem_range]

theorem jobGenerator_eq {G : Type} (newG : Nat → G) (setup : Option G → Except Unit (Option G)) (dflt : G) (run : Nat) :
    jobGenerator newG setup dflt run = (setup (some (newG run))).map (·.getD dflt) := by
  unfold jobGenerator optimizeWithG jobInit
  cases setup (some (newG run)) with
  | error e => rfl
  | ok o => cases o <;> rfl

/-- A split tree divides its block without remainder and in order, whatever its shape. -/
theorem Split.blocks_tile (t : Split) (lo len : Nat) :
    (t.blocks lo len).flatMap blockIdx = List.range' lo len := by
  induction t generalizing lo len with
  | leaf => simp [Split.blocks, blockIdx]
  | node k l r ihl ihr =>
    rw [Split.blocks, List.flatMap_append, ihl, ihr, List.range'_append_1,
      Nat.add_sub_cancel' (Nat.min_le_right k len)]

/-- The first `k` blocks of `par_chunks_mut(size)` cover the first `min (k * size) n` slots (blocks
behind the end of the slice are empty). -/
theorem chunks_prefix (size n k : Nat) :
    ((List.range k).map fun c => (c * size, min size (n - c * size))).flatMap blockIdx
      = List.range (min (k * size) n) := by
  induction k with
  | zero => simp
  | succ k ih =>
    rw [List.range_succ, List.map_append, List.flatMap_append, ih, Nat.succ_mul]
    simp only [List.map_cons, List.map_nil, List.flatMap_cons, List.flatMap_nil, List.append_nil, blockIdx,
      List.range_eq_range']
    generalize k * size = a
    rcases Nat.le_total a n with h | h
    · rw [Nat.min_eq_left h]
      have := @List.range'_append_1 0 a (min size (n - a))
      rw [Nat.zero_add] at this
      rw [this, ← Nat.add_min_add_left, Nat.add_sub_cancel' h]
    · rw [Nat.min_eq_right h, Nat.sub_eq_zero_of_le h, Nat.min_zero, List.range'_zero, List.append_nil,
        Nat.min_eq_right (Nat.le_add_right_of_le h)]

theorem chunksExact_cover (size n : Nat) :
    (chunksExact size n).flatMap blockIdx = List.range (n / size * size) := by
  have h := chunks_prefix size (n / size * size) (n / size)
  rw [Nat.min_self] at h
  rw [← h, chunksExact]
  congr 1
  refine List.map_congr_left fun c hc => ?_
  rw [← Nat.sub_mul, Nat.min_eq_left (Nat.le_mul_of_pos_left _ (Nat.sub_pos_of_lt (List.mem_range.1 hc)))]

theorem chunks_tile (size n : Nat) (hs : 0 < size) :
    (chunks size n).flatMap blockIdx = List.range n := by
  rw [chunks, chunks_prefix, Nat.min_eq_right]
  have := Nat.lt_div_mul_add (a := n + size - 1) hs
  omega

/-- The driver's legality check of a witness schedule is sound. -/
theorem legalSched_sound (sched : List Nat) (n : Nat) (h : legalSched sched n = true) :
    sched.Perm (List.range n) := by
  unfold legalSched at h
  have he : sched.mergeSort (fun a b => decide (a ≤ b)) = List.range n := by simpa using h
  exact he ▸ (List.mergeSort_perm sched _).symm

end MahfModel.Determinism
