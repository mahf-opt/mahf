/- C02: every public entry point of the multi-borrow (`Model/BorrowMulti.lean`) answers `tryGetMultipleMut` (`askVia_eq`) and
is the base operation `Via.rop` run under `parent_mut()^d` (`step_rop`, `stepVia_under`, `specVia_under`), hence refines the
stack of maps and keeps keys unique (`stepVia_refines`, `stepVia_nodupKeys`); the machine with these requests keeps `FlagInv`
and is the base machine on histories without them (`xmstep_inv`, `xmrun_base`). -/
import MahfModel.Model.BorrowMulti
import MahfModel.Proofs.C02
namespace MahfModel.BorrowMulti
open MahfModel.Registry MahfModel.Borrow

/-- The registry front-end of the base model is the trait method (`T::try_get_mut(self)`). -/
theorem tuple_eq_base (r : Reg) (ks : List Key) : tupleTryGetMut r ks = tryGetMultipleMut r ks := rfl

/-- Every entry point answers `try_get_multiple_mut`; the panicking one turns its errors into a panic. -/
theorem askVia_eq (via : Via) (r : Reg) (ks : List Key) :
    askVia via r ks = match tryGetMultipleMut r ks with
      | .ok cs => .refs cs
      | .error e => if via = .regP then .panic else .err e := by
  cases via <;> simp only [askVia, regGetMultipleMut, regTryGetMultipleMut, tuple_eq_base] <;>
    cases tryGetMultipleMut r ks <;> rfl

theorem askVia_refs_iff (via : Via) (r : Reg) (ks : List Key) (cs : List (Nat × Key)) :
    askVia via r ks = .refs cs ↔ tryGetMultipleMut r ks = .ok cs := by
  rw [askVia_eq]
  cases tryGetMultipleMut r ks with
  | ok cs' => exact ⟨fun h => by cases h; rfl, fun h => by cases h; rfl⟩
  | error e => exact ⟨fun h => (by dsimp only at h; split at h <;> cases h), fun h => nomatch h⟩

theorem nodup_false_distinct (ks : List Key) (h : ¬ ks.Nodup) : distinct ks = false :=
  distinct_eq_false ks h

/-- The registry operation of the base model an entry point corresponds to. -/
def Via.rop (via : Via) (ks : List Key) (d : Nat) : ROp :=
  match via with
  | .regP => .multiP ks d
  | _ => .multi ks d

/-- The request an entry point stands for, as a step of the base model. -/
theorem step_rop (via : Via) (p : Reg) (ks : List Key) (d : Nat) :
    step p (via.rop ks d) = match askVia via p ks with
      | .refs cs => (writeAll p cs d, .vals (cs.map fun c => ((cellAt p c.1 c.2).map (·.val)).getD 0))
      | .err e => (p, .err e)
      | .panic => (p, .panic) := by
  rw [askVia_eq]
  cases via <;> simp only [Via.rop, step] <;> cases tryGetMultipleMut p ks <;> rfl

theorem stepVia_under (r : Reg) (q : Req) (hd : q.dist < r.length) :
    stepVia r q = under r q.dist (fun p => step p (q.via.rop q.ks q.d)) := by
  have htd : r.take q.dist ++ r.drop q.dist = r := List.take_append_drop q.dist r
  simp only [stepVia, parentN, hd, if_true, under, step_rop]
  cases askVia q.via (r.drop q.dist) q.ks <;> simp only [htd]

theorem stepVia_noParent (r : Reg) (q : Req) (hd : ¬ q.dist < r.length) : stepVia r q = (r, .noParent) := by
  simp [stepVia, parentN, hd]

theorem specVia_under (sp : Spec) (q : Req) (hd : q.dist < sp.length) :
    specVia sp q =
      ((sp.take q.dist ++ (specStep (sp.drop q.dist) (q.via.rop q.ks q.d)).1),
        (specStep (sp.drop q.dist) (q.via.rop q.ks q.d)).2) := by
  obtain ⟨via, dist, ks, d⟩ := q
  simp only at hd
  have htd : sp.take dist ++ sp.drop dist = sp := List.take_append_drop dist sp
  simp only [specVia, hd, if_true]
  by_cases hn : ks.Nodup
  · by_cases ha : ks.all (fun k => (Spec.lookup (sp.drop dist) k).isSome) = true
    · cases via <;> simp [Via.rop, specStep, hn, ha]
    · cases via <;> simp [Via.rop, specStep, hn, ha, refusal, htd]
  · cases via <;> simp [Via.rop, specStep, hn, refusal, htd]

theorem stepVia_refines (r : Reg) (q : Req) (h : Inv r) :
    Inv (stepVia r q).1 ∧ (stepVia r q).2 = (specVia (abs r) q).2 ∧ abs (stepVia r q).1 = (specVia (abs r) q).1 := by
  by_cases hd : q.dist < r.length
  · obtain ⟨hi1, hi2, hi3⟩ := step_refines (r.drop q.dist) (q.via.rop q.ks q.d) (inv_drop r q.dist h hd)
    rw [abs_drop] at hi2 hi3
    rw [stepVia_under r q hd, specVia_under (abs r) q (by rw [abs_length]; exact hd)]
    exact ⟨inv_under r q.dist _ h hi1, hi2, by rw [abs_under]; exact congrArg _ hi3⟩
  · rw [stepVia_noParent r q hd]
    simp [specVia, hd, h]

theorem stepVia_nodupKeys (r : Reg) (q : Req) (hn : nodupKeys r) : nodupKeys (stepVia r q).1 := by
  by_cases hd : q.dist < r.length
  · rw [stepVia_under r q hd]
    exact nodupKeys_under r q.dist _ hn (step_nodupKeys _ _ (nodupKeys_drop r q.dist hn))
  · rw [stepVia_noParent r q hd]; exact hn

theorem xmstep_inv (m : M) (op : XOp) (h : FlagInv m) : FlagInv (xmstep m op).1 := by
  cases op with
  | base o => exact mstep_inv m o h
  | multiVia q =>
    simp only [xmstep]
    split
    · rename_i hg
      exact h.exclusive m hg _ (fun hI => ⟨(stepVia_refines m.reg q hI).1, stepVia_nodupKeys m.reg q h.nk⟩)
    · exact h

theorem xmrun_inv (m : M) (ops : List XOp) (h : FlagInv m) : FlagInv (xmrun m ops).1 := by
  induction ops generalizing m with
  | nil => exact h
  | cons op ops ih => simp only [xmrun]; exact ih _ (xmstep_inv m op h)

theorem xmrun_base (m : M) (ops : List MOp) : xmrun m (ops.map .base) = mrun m ops := by
  induction ops generalizing m with
  | nil => rfl
  | cons op ops ih => simp only [List.map_cons, xmrun, xmstep, mrun, ih]

theorem xsrun_base (m : SM) (ops : List MOp) : xsrun m (ops.map .base) = srun m ops := by
  induction ops generalizing m with
  | nil => rfl
  | cons op ops ih => simp only [List.map_cons, xsrun, xsstep, srun, ih]

end MahfModel.BorrowMulti
