/- C01: equations of the registry interpreters `step` and `specStep`. -/
import MahfModel.Model.Registry
namespace MahfModel.Registry

theorem step_push (r : Reg) : step r .push = (intoChild r, .ok) := by simp only [step]
theorem specStep_push (sp : Spec) : specStep sp .push = (PMap.empty :: sp, .ok) := by simp only [specStep]

end MahfModel.Registry
