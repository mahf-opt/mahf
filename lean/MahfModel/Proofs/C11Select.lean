/- C11: `best`, `bestAt` and the tournament rounds (one round is `best` among the competitors: `tournamentRound_eq`;
the rounds position by position: `tournamentRounds_spec`); the `select` function of every operator — its defining equation,
and what an `Ok` result consists of: members of the source, the source read at the witness indices, the requested number,
blocks of one length for the DE selections — and `ErrIff`, the form in which `C11Range` and `C11Err` say when an operator
answers `Err`.  Nothing here uses a law of the carrier, so everything holds for any carrier with the operations of the
model's signature. -/
import MahfModel.Proofs.C11
namespace MahfModel.Selection

/-! ### `bestAt`, `best` and tournament rounds -/

section best
variable {F : Type}

theorem bestAt_of_evaluated {pop : Pop F} (hev : ∀ x ∈ pop, x.obj.isSome) (i : Nat) :
    bestAt pop i = .ok pop[i]? := by
  obtain ⟨ks, hks⟩ := withKeys_of_evaluated hev
  simp only [bestAt, hks]

theorem bestAt_some {pop : Pop F} {i : Nat} {b : Ind F} (h : bestAt pop i = .ok (some b)) : pop[i]? = some b := by
  simp only [bestAt] at h
  cases hk : withKeys pop with
  | none => simp [hk] at h
  | some ks => simp only [hk] at h; injection h with h

theorem bestIdx_spec [LE F] {pop : Pop F} {i : Nat} {b : Ind F} (hb : BestIdx pop i) (h : pop[i]? = some b) :
    ∃ a, b.obj = some a ∧ ∀ x ∈ pop, ∀ c, x.obj = some c → a ≤ c := by
  rcases hb with rfl | ⟨x, a, hx, ha, hmin⟩
  · cases h
  · rw [h] at hx; cases hx
    exact ⟨a, ha, hmin⟩

variable [LT F] [DecidableLT F]

theorem best_eq_some {pop : Pop F} {b : Ind F} (h : best pop = .ok (some b)) :
    ∃ ks m, withKeys pop = some ks ∧ firstMin ks = some m ∧ m.1 = b := by
  simp only [best] at h
  cases hk : withKeys pop with
  | none => simp [hk] at h
  | some ks =>
    simp only [hk] at h
    injection h with h
    cases hm : firstMin ks with
    | none => simp [hm] at h
    | some m => exact ⟨ks, m, rfl, hm, by simpa [hm] using h⟩

theorem mem_of_best_eq {pop : Pop F} {b : Ind F} (h : best pop = .ok (some b)) : b ∈ pop := by
  obtain ⟨ks, m, hk, hm, rfl⟩ := best_eq_some h
  rw [← (withKeys_spec hk).1]
  exact List.mem_map_of_mem (firstMin_mem hm)

theorem best_of_evaluated {pop : Pop F} (hev : ∀ x ∈ pop, x.obj.isSome) :
    ∃ r, best pop = .ok r ∧ (r = none ↔ pop = []) := by
  obtain ⟨ks, hks⟩ := withKeys_of_evaluated hev
  refine ⟨(firstMin ks).map (·.1), by simp only [best, hks], ?_⟩
  rw [Option.map_eq_none_iff, firstMin_eq_none, ← (withKeys_spec hks).1, List.map_eq_nil_iff]

/-- one tournament is `best` among the competitors, with `None` (no competitor) reported as `Err` -/
theorem tournamentRound_eq (pop : Pop F) (c : List Nat) :
    tournamentRound pop c =
      match best (pick pop c) with
      | .error e => .error e
      | .ok none => .error .exec
      | .ok (some w) => .ok w := by
  unfold tournamentRound best
  cases withKeys (pick pop c) with
  | none => rfl
  | some ks => dsimp only; cases firstMin ks <;> rfl

theorem tournamentRound_ok_iff {pop : Pop F} {c : List Nat} {win : Ind F} :
    tournamentRound pop c = .ok win ↔ best (pick pop c) = .ok (some win) := by
  rw [tournamentRound_eq]
  split <;> simp_all

theorem tournamentRounds_spec {pop : Pop F} {ss : List (List Nat)} {sel : Pop F}
    (h : tournamentRounds pop ss = .ok sel) :
    List.Forall₂ (fun c win => tournamentRound pop c = .ok win) ss sel := by
  induction ss generalizing sel with
  | nil => simp [tournamentRounds] at h; subst h; exact List.Forall₂.nil
  | cons c cs ih =>
    simp only [tournamentRounds] at h
    cases hc : tournamentRound pop c with
    | error e => simp [hc] at h
    | ok x =>
      simp only [hc] at h
      cases hcs : tournamentRounds pop cs with
      | error e => simp [hcs] at h
      | ok xs =>
        simp only [hcs] at h
        cases h
        exact List.Forall₂.cons hc (ih hcs)

theorem tournamentRounds_ok_of {pop : Pop F} {ss : List (List Nat)}
    (h : ∀ c ∈ ss, ∃ win, tournamentRound pop c = .ok win) : ∃ sel, tournamentRounds pop ss = .ok sel := by
  induction ss with
  | nil => exact ⟨[], rfl⟩
  | cons c cs ih =>
    obtain ⟨⟨win, hw⟩, hcs⟩ := List.forall_mem_cons.mp h
    obtain ⟨sel, hs⟩ := ih hcs
    exact ⟨win :: sel, by simp [tournamentRounds, hw, hs]⟩

theorem forall₂_exists_left {α β : Type} {R : α → β → Prop} {l1 : List α} {l2 : List β}
    (h : List.Forall₂ R l1 l2) {b : β} (hb : b ∈ l2) : ∃ a ∈ l1, R a b := by
  obtain ⟨i, hi, rfl⟩ := List.getElem_of_mem hb
  have hi' : i < l1.length := h.length_eq ▸ hi
  exact ⟨l1[i], List.getElem_mem hi', h.get hi' hi⟩

theorem tournamentRounds_mem {pop : Pop F} {ss : List (List Nat)} {sel : Pop F}
    (h : tournamentRounds pop ss = .ok sel) : ∀ x ∈ sel, x ∈ pop := by
  intro x hx
  obtain ⟨c, _, hc⟩ := forall₂_exists_left (tournamentRounds_spec h) hx
  exact mem_of_mem_pick (mem_of_best_eq (tournamentRound_ok_iff.mp hc))

end best

section generic
variable {F : Type} [Add F] [Sub F] [Mul F] [Div F] [LT F] [LE F] [DecidableLT F] [DecidableLE F]
  [OfNat F 0] [OfNat F 1]

/-! ### `sample_population_weighted` -/

omit [Sub F] [Mul F] [Div F] [OfNat F 1] in
theorem sampleWeighted_ok {O : Ops F} {pop : Pop F} {ws : List F} {is : List Nat} {sel : Pop F}
    (h : sampleWeighted O pop ws is = .ok sel) : sel = pick pop is := by
  simp only [sampleWeighted] at h
  cases hw : weightedIndexNew O ws with
  | error e => simp [hw] at h
  | ok u => simp [hw] at h; exact h.symm

/-! ### `select`, one equation per operator (`All` and `None` reduce by themselves) -/

theorem select_clone (O : Ops F) (n : Nat) (w : Witness F) (pop : Pop F) :
    select O (.cloneSingle n) w pop = match pop with | [x] => .ok (List.replicate n x) | _ => .error .exec := rfl
theorem select_fullyRandom (O : Ops F) (n : Nat) (is : List Nat) (pop : Pop F) :
    select O (.fullyRandom n) (.idx is) pop =
      if n = 0 then .ok [] else if pop.isEmpty then .error .exec else .ok (pick pop is) := rfl
theorem select_rwor (O : Ops F) (n : Nat) (is : List Nat) (pop : Pop F) :
    select O (.randomWithoutRepetition n) (.idx is) pop =
      if pop.length < n then .error .exec else .ok (pick pop is) := rfl
theorem select_roulette (O : Ops F) (n : Nat) (offset : F) (is : List Nat) (pop : Pop F) :
    select O (.rouletteWheel n offset) (.idx is) pop =
      match objectives pop with
      | none => .error .panic
      | some objs =>
        match proportionalWeights O objs offset false with
        | .error e => .error e
        | .ok none => .error .exec
        | .ok (some ws) => sampleWeighted O pop ws is := rfl
theorem select_sus (O : Ops F) (n : Nat) (offset u : F) (pop : Pop F) :
    select O (.sus n offset) (.draw u) pop =
      match objectives pop with
      | none => .error .panic
      | some objs =>
        match proportionalWeights O objs offset false with
        | .error e => .error e
        | .ok none => .error .exec
        | .ok (some ws) =>
          match susIndices O ws n u with
          | .error e => .error e
          | .ok is => .ok (pick pop is) := rfl
theorem select_tournament (O : Ops F) (n size : Nat) (ss : List (List Nat)) (pop : Pop F) :
    select O (.tournament n size) (.sets ss) pop =
      if pop.length < size then .error .exec else tournamentRounds pop ss := rfl
theorem select_linearRank (O : Ops F) (n : Nat) (is : List Nat) (pop : Pop F) :
    select O (.linearRank n) (.idx is) pop =
      match objectives pop with
      | none => .error .panic
      | some objs =>
        if (linearRankWeights (reverseRank objs)).isEmpty then .error .exec
        else if maxNat (linearRankWeights (reverseRank objs)) = 0 then .error .exec else .ok (pick pop is) := rfl
theorem select_exponentialRank (O : Ops F) (n : Nat) (base : F) (is : List Nat) (pop : Pop F) :
    select O (.exponentialRank n base) (.idx is) pop =
      match objectives pop with
      | none => .error .panic
      | some objs => sampleWeighted O pop (exponentialRankWeights O base (reverseRank objs)) is := rfl
theorem select_deRand (O : Ops F) (y : Nat) (ss : List (List Nat)) (pop : Pop F) :
    select O (.deRand y) (.sets ss) pop =
      if pop.length < 2 * y + 1 then .error .exec else .ok (ss.flatMap fun s => pick pop s) := rfl
theorem select_deBest (O : Ops F) (y bi : Nat) (ss : List (List Nat)) (pop : Pop F) :
    select O (.deBest y) (.setsBest bi ss) pop =
      if pop.length < 2 * y then .error .exec else
      match bestAt pop bi with
      | .error e => .error e
      | .ok none => .error .exec
      | .ok (some b) => .ok (ss.flatMap fun s => b :: pick pop s) := rfl
theorem select_deCurrentToBest (O : Ops F) (y bi : Nat) (ss : List (List Nat)) (pop : Pop F) :
    select O (.deCurrentToBest y) (.setsBest bi ss) pop =
      match bestAt pop bi with
      | .error e => .error e
      | .ok none => .error .exec
      | .ok (some b) =>
        if pop.any (fun ind => decide ((pop.filter (fun j => !sameInd j ind)).length < 2 * y - 1)) then .error .exec
        else .ok ((pop.zip ss).flatMap fun (ind, s) => ind :: b :: pick (pop.filter (fun j => !sameInd j ind)) s) := rfl
theorem select_iwo (O : Ops F) (a b : Nat) (w : Witness F) (pop : Pop F) :
    select O (.iwo a b) w pop =
      if b < a then .error .exec else
      match pop with
      | [] => .error .exec
      | _ =>
        match objectives pop with
        | none => .error .panic
        | some objs =>
          match objectiveBounds objs with
          | none => .error .exec
          | some (worst, bst) =>
            if !O.fin worst then .error .exec
            else .ok ((pop.zip objs).flatMap fun (ind, o) => List.replicate (iwoCount O a b worst bst o) ind) := rfl

/-! ### members -/

theorem select_mem (O : Ops F) (op : Op F) (w : Witness F) (pop sel : Pop F)
    (h : select O op w pop = .ok sel) : ∀ x ∈ sel, x ∈ pop := by
  -- one split of `select` (rewriting with the twelve equations instead is slower to check); cases in match order
  unfold select at h
  split at h
  -- All
  · cases h; exact fun x hx => hx
  -- None
  · cases h; simp
  -- CloneSingle
  · split at h
    · cases h
      intro x hx; rw [List.eq_of_mem_replicate hx]; simp
    · cases h
  -- FullyRandom
  · split_ifs at h
    · cases h; simp
    · cases h; exact fun x hx => mem_of_mem_pick hx
  -- RandomWithoutRepetition
  · split_ifs at h
    cases h; exact fun x hx => mem_of_mem_pick hx
  -- RouletteWheel
  · split at h
    · cases h
    · split at h
      · cases h
      · cases h
      · rw [sampleWeighted_ok h]; exact fun x hx => mem_of_mem_pick hx
  -- SUS
  · split at h
    · cases h
    · split at h
      · cases h
      · cases h
      · split at h
        · cases h
        · cases h; exact fun x hx => mem_of_mem_pick hx
  -- Tournament
  · split_ifs at h
    exact tournamentRounds_mem h
  -- LinearRank
  · split at h
    · cases h
    · simp only at h
      split_ifs at h
      cases h; exact fun x hx => mem_of_mem_pick hx
  -- ExponentialRank
  · split at h
    · cases h
    · rw [sampleWeighted_ok h]; exact fun x hx => mem_of_mem_pick hx
  -- DERand
  · split_ifs at h
    cases h
    intro x hx
    obtain ⟨s, _, hs⟩ := List.mem_flatMap.mp hx
    exact mem_of_mem_pick hs
  -- DEBest
  · split_ifs at h
    split at h
    · cases h
    · cases h
    · next b hb =>
      cases h
      intro x hx
      obtain ⟨s, _, hs⟩ := List.mem_flatMap.mp hx
      rcases List.mem_cons.mp hs with rfl | hs
      · exact List.mem_of_getElem? (bestAt_some hb)
      · exact mem_of_mem_pick hs
  -- DECurrentToBest
  · split at h
    · cases h
    · cases h
    · next b hb =>
      split_ifs at h
      cases h
      intro x hx
      obtain ⟨p, hp, hs⟩ := List.mem_flatMap.mp hx
      obtain ⟨ind, s⟩ := p
      simp only at hs
      rcases List.mem_cons.mp hs with rfl | hs
      · exact (List.of_mem_zip hp).1
      · rcases List.mem_cons.mp hs with rfl | hs
        · exact List.mem_of_getElem? (bestAt_some hb)
        · exact (List.mem_filter.mp (mem_of_mem_pick hs)).1
  -- IWO
  · split_ifs at h
    split at h
    · cases h
    · split at h
      · cases h
      · split at h
        · cases h
        · split_ifs at h
          cases h
          intro x hx
          obtain ⟨p, hp, hs⟩ := List.mem_flatMap.mp hx
          obtain ⟨ind, o⟩ := p
          simp only at hs
          rw [List.eq_of_mem_replicate hs]
          exact (List.of_mem_zip hp).1
  -- a witness of the wrong shape
  · cases h

/-! ### index samplers: the source read at the witness indices, in the requested number -/

/-- the number of individuals an operator is asked for (`none`: determined by the fitness values) -/
def requested (op : Op F) (pop : Pop F) : Option Nat :=
  match op with
  | .all => some pop.length
  | .none => some 0
  | .cloneSingle n | .fullyRandom n | .randomWithoutRepetition n | .rouletteWheel n _ | .sus n _
  | .tournament n _ | .linearRank n | .exponentialRank n _ => some n
  | .deRand y | .deBest y | .deCurrentToBest y => some (pop.length * (2 * y + 1))
  | .iwo _ _ => none

theorem select_idx_eq_pick (O : Ops F) (op : Op F) (is : List Nat) (pop sel : Pop F)
    (hl : Legal op pop (.idx is)) (h : select O op (.idx is) pop = .ok sel) :
    sel = pick pop is ∧ inRange pop.length is ∧ some is.length = requested op pop := by
  -- an index list is a legal witness of the five index samplers only
  cases op <;> try exact hl.elim
  case fullyRandom n =>
    rw [select_fullyRandom] at h
    split_ifs at h with h0
    · cases h
      have : is = [] := List.eq_nil_of_length_eq_zero (hl.1.trans h0)
      subst this; exact ⟨rfl, hl.2, by rw [hl.1]; rfl⟩
    · injection h with h; exact ⟨h.symm, hl.2, by rw [hl.1]; rfl⟩
  case randomWithoutRepetition n =>
    rw [select_rwor] at h
    split_ifs at h with hlt
    injection h with h
    exact ⟨h.symm, hl.2.2, by rw [hl.1, Nat.min_eq_left (Nat.le_of_not_lt hlt)]; rfl⟩
  case rouletteWheel n offset =>
    rw [select_roulette] at h
    split at h
    · cases h
    · split at h
      · cases h
      · cases h
      · exact ⟨sampleWeighted_ok h, hl.2, by rw [hl.1]; rfl⟩
  case linearRank n =>
    rw [select_linearRank] at h
    split at h
    · cases h
    · split_ifs at h
      injection h with h; exact ⟨h.symm, hl.2, by rw [hl.1]; rfl⟩
  case exponentialRank n base =>
    rw [select_exponentialRank] at h
    split at h
    · cases h
    · exact ⟨sampleWeighted_ok h, hl.2, by rw [hl.1]; rfl⟩

/-! ### lists of blocks of one length (the DE selections) -/

theorem length_flatten_const {α : Type} (l : List (List α)) (c : Nat) (h : ∀ a ∈ l, a.length = c) :
    l.flatten.length = l.length * c := by
  rw [List.length_flatten, List.eq_replicate_iff.mpr ⟨List.length_map _, List.forall_mem_map.mpr h⟩,
    List.sum_replicate_nat]

theorem length_flatMap_const {α β : Type} (l : List α) (f : α → List β) (c : Nat) (h : ∀ a ∈ l, (f a).length = c) :
    (l.flatMap f).length = l.length * c := by
  rw [List.flatMap_def, ← List.length_map (f := f)]
  exact length_flatten_const _ c (List.forall_mem_map.mpr h)

end generic

/-! ### documented errors: the form of the statements -/

/-- `r` reports `Err` exactly when `c` holds, and never panics: what every documented-error statement says
of a `select` call. -/
def ErrIff {α : Type} (r : Except Err α) (c : Prop) : Prop := (r = .error .exec ↔ c) ∧ r ≠ .error .panic

theorem ErrIff.of_err {α : Type} {c : Prop} (hc : c) : ErrIff (.error .exec : Except Err α) c :=
  ⟨⟨fun _ => hc, fun _ => rfl⟩, nofun⟩

theorem ErrIff.of_ok {α : Type} {c : Prop} (x : α) (hc : ¬ c) : ErrIff (.ok x : Except Err α) c :=
  ⟨⟨nofun, fun h => absurd h hc⟩, nofun⟩

/-- `ensure!(¬c); Ok(x)` -/
theorem ErrIff.ensure {α : Type} (c : Prop) [Decidable c] (x : α) :
    ErrIff (if c then .error .exec else .ok x : Except Err α) c := by
  by_cases h : c
  · rw [if_pos h]; exact .of_err h
  · rw [if_neg h]; exact .of_ok x h

theorem ErrIff.congr {α : Type} {r : Except Err α} {c d : Prop} (h : ErrIff r c) (e : c ↔ d) : ErrIff r d :=
  ⟨h.1.trans e, h.2⟩

theorem ErrIff.ok_of_not {α : Type} {r : Except Err α} {c : Prop} (h : ErrIff r c) (hc : ¬ c) : ∃ x, r = .ok x := by
  cases hr : r with
  | ok x => exact ⟨x, rfl⟩
  | error e =>
    cases e
    · exact absurd (h.1.mp hr) hc
    · exact absurd hr h.2

end MahfModel.Selection
