/- C01: frames for the code-shaped registry, carried over from the stack through the refinement: the columns (`vcol`)
an operation keeps, a block of operations keeps, and leaving a child scope keeps. -/
import MahfModel.Proofs.C01Refine
import MahfModel.Proofs.C01Edit
namespace MahfModel.Registry

/-- The bindings of type `q` in the model registry, scope by scope. -/
def vcol (r : Reg) (q : Key) : List (Option Nat) := col (abs r) q

theorem step_flat (r : Reg) (o : ROp) (h : Inv r) (hflat : o.flat = true) :
    (step r o).1.length = r.length ∧ ∀ q, q ∉ o.keys → vcol (step r o).1 q = vcol r q := by
  have := specStep_flat (abs r) o hflat (abs_ne_nil r h.1)
  rw [← (step_refines r o h).2.2, abs_length, abs_length] at this
  exact this

theorem vcol_put_at (r : Reg) (i : Nat) (k q : Key) (c : Cell) (h : k ≠ q) :
    vcol (modifyAt r i (·.put k c)) q = vcol r q := by
  rw [vcol, abs_put_at]; exact col_modifyAt_set _ i k q _ h

theorem vcol_erase_at (r : Reg) (i : Nat) (k q : Key) (h : k ≠ q) :
    vcol (modifyAt r i (·.erase k)) q = vcol r q := by
  rw [vcol, abs_erase_at]; exact col_modifyAt_set _ i k q _ h

theorem vcol_length (r : Reg) (q : Key) : (vcol r q).length = r.length := by simp [vcol, col]

theorem vcol_cons (s : Scope) (p : Reg) (q : Key) : vcol (s :: p) q = s.view q :: vcol p q := rfl

/-- `find` reads the column of the type only. -/
theorem find_vcol (r : Reg) (q : Key) : find r q = (vcol r q).findIdx? Option.isSome := by
  rw [find, findIdx_eq_findIdx?, vcol, col, abs, List.map_map, List.findIdx?_map]
  exact congrArg (List.findIdx? · r) (funext fun s => Scope.has_eq s q)

theorem find_of_vcol (r r' : Reg) (q : Key) (h : vcol r' q = vcol r q) : find r' q = find r q := by
  rw [find_vcol, find_vcol, h]

theorem has_of_vcol (r : Reg) (j : Nat) (q : Key) : (scopeAt r j).has q = ((vcol r q).getD j none).isSome := by
  rw [Scope.has_eq, ← getD_abs]
  simp only [vcol, col, List.getD_eq_getElem?_getD, List.getElem?_map]
  cases (abs r)[j]? <;> rfl

theorem find_after_erase (r : Reg) (k : Key) (i : Nat) (hf : find r k = some i) :
    find (modifyAt r i (·.erase k)) k = (find (r.drop (i + 1)) k).map (· + (i + 1)) := by
  rw [find_abs, abs_erase_found r k i hf, find_abs, abs_drop]
  exact (updFirst_none_reexposes (abs r) k i (by rw [← find_abs]; exact hf)).2

/-- Whenever an operation of the block names `q`, it is a plain `insert` (which only ever writes the current
scope) or the current (innermost) scope binds `q` at that moment. -/
def shadowedThroughout (q : Key) : Reg → List ROp → Prop
  | _, [] => True
  | r, o :: os =>
    (q ∈ o.keys → containsAtTop r q = true ∨ ∃ v, o = .ins q v) ∧ shadowedThroughout q (step r o).1 os

theorem step_tail_frame (s : Scope) (p : Reg) (o : ROp) (q : Key) (h : Inv (s :: p)) (hl : o.isLocal = true)
    (hq : q ∈ o.keys → containsAtTop (s :: p) q = true ∨ ∃ v, o = .ins q v) :
    (vcol (step (s :: p) o).1 q).tail = vcol p q := by
  simp only [vcol, (step_refines (s :: p) o h).2.2, abs_cons]
  apply specStep_tail_frame s.view (abs p) o q hl
  intro hm
  rcases hq hm with h1 | h1
  · left; simpa [containsAtTop, scopeAt_zero, Scope.has_eq] using h1
  · exact Or.inr h1

theorem run_tail_frame (ops : List ROp) (q : Key) (s : Scope) (p : Reg) (h : Inv (s :: p))
    (hl : ∀ o ∈ ops, o.isLocal = true) (hsh : shadowedThroughout q (s :: p) ops) :
    (vcol (run (s :: p) ops).1 q).tail = vcol p q := by
  induction ops generalizing s p with
  | nil => simp [run, vcol_cons]
  | cons o os ih =>
    simp only [shadowedThroughout] at hsh
    have h1 := (step_refines (s :: p) o h).1
    have ht := step_tail_frame s p o q h (hl o (by simp)) hsh.1
    simp only [run]
    generalize (step (s :: p) o).1 = X at *
    cases X with
    | nil => exact absurd rfl h1.1
    | cons s' p' =>
      simp only [vcol_cons, List.tail_cons] at ht
      rw [← ht]
      exact ih s' p' h1 (fun o' ho' => hl o' (by simp [ho'])) hsh.2

theorem run_keeps {α : Type} (f : Reg → α) (good : ROp → Prop)
    (hstep : ∀ r o, Inv r → good o → f (step r o).1 = f r) (r : Reg) (ops : List ROp) (h : Inv r)
    (hops : ∀ o ∈ ops, good o) : f (run r ops).1 = f r := by
  induction ops generalizing r with
  | nil => rfl
  | cons o os ih =>
    simp only [run]
    rw [ih _ (step_refines r o h).1 (fun o' ho' => hops o' (by simp [ho'])), hstep r o h (hops o (by simp))]

theorem run_length (r : Reg) (ops : List ROp) (h : Inv r) (hflat : ∀ o ∈ ops, o.flat = true) :
    (run r ops).1.length = r.length :=
  run_keeps List.length (·.flat = true) (fun r o h ho => (step_flat r o h ho).1) r ops h hflat

theorem run_frame (r : Reg) (ops : List ROp) (q : Key) (h : Inv r) (hflat : ∀ o ∈ ops, o.flat = true)
    (hq : ∀ o ∈ ops, q ∉ o.keys) : vcol (run r ops).1 q = vcol r q :=
  run_keeps (vcol · q) (fun o => o.flat = true ∧ q ∉ o.keys) (fun r o h ho => (step_flat r o h ho.1).2 q ho.2) r ops h
    (fun o ho => ⟨hflat o ho, hq o ho⟩)

theorem run_inv (r : Reg) (ops : List ROp) (h : Inv r) : Inv (run r ops).1 := by
  induction ops generalizing r with
  | nil => exact h
  | cons o os ih => simp only [run]; exact ih _ (step_refines r o h).1

theorem run_cons_fst (r : Reg) (o : ROp) (os : List ROp) : (run r (o :: os)).1 = (run (step r o).1 os).1 := rfl

theorem run_append_fst (r : Reg) (a b : List ROp) : (run r (a ++ b)).1 = (run (run r a).1 b).1 := by
  induction a generalizing r with
  | nil => rfl
  | cons o os ih => exact ih _

theorem run_child (r : Reg) (ops : List ROp) (h : Inv r) (hflat : ∀ o ∈ ops, o.flat = true) :
    ∃ s s' p', (run (intoChild r) ops).1 = s :: s' :: p' ∧ (s' :: p').length = r.length := by
  have hlen := run_length (intoChild r) ops (inv_intoChild r h) hflat
  have hpos := List.length_pos_iff.mpr h.1
  generalize (run (intoChild r) ops).1 = X at hlen
  match X, hlen with
  | s :: s' :: p', hlen => exact ⟨s, s', p', rfl, Nat.succ.inj hlen⟩
  | [_], hlen => exact absurd (Nat.succ.inj hlen) (Nat.ne_of_lt hpos)

/-- A block `pre ++ o :: post` run in a child scope of `r`, where `post` never names `q`: the chain keeps its height
and `q`'s column is the one `o` left. -/
theorem run_child_after (r : Reg) (pre post : List ROp) (o : ROp) (q : Key) (h : Inv r)
    (hpre : ∀ o ∈ pre, o.flat = true) (ho : o.flat = true) (hpost : ∀ o ∈ post, o.flat = true)
    (hq : ∀ o ∈ post, q ∉ o.keys) :
    ∃ s s' p' s1 p1, (run (intoChild r) (pre ++ o :: post)).1 = s :: s' :: p' ∧ (s' :: p').length = r.length ∧
      (run (intoChild r) pre).1 = s1 :: p1 ∧ Inv (s1 :: p1) ∧
      vcol (s :: s' :: p') q = vcol (step (s1 :: p1) o).1 q := by
  have hflat : ∀ o' ∈ pre ++ o :: post, o'.flat = true :=
    List.forall_mem_append.mpr ⟨hpre, List.forall_mem_cons.mpr ⟨ho, hpost⟩⟩
  obtain ⟨s, s', p', hrun, hlen⟩ := run_child r _ h hflat
  have h1 := run_inv (intoChild r) pre (inv_intoChild r h)
  have hfr := run_frame _ post q (step_refines _ o h1).1 hpost hq
  rw [← run_cons_fst, ← run_append_fst, hrun] at hfr
  generalize (run (intoChild r) pre).1 = r1 at h1 hfr
  match r1, h1 with
  | s1 :: p1, h1 => exact ⟨s, s', p', s1, p1, hrun, hlen, rfl, h1, hfr⟩

theorem intoParent_cases (r : Reg) (h : Inv r) :
    (∃ c s p, r = c :: s :: p ∧ intoParent r = (some (s :: p), c) ∧ Inv (s :: p)) ∨
    (∃ c, r = [c] ∧ intoParent r = (none, c)) := by
  obtain ⟨hne, hq⟩ := h
  cases r with
  | nil => exact absurd rfl hne
  | cons c t =>
    cases t with
    | nil => exact Or.inr ⟨c, rfl, rfl⟩
    | cons s p =>
      rw [quiet_cons, Bool.and_eq_true] at hq
      exact Or.inl ⟨c, s, p, rfl, rfl, List.cons_ne_nil _ _, hq.2⟩

/-- Leaving the scope a body ran in (`r2`: what the body left of `intoChild r`): if the body kept the column of `q`, the
parent chain is there and has the column `r` had. -/
theorem intoParent_frame (r r2 : Reg) (q : Key) (hI : Inv r) (i1 : Inv r2) (ih : vcol r2 q = vcol (intoChild r) q) :
    ∃ p child, intoParent r2 = (some p, child) ∧ vcol p q = vcol r q := by
  rcases intoParent_cases _ i1 with ⟨c, s, p, hr, hip, _⟩ | ⟨c, hr, hip⟩ <;> rw [hr] at ih
  · exact ⟨_, _, hip, (List.cons.inj ih).2⟩
  · -- a chain of one registry cannot be the child of `r`
    have hl := congrArg List.length ih
    simp only [vcol_length, intoChild, List.length_cons, List.length_nil] at hl
    exact absurd (List.eq_nil_of_length_eq_zero (Nat.succ.inj hl).symm) hI.1

end MahfModel.Registry
