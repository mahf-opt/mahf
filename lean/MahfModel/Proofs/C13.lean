/- C13: lemmas about the components (the rate gate on a solution and on a population, inversion, differential
   evolution) and their witness predicates as propositions. -/
import MahfModel.Proofs.C13Transloc
namespace MahfModel.Variation
variable {α : Type}

/-! ### the rate gate on one solution -/

theorem gated_length (mask : List Bool) (vals sol : List α) : (gated mask vals sol).length = sol.length := by
  fun_induction gated mask vals sol
  case case1 ih => rw [List.length_cons, List.length_cons, ih]
  case case2 => rfl

theorem gated_all_false (mask : List Bool) (vals sol : List α) (h : mask.all (!·) = true) :
    gated mask vals sol = sol := by
  fun_induction gated mask vals sol
  case case1 m ms v vs x xs ih =>
    rw [List.all_cons, Bool.and_eq_true, Bool.not_eq_true'] at h
    rw [ih h.2, h.1, if_neg Bool.false_ne_true]
  case case2 => rfl

theorem gated_all_true (mask : List Bool) (vals sol : List α) (ha : mask.all id = true)
    (hl : mask.length = vals.length) (hv : vals.length = sol.length) : gated mask vals sol = vals := by
  fun_induction gated mask vals sol
  case case1 m ms v vs x xs ih =>
    simp only [List.all_cons, id, Bool.and_eq_true] at ha
    simp only [List.length_cons, Nat.add_right_cancel_iff] at hl hv
    rw [ih ha.2 hl hv, ha.1, if_pos rfl]
  case case2 mask vals sol hno =>
    match mask, vals, sol with
    | [], [], [] => rfl
    | _ :: _, _ :: _, _ :: _ => exact (hno _ _ _ _ _ _ rfl rfl rfl).elim
    | [], _ :: _, _ | _ :: _, [], _ => cases hl
    | _, _ :: _, [] | _, [], _ :: _ => cases hv

theorem gated_positionwise (mask : List Bool) (vals sol : List α) (i : Nat) :
    (gated mask vals sol)[i]? = sol[i]? ∨ (gated mask vals sol)[i]? = vals[i]? := by
  fun_induction gated mask vals sol generalizing i with
  | case1 m ms v vs x xs ih =>
    cases i with
    | zero =>
      cases m
      · exact Or.inl rfl
      · exact Or.inr rfl
    | succ i => exact ih i
  | case2 => exact Or.inl rfl

/-! ### the rate gate over a population -/

theorem gatedPop_dims (ms : List (List Bool)) (vs pop : List (List α)) :
    (gatedPop ms vs pop).map List.length = pop.map List.length := by
  fun_induction gatedPop ms vs pop
  case case1 ih => rw [List.map_cons, List.map_cons, ih, gated_length]
  case case2 => rfl

theorem gatedPop_length (ms : List (List Bool)) (vs pop : List (List α)) :
    (gatedPop ms vs pop).length = pop.length := by
  simpa only [List.length_map] using congrArg List.length (gatedPop_dims ms vs pop)

section RateZero
variable {F : Type} [LE F] [DecidableLE F] [OfNat F 0] [OfNat F 1]

theorem gatedPop_rate_zero (rate : Param F) (hz : rateIsZero rate = true)
    (ms : List (List Bool)) (vs pop : List (List α)) (h : masksLegal rate ms pop = true) :
    gatedPop ms vs pop = pop := by
  fun_induction gatedPop ms vs pop
  case case1 m ms v vs s ss ih =>
    simp only [masksLegal, maskLegal, hz, Bool.not_true, Bool.false_or, Bool.and_eq_true] at h
    rw [gated_all_false m v s h.1.1.2, ih h.2]
  case case2 => rfl
end RateZero

/-! ### inversion, differential evolution -/

theorem reverseSlice_perm (sol : List α) (s e : Nat) (h1 : s ≤ e) (h2 : e ≤ sol.length) :
    ∃ r, reverseSlice sol s e = some r ∧ r.Perm sol := by
  have : ¬ (e < s ∨ sol.length < e) := by omega
  simp only [reverseSlice, this, if_false]
  refine ⟨_, rfl, ?_⟩
  conv => rhs; rw [← take_slice_drop sol s e h1]
  rw [List.append_assoc]
  exact List.Perm.append_left _ (List.Perm.append_right _ (List.reverse_perm _))

section DE
variable {F : Type} [Add F] [Sub F] [Mul F]

theorem deAdd_length (f : F) (xs as bs : List F) : (deAdd f xs as bs).length = xs.length := by
  fun_induction deAdd f xs as bs
  case case1 ih => rw [List.length_cons, List.length_cons, ih]
  case case2 => rfl

theorem dePairs_length (f : F) (base : List F) (rest : List (List F)) : (dePairs f base rest).length = base.length := by
  fun_induction dePairs f base rest
  case case1 ih => rw [ih, deAdd_length]
  case case2 => rfl

theorem deChunks_spec (f : F) (size : Nat) (hs : 0 < size) (fuel : Nat) (pop : List (List F))
    (h : pop.length / size ≤ fuel) :
    (deChunks f size fuel pop).length = pop.length / size ∧
    ∀ m ∈ deChunks f size fuel pop, ∃ b ∈ pop, m.length = b.length := by
  fun_induction deChunks f size fuel pop
  case case1 => exact ⟨(Nat.le_zero.mp h).symm, fun m hm => nomatch hm⟩
  case case2 pop hlt =>
    exact ⟨(Nat.div_eq_of_lt (hlt.resolve_right (Nat.ne_of_gt hs))).symm, fun m hm => nomatch hm⟩
  case case3 fuel pop hge base remainder htake ih =>
    have hle : size ≤ pop.length := by omega
    have hdiv : pop.length / size = (pop.length - size) / size + 1 := Nat.div_eq_sub_div hs hle
    obtain ⟨ih1, ih2⟩ := ih (by rw [List.length_drop]; omega)
    refine ⟨by rw [List.length_cons, ih1, List.length_drop, hdiv], fun m hm => ?_⟩
    rcases List.mem_cons.mp hm with rfl | hm
    · exact ⟨base, List.mem_of_mem_take (htake ▸ List.mem_cons_self), dePairs_length f base remainder⟩
    · obtain ⟨b, hb, hl⟩ := ih2 m hm
      exact ⟨b, List.mem_of_mem_drop hb, hl⟩
  case case4 fuel pop hge htake =>
    have := congrArg List.length htake
    rw [List.length_take, List.length_nil] at this
    omega

end DE

/-! ### witness predicates -/

theorem nodupNat_iff (l : List Nat) : nodupNat l = true ↔ l.Nodup := by
  induction l with
  | nil => simp [nodupNat]
  | cons a t ih => simp [nodupNat, ih]

theorem allBelow_iff (l : List Nat) (n : Nat) : allBelow l n = true ↔ ∀ i ∈ l, i < n := by
  simp [allBelow]

theorem nPointLegal_cuts {n d : Nat} {cuts : List Nat} (h1 : 1 ≤ n) (h2 : n < d)
    (hc : nPointLegal n d cuts = true) : cuts ≠ [] ∧ cuts.length < d ∧ ∀ x ∈ cuts, x ≤ d := by
  simp only [nPointLegal, Bool.and_eq_true, beq_iff_eq, allBelow_iff] at hc
  obtain ⟨⟨hlen, _⟩, hr⟩ := hc
  rw [Nat.min_eq_left (Nat.le_of_lt h2)] at hlen
  exact ⟨fun h => by rw [h] at hlen; exact absurd hlen.symm (Nat.ne_of_gt h1), hlen ▸ h2,
    fun x hx => Nat.le_of_lt (hr x hx)⟩

end MahfModel.Variation
