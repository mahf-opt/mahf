/- `toB` on the templates as functions of their parameters: component kinds as variables, loops whose invariant is the
entry stack, iterated local search — its tree, and at the end what `predict` says on that tree.

`ilsB_init` and `ils_predict` stand here and not in `Proofs/C16BudgetAll`: the equation lemmas of `binit`, `directB`, …
that they generate are then imported there, which is cheaper to check than generating them in every declaration of that
module that unfolds one of these functions. -/
import MahfModel.Proofs.C16Budget
import MahfModel.Proofs.C16Param
namespace MahfModel.Tpl

/-- A component that the translation to counters maps to a `.leaf` and that leaves a non-empty stack of sizes as it is
(it changes no population size, needs no more than the current population and does not evaluate): templates that
differ in such components only have the same tree with counters. -/
abbrev Keeps (k : LeafKind) : Prop :=
  ∀ (cs : List BCond) (x : Itv) (st : AbsStack), toB (.leaf k 0 0) cs (x :: st) = some (.leaf, x :: st, cs)

/-- An initialiser: pushes a population of exactly `a` and does not evaluate. -/
abbrev Pushes (k : LeafKind) (a : Nat) : Prop :=
  ∀ (cs : List BCond) (st : AbsStack), toB (.leaf k a 0) cs st = some (.leaf, ⟨a, some a⟩ :: st, cs)

/-- The loop case of `toB` is the checked invariant search of the size analysis, on the stack part of the body. -/
theorem toB_loop {body : SComp} {cs cs' : List BCond} {st inv out : AbsStack} {b : BComp}
    (hc : loopCheck (fun s => (toB body cs.tail s).map (·.2.1)) (fun _ => true) st = some inv)
    (hb : toB body cs.tail inv = some (b, out, cs')) :
    toB (.loop body) cs st = some (.loop (cs.headD .opaque) b, inv, cs') := by
  obtain ⟨hi, out', ho, h1, h2, _⟩ := loopCheck_eq_some hc
  rw [hb] at ho
  cases ho
  simp only [toB, hi, hb, h1, h2, Bool.and_self, if_true]

theorem toB_loop_self {body : SComp} {cs cs' : List BCond} {st : AbsStack} {b : BComp}
    (hb : toB body cs.tail st = some (b, st, cs')) :
    toB (.loop body) cs st = some (.loop (cs.headD .opaque) b, st, cs') :=
  toB_loop (loopCheck_self (by rw [hb]; rfl) rfl) hb

section
-- evaluates `toB` on a component sequence; facts about a kind that is a variable are passed with `↓` (before unfolding)
attribute [local simp] sq SComps.ofList l0 evalUpd toB toBs sizeStep opOf astep Itv.exact stackJoin leafB evalLeaf Itv.join
  Itv.hiMax Itv.hiMin Itv.hiAdd Itv.hiLe Itv.mulC Itv.divC Itv.add Itv.capC Itv.meet bsq BComps.ofList stackLe Itv.le

theorem toBTop_evaluated {init : LeafKind} {n : Nat} (hi : Pushes init n)
    {X : SComp} {cs cs' : List BCond} {L : BComp} {inv : AbsStack}
    (hl : toB X cs [⟨n, some n⟩] = some (L, inv, cs')) :
    toBTop (sq ([.leaf init n 0] ++ evalUpd ++ [sq [X]])) cs = some (bsq [.leaf, .eval n, .leaf, bsq [L]]) := by
  simp [toBTop, ↓hi, hl]

theorem lsLoop_toB {gen con : LeafKind} (k : Nat) (cs : List BCond) (st : AbsStack)
    (hg : Keeps gen := by exact fun _ _ _ => rfl) (hc : Keeps con := by exact fun _ _ _ => rfl) :
    toB (lsLoop gen con k) cs (⟨1, some 1⟩ :: st) = some (lsB (cs.headD .opaque) k, ⟨1, some 1⟩ :: st, cs.tail) := by
  have hb : toB (sq ([.leaf .CloneSingle k 0, l0 gen, l0 con] ++ evalUpd ++ [.leaf .MuPlusLambda 1 0, l0 .Logger])) cs.tail
      (⟨1, some 1⟩ :: st) = some (bsq [.leaf, .leaf, .leaf, .eval k, .leaf, .leaf, .leaf], ⟨1, some 1⟩ :: st, cs.tail) := by
    simp [↓hg, ↓hc]
  exact toB_loop_self hb

theorem ils_toB {init pert gen con : LeafKind} (k : Nat) (c ci : BCond)
    (hi : Pushes init 1 := by exact fun _ _ => rfl) (hp : Keeps pert := by exact fun _ _ _ => rfl)
    (hg : Keeps gen := by exact fun _ _ _ => rfl) (hc : Keeps con := by exact fun _ _ _ => rfl) :
    toBTop (ilsS init pert gen con k) [c, ci] = some (ilsB k c ci) := by
  have hin := lsLoop_toB k [ci] [⟨1, some 1⟩] hg hc
  refine toBTop_evaluated hi (toB_loop_self (cs := [c, ci]) (cs' := []) ?_)
  generalize lsLoop gen con k = L at hin ⊢
  simp [↓hp, hin]

end

theorem ilsB_init (k : Nat) (c ci : BCond) (prior : Lvl) : binit (ilsB k c ci) prior = ⟨some 0, some 0⟩ := by
  cases prior
  simp [ilsB, lsB, bsq, BComps.ofList, binit, binits]

theorem ils_predict (k : Nat) (c ci : BCond) (hc : c.static = true) (hci : ci.static = true) (F p0 m : Nat) (prior : Lvl)
    (h0 : firstStop c 1 F 0 (some 1) = some p0) (hm : firstStop ci k F 0 (some 0) = some m) :
    predictRun F (ilsB k c ci) prior = some (⟨some p0, some (1 + p0)⟩, repLog p0 [(1, m)] ++ [(0, p0)]) := by
  simp only [predictRun, ilsB_init]
  simp [ilsB, lsB, bsq, BComps.ofList, predict, predicts, binit, binits, Lvl.empty, directB, directBs, evalsOf, evalsOfL,
    hc, hci, h0, hm, repLog_nil]
end MahfModel.Tpl
