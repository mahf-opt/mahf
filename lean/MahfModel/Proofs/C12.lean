/- Facts about the replacement model: witness permutations; sub-bags as `List.Subperm`, with the check's executable
`subBagB` / `bagDiff` / `permB` against them; `TotalLE` and the order on optional keys; `keepBetter = zipWith better`; the
equations of `replace` and `step`. Then the check's predicate: `noBetterDiscardedB`, `violation`. -/
import MahfModel.Model.Replacement
import MahfModel.Proofs.ListIndex
import MahfModel.Proofs.ListBag
import Mathlib.Order.Defs.PartialOrder
namespace MahfModel.Replacement

theorem permute_perm {α : Type} (l : List α) (w : List Nat) (h : Legal w l.length) :
    (permute l w).Perm l :=
  perm_filterMap_getElem? h

theorem permute_length {α : Type} (l : List α) (w : List Nat) (h : Legal w l.length) :
    (permute l w).length = l.length := (permute_perm l w h).length_eq

theorem permute_take {α : Type} (l : List α) (w : List Nat) (mu : Nat) (h : Legal w l.length) :
    (permute l w).take mu = permute l (w.take mu) := by
  have hlt : ∀ x ∈ w, x < l.length := fun x hx => List.mem_range.1 (h.mem_iff.1 hx)
  unfold permute
  clear h
  induction w generalizing mu with
  | nil => simp
  | cons a w ih =>
    have ha : a < l.length := hlt a List.mem_cons_self
    cases mu with
    | zero => rfl
    | succ mu =>
      simp only [List.filterMap_cons, List.getElem?_eq_getElem ha, List.take_succ_cons]
      rw [ih mu (fun x hx => hlt x (List.mem_cons_of_mem _ hx))]

theorem subBag_iff {α : Type} {r all : List α} : SubBag r all ↔ r.Subperm all := exists_perm_append_iff_subperm

theorem subBag_refl {α : Type} (l : List α) : SubBag l l := subBag_iff.2 (.refl l)

theorem subBag_take_of_perm {α : Type} {s all : List α} (h : s.Perm all) (k : Nat) :
    SubBag (s.take k) all := subBag_iff.2 ((List.take_sublist k s).subperm.trans h.subperm)

theorem subBag_trans {α : Type} {a b c : List α} (h₁ : SubBag a b) (h₂ : SubBag b c) : SubBag a c :=
  subBag_iff.2 ((subBag_iff.1 h₁).trans (subBag_iff.1 h₂))

theorem subBag_append_right {α : Type} {a b : List α} (c : List α) (h : SubBag a b) :
    SubBag (a ++ c) (b ++ c) :=
  subBag_iff.2 ((List.subperm_append_right c).2 (subBag_iff.1 h))

/-! The check's executable bag functions (`subBagB`, `bagDiff`, `permB`) against `SubBag`, `List.diff`, `List.Perm`. -/

theorem subBagB_iff {α : Type} [DecidableEq α] {r all : List α} : subBagB r all = true ↔ SubBag r all := by
  simp only [subBagB, List.all_eq_true, decide_eq_true_eq]
  exact List.subperm_ext_iff.symm.trans subBag_iff.symm

theorem bagDiff_eq_diff {α : Type} [DecidableEq α] (all r : List α) : bagDiff all r = all.diff r :=
  (List.diff_eq_foldl all r).symm

theorem bagDiff_perm {α : Type} [DecidableEq α] (r rest all : List α) (h : (r ++ rest).Perm all) :
    (bagDiff all r).Perm rest :=
  bagDiff_eq_diff all r ▸ perm_diff_of_perm_append h

theorem permB_iff {α : Type} [DecidableEq α] {r r' : List α} : permB r r' = true ↔ r.Perm r' := by
  simp only [permB, Bool.and_eq_true, beq_iff_eq, List.all_eq_true]
  exact ⟨fun ⟨hl, hc⟩ => (List.subperm_ext_iff.2 fun x hx => Nat.le_of_eq (hc x hx)).perm_of_length_le
      (Nat.le_of_eq hl.symm), fun h => ⟨h.length_eq, fun x _ => h.count_eq x⟩⟩

theorem subBagB_perm {α : Type} [DecidableEq α] {r r' : List α} (all : List α) (h : r.Perm r') :
    subBagB r all = subBagB r' all := by
  simp only [subBagB, h.count_eq, h.all_eq]

theorem bagDiff_perm_right {α : Type} [DecidableEq α] {r r' : List α} (all : List α) (h : r.Perm r') :
    bagDiff all r = bagDiff all r' := by
  rw [bagDiff_eq_diff, bagDiff_eq_diff]
  exact h.diff_left all

/-- The order on objective values is total: any two values are comparable.  Together with
`Preorder` this is all the theorems need — *not* antisymmetry: `f64` without NaN is such an order in
which `0.0` and `-0.0` are different values that compare equal. -/
def TotalLE (F : Type) [LE F] : Prop := ∀ a b : F, a ≤ b ∨ b ≤ a

theorem leO_total {F : Type} [LE F] [DecidableLE F] (tot : TotalLE F) (a b : Option F) : (leO a b || leO b a) = true :=
  match a, b with
  | none, _ => rfl
  | some _, none => rfl
  | some x, some y => by
    rw [Bool.or_eq_true]
    exact (tot x y).imp decide_eq_true decide_eq_true

section order
variable {F : Type} [Preorder F] [DecidableLE F]

theorem leO_trans (a b c : Option F) : leO a b = true → leO b c = true → leO a c = true :=
  match a, b, c with
  | none, _, _ => fun _ _ => rfl
  | some _, none, _ => nofun
  | some _, some _, none => fun _ h => nomatch h
  | some _, some _, some _ => fun h₁ h₂ => decide_eq_true (le_trans (of_decide_eq_true h₁) (of_decide_eq_true h₂))

-- kept under the instances the theorems of `Props/C12` are stated with
variable [DecidableLT F] in
set_option linter.unusedSectionVars false in
theorem not_lt_of_le' {a b : F} (h : a ≤ b) : ¬ b < a := not_lt_of_ge h

end order

/-! `KeepBetterAtIndex` is `zipWith` of the pairwise choice; everything about it is read off that. -/

section keepBetter
variable {F : Type} [LT F] [DecidableLT F]

/-- The survivor of one pair (the parent where the code panics). -/
def better (p o : Ind F) : Ind F :=
  match p.obj, o.obj with
  | some a, some b => if b < a then o else p
  | _, _ => p

theorem better_of_some {p o : Ind F} {a b : F} (ha : p.obj = some a) (hb : o.obj = some b) :
    better p o = if b < a then o else p := by
  simp only [better, ha, hb]

theorem better_eq_or (p o : Ind F) : better p o = p ∨ better p o = o := by
  unfold better
  split
  · split
    · exact .inr rfl
    · exact .inl rfl
  · exact .inl rfl

theorem keepBetter_eq_of_ok {ps os r : Pop F} (h : keepBetter ps os = .ok r) :
    r = List.zipWith better ps os := by
  fun_induction keepBetter ps os generalizing r with
  | case1 p ps o os a b hb ha r' hr' ih =>
    cases h
    rw [List.zipWith_cons_cons, better_of_some ha hb, ih hr']
  | case2 => cases h
  | case3 => cases h
  | case4 t x hx =>
    cases h
    match t, x, hx with
    | [], _, _ => rfl
    | _ :: _, [], _ => rfl
    | _ :: _, _ :: _, hx => exact (hx _ _ _ _ rfl rfl).elim

theorem keepBetter_ok {ps os : Pop F} (h : ∀ x ∈ ps ++ os, x.obj.isSome) :
    keepBetter ps os = .ok (List.zipWith better ps os) := by
  suffices ∃ r, keepBetter ps os = .ok r by
    obtain ⟨r, hr⟩ := this
    rw [hr, keepBetter_eq_of_ok hr]
  fun_induction keepBetter ps os with
  | case1 => exact ⟨_, rfl⟩
  | case2 p ps o os a b hb ha e he ih =>
    obtain ⟨r, hr⟩ := ih fun x hx => h x (by
      simp only [List.mem_append, List.mem_cons] at hx ⊢; exact hx.imp .inr .inr)
    rw [hr] at he; cases he
  | case3 p ps o os hno =>
    obtain ⟨a, ha⟩ := Option.isSome_iff_exists.mp (h p (by simp))
    obtain ⟨b, hb⟩ := Option.isSome_iff_exists.mp (h o (by simp))
    exact (hno a b ha hb).elim
  | case4 => exact ⟨_, rfl⟩

theorem zipWith_better_subBag (ps os : Pop F) : SubBag (List.zipWith better ps os) (ps ++ os) := by
  rw [subBag_iff]
  induction ps generalizing os with
  | nil => exact List.nil_subperm
  | cons p ps ih =>
    cases os with
    | nil => exact List.nil_subperm
    | cons o os =>
      rw [List.zipWith_cons_cons]
      -- whichever of the pair is kept, the other one is skipped
      rcases better_eq_or p o with e | e <;> rw [e]
      · exact (List.subperm_cons p).2 (List.perm_middle.subperm_left.2 ((ih os).cons_right o))
      · exact ((List.subperm_cons o).2 ((ih os).cons_right p)).trans
          (List.perm_middle (l₁ := p :: ps)).symm.subperm

theorem keepBetterSpecB_zipWith [DecidableEq F] (ps os : Pop F) (hl : ps.length = os.length) :
    keepBetterSpecB ps os (List.zipWith better ps os) = true := by
  induction ps generalizing os with
  | nil => cases os with
    | nil => rfl
    | cons _ _ => cases hl
  | cons p ps ih =>
    cases os with
    | nil => cases hl
    | cons o os =>
      rw [List.zipWith_cons_cons, keepBetterSpecB, ih os (Nat.succ.inj hl), Bool.and_true]
      split
      · next a b ha hb => exact decide_eq_true (better_of_some ha hb)
      · rfl

end keepBetter

theorem any_isNone_eq_false {F : Type} {l : Pop F} :
    l.any (fun i => i.obj.isNone) = false ↔ ∀ x ∈ l, x.obj.isSome := by
  simp only [List.any_eq_false, Option.isNone_iff_eq_none, ← Option.isSome_iff_ne_none]

section replace
variable {F : Type} [LE F] [DecidableLE F] [LT F] [DecidableLT F]

theorem replace_muPlusLambda (mu : Nat) (w : List Nat) (p o : Pop F)
    (h : (p ++ o).any (fun i => i.obj.isNone) = false) :
    replace (.muPlusLambda mu) w p o = .ok (((permute (p ++ o) w).mergeSort leInd).take mu) := by
  simp only [replace, h, Bool.false_eq_true, and_false, if_false]

theorem replace_keepBetter (w : List Nat) (p o : Pop F) :
    replace .keepBetterAtIndex w p o = if p.length = o.length then keepBetter p o else .error .exec :=
  rfl

theorem step_eq_ok {op : Op} {w : List Nat} {st st' : List (Pop F)} (h : step op w st = (st', .ok)) :
    ∃ o p rest r, st = o :: p :: rest ∧ replace op w p o = .ok r ∧ st' = r :: rest := by
  match st, h with
  | [], h => cases h
  | [_], h => cases h
  | o :: p :: rest, h =>
    dsimp only [step] at h
    cases hr : replace op w p o with
    | error e => rw [hr] at h; cases e <;> cases h
    | ok r => rw [hr] at h; cases h; exact ⟨o, p, rest, r, rfl, hr, rfl⟩

end replace

theorem noBetterDiscardedB_iff {F : Type} [LT F] [DecidableLT F] {kept discarded : Pop F} :
    noBetterDiscardedB kept discarded = true ↔
      ∀ x ∈ kept, ∀ y ∈ discarded, ∀ a b, x.obj = some a → y.obj = some b → ¬ b < a := by
  simp only [noBetterDiscardedB, List.all_eq_true]
  constructor
  · intro H x hx y hy a b ha hb
    simpa [ha, hb] using H x hx y hy
  · intro H x hx y hy
    split
    · next a b ha hb => simpa using H x hx y hy a b ha hb
    · rfl

theorem noBetterDiscardedB_perm {F : Type} [LT F] [DecidableLT F] {k k' d d' : Pop F}
    (hk : k.Perm k') (hd : d.Perm d') : noBetterDiscardedB k d = noBetterDiscardedB k' d' := by
  simp only [noBetterDiscardedB, hk.all_eq, hd.all_eq]

section violation
variable {F : Type} [DecidableEq F] [LT F] [DecidableLT F]

theorem violation_unevaluated (op : Op) (o p : Pop F) (rest stack' : List (Pop F)) (out : Outcome)
    (h : (p ++ o).any (fun i => i.obj.isNone) = true) :
    violation op (o :: p :: rest) stack' out = none :=
  if_pos h

theorem violation_err (o p : Pop F) (rest : List (Pop F))
    (h : (p ++ o).any (fun i => i.obj.isNone) = false) (hl : p.length ≠ o.length) :
    violation .keepBetterAtIndex (o :: p :: rest) rest .err = none := by
  have he : (Op.keepBetterAtIndex == .keepBetterAtIndex && p.length != o.length) = true := by simp [hl]
  dsimp only [violation]
  rw [h, he, if_neg Bool.false_ne_true, Bool.not_true, if_neg Bool.false_ne_true, if_pos rfl]

theorem violation_ok (op : Op) (o p r : Pop F) (rest : List (Pop F))
    (h : (p ++ o).any (fun i => i.obj.isNone) = false)
    (hl : op = .keepBetterAtIndex → p.length = o.length) (hsub : subBagB r (p ++ o) = true) :
    violation op (o :: p :: rest) (r :: rest) .ok =
      match (generalizing := false) op with
      | .discardOffspring => if r = p then none else some "wrong-value"
      | .generational => if r = o then none else some "wrong-value"
      | .merge => if r = p ++ o then none else some "wrong-value"
      | .muPlusLambda mu =>
        if r.length ≠ min mu (p ++ o).length then some "count"
        else if !noBetterDiscardedB r (bagDiff (p ++ o) r) then some "not-best" else none
      | .randomReplacement mu => if r.length ≠ min mu (p ++ o).length then some "count" else none
      | .keepBetterAtIndex => if keepBetterSpecB p o r then none else some "wrong-value" := by
  have he : (op == .keepBetterAtIndex && p.length != o.length) = false := by
    cases op with
    | keepBetterAtIndex => simp [hl rfl]
    | _ => rfl
  -- `dsimp`: `simp only [violation]` is slow to check
  dsimp only [violation]
  rw [h, he, hsub, if_neg Bool.false_ne_true, if_neg Bool.false_ne_true, if_neg (fun h => h rfl),
    Bool.not_true, if_neg Bool.false_ne_true]
  rfl

end violation

end MahfModel.Replacement
