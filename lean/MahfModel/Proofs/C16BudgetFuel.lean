/- Equations of the counter interpreter `bexec` / `bexecs` / `bloop`: without fuel, and one per shape of component
(sequencing as `Option.bind`, the two arms of a branch as one call); the binary conditions of `evalAt` in the same form;
additions under `Option.map` (`map_add_add`, `map_add_zero`). -/
import MahfModel.Model.TemplatesBudget
namespace MahfModel.Tpl

theorem bexec_zero (o : BOracle) (d : Nat) (c : BComp) (s : BSt) : bexec o 0 d c s = none := by
  simp only [bexec]

theorem bexecs_zero (o : BOracle) (d : Nat) (cs : BComps) (s : BSt) : bexecs o 0 d cs s = none := by
  simp only [bexecs]

theorem bloop_zero (o : BOracle) (d : Nat) (c : BCond) (b : BComp) (p : Nat) (s : BSt) : bloop o 0 d c b p s = none := by
  simp only [bloop]

section equations
variable (o : BOracle) (fuel d : Nat) (s : BSt)

theorem bexec_leaf : bexec o (fuel + 1) d .leaf s =
    if o.fails s.tick then none else some { s with tick := s.tick + 1 } :=
  rfl

theorem bexec_eval (n : Nat) : bexec o (fuel + 1) d (.eval n) s =
    if o.fails s.tick then none else (addEvals n s.lvls).map fun l => { s with lvls := l, tick := s.tick + 1 } := by
  simp only [bexec]
  split
  · rfl
  · split <;> simp [*]

theorem bexec_seq (cs : BComps) : bexec o (fuel + 1) d (.seq cs) s = bexecs o fuel d cs s :=
  rfl

theorem bexec_loop (c : BCond) (b : BComp) : bexec o (fuel + 1) d (.loop c b) s = bloop o fuel d c b 0 s :=
  rfl

theorem bexec_branch (t e : BComp) : bexec o (fuel + 1) d (.branch t e) s =
    bexec o fuel d (if o.cond s.tick then t else e) { s with tick := s.tick + 1 } := by
  simp only [bexec]; split <;> rfl

theorem bexec_scope (b : BComp) : bexec o (fuel + 1) d (.scope b) s =
    (bexec o fuel d b { s with lvls := binit b Lvl.empty :: s.lvls }).map fun s1 => { s1 with lvls := s1.lvls.tail } := by
  simp only [bexec]; split <;> simp [*]

theorem bexecs_nil : bexecs o (fuel + 1) d .nil s = some s :=
  rfl

theorem bexecs_cons (c : BComp) (rest : BComps) : bexecs o (fuel + 1) d (.cons c rest) s =
    (bexec o fuel d c s).bind (bexecs o fuel d rest) := by
  simp only [bexecs]; split <;> simp [*]

theorem bloop_succ (c : BCond) (b : BComp) (p : Nat) : bloop o (fuel + 1) d c b p s =
    (c.evalAt (visIters s.lvls) (visEvals s.lvls) (o.cond s.tick)).bind fun r =>
      if r then
        (bexec o fuel (d + 1) b { s with tick := s.tick + 1 }).bind fun s1 =>
          (bumpIters s1.lvls).bind fun l => bloop o fuel d c b (p + 1) { s1 with lvls := l }
      else some { s with tick := s.tick + 1, runs := s.runs ++ [(d, p)] } := by
  simp only [bloop]
  cases c.evalAt (visIters s.lvls) (visEvals s.lvls) (o.cond s.tick) with
  | none => rfl
  | some r =>
    cases r with
    | false => rfl
    | true =>
      cases bexec o fuel (d + 1) b { s with tick := s.tick + 1 } with
      | none => rfl
      | some s1 => cases h : bumpIters s1.lvls <;> simp [h]

end equations

theorem BCond.evalAt_and (a b : BCond) (it ev : Option Nat) (ob : Bool) :
    (BCond.and a b).evalAt it ev ob = (a.evalAt it ev ob).bind fun x => (b.evalAt it ev ob).map (x && ·) := by
  simp only [BCond.evalAt]
  cases a.evalAt it ev ob <;> cases b.evalAt it ev ob <;> rfl

theorem BCond.evalAt_or (a b : BCond) (it ev : Option Nat) (ob : Bool) :
    (BCond.or a b).evalAt it ev ob = (a.evalAt it ev ob).bind fun x => (b.evalAt it ev ob).map (x || ·) := by
  simp only [BCond.evalAt]
  cases a.evalAt it ev ob <;> cases b.evalAt it ev ob <;> rfl

theorem map_add_add (v : Option Nat) (a b : Nat) : (v.map (· + a)).map (· + b) = v.map (· + (a + b)) := by
  cases v <;> simp [Nat.add_assoc]

theorem map_add_zero (v : Option Nat) : v.map (· + 0) = v := by
  cases v <;> simp

end MahfModel.Tpl
