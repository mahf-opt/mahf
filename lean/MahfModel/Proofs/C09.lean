/- C09 — the order of single objective values: what `Ord::cmp` and the comparisons derived from `partial_cmp` answer,
and the laws of the derived `<=` on legal values (it is the IEEE `<=`). Imports no Mathlib. -/
import MahfModel.Proofs.C09Basic
namespace MahfModel.Objective

/-! ### scalar comparison -/

theorem objCmp_fin (x y : Int) : objCmp (.fin x) (.fin y) = .ok (compare x y) := by
  simp [objCmp, objPartialCmp, pc_fin]

theorem objCmp_iff (a b : F64) :
    (objCmp a b = .ok .lt ↔ lt a b = true) ∧ (objCmp a b = .ok .gt ↔ lt b a = true) ∧
    (objCmp a b = .ok .eq ↔ eq a b = true) ∧ (objCmp a b = .panic ↔ (a = .nan ∨ b = .nan)) := by
  cases a with
  | fin x =>
    cases b with
    | fin y => simp [objCmp_fin, lt, eq, Int.compare_eq_lt, Int.compare_eq_gt]
    | _ => simp [objCmp, objPartialCmp, partialCmp, le, ge, lt, eq]
  | _ => cases b <;> simp [objCmp, objPartialCmp, partialCmp, le, ge, lt, eq]

theorem objCmp_lt_iff (a b : F64) : objCmp a b = .ok .lt ↔ lt a b = true := (objCmp_iff a b).1
theorem objCmp_gt_iff (a b : F64) : objCmp a b = .ok .gt ↔ lt b a = true := (objCmp_iff a b).2.1
theorem objCmp_eq_iff (a b : F64) : objCmp a b = .ok .eq ↔ eq a b = true := (objCmp_iff a b).2.2.1

theorem objPartialCmp_eq_valueCmp (a b : F64) (ha : legal a = true) (hb : legal b = true) :
    objPartialCmp a b = valueCmp a b := by
  unfold objPartialCmp
  cases a <;> cases b <;> simp_all [legal, pc_fin, valueCmp] <;> simp [partialCmp, le, ge]

theorem objEq_eq_valueCmp (a b : F64) (ha : legal a = true) (hb : legal b = true) :
    objEq a b = (valueCmp a b == some .eq) := by
  cases a <;> cases b <;> simp_all [legal, valueCmp, objEq, eq]
  rw [Bool.eq_iff_iff]
  simp

theorem objPartialCmp_of_legal (a b : F64) (ha : legal a = true) (hb : legal b = true) :
    objPartialCmp a b = some (if lt a b then .lt else if lt b a then .gt else .eq) := by
  cases a with
  | fin x =>
    cases b with
    | fin y =>
      rw [objPartialCmp, pc_fin]
      rcases Int.lt_trichotomy x y with h | h | h
      · simp [lt, h, Int.compare_eq_lt.mpr h]
      · simp [lt, h]
      · simp [lt, h, Int.lt_asymm h, Int.compare_eq_gt.mpr h]
    | _ => simp_all [legal, objPartialCmp, partialCmp, le, ge, lt]
  | _ => cases b <;> simp_all [legal, objPartialCmp, partialCmp, le, ge, lt]

theorem objCmp_of_legal (a b : F64) (ha : legal a = true) (hb : legal b = true) :
    objCmp a b = .ok (if lt a b then .lt else if lt b a then .gt else .eq) := by
  rw [objCmp, objPartialCmp_of_legal a b ha hb]

/-- The operators std derives from `partial_cmp` (`<` is `== Some(Less)`, `>` is `== Some(Greater)`,
`<=` is `Some(Less | Equal)`), on legal values. -/
theorem partial_tests (a b : F64) (ha : legal a = true) (hb : legal b = true) :
    (objPartialCmp a b == some .lt) = lt a b ∧ (objPartialCmp a b == some .gt) = lt b a ∧
    (objPartialCmp a b == some .lt || objPartialCmp a b == some .eq) = !lt b a := by
  rw [objPartialCmp_of_legal a b ha hb]
  rcases Bool.eq_false_or_eq_true (lt a b) with h | h
  · simp [h, lt_asymm' a b h]
  · cases lt b a <;> simp [h]

/-! ### the order of objective values -/

theorem objLe_iff (a b : F64) : objLe a b = true ↔ (lt a b = true ∨ eq a b = true) := by
  have h1 := objCmp_lt_iff a b
  have h2 := objCmp_eq_iff a b
  unfold objCmp at h1 h2
  unfold objLe
  cases h : objPartialCmp a b with
  | none => simp_all
  | some o => cases o <;> simp_all

theorem objLe_refl (a : F64) (ha : legal a = true) : objLe a a = true :=
  (objLe_iff a a).mpr (.inr (eq_self a (legal_not_nan a ha)))

theorem objLe_of_lt (a b : F64) (h : lt a b = true) : objLe a b = true := (objLe_iff a b).mpr (.inl h)

/-- The derived `<=` of the newtype is the IEEE `<=`: its laws are those of `le`. -/
theorem objLe_eq_le (a b : F64) : objLe a b = le a b := by
  rw [Bool.eq_iff_iff, objLe_iff, le_iff_lt_or_eq, Bool.or_eq_true]

theorem objLe_iff_not_gt (a b : F64) (ha : legal a = true) (hb : legal b = true) :
    objLe a b = true ↔ lt b a = false := by
  rw [objLe_eq_le, le_eq_not_lt a b (legal_not_nan a ha) (legal_not_nan b hb), Bool.not_eq_true']

theorem lt_objLe_trans (a b c : F64) (h1 : lt a b = true) (h2 : objLe b c = true) : lt a c = true :=
  lt_le_trans a b c h1 (objLe_eq_le b c ▸ h2)

theorem objLe_trans (a b c : F64) (h1 : objLe a b = true) (h2 : objLe b c = true) : objLe a c = true := by
  rw [objLe_eq_le] at *; exact le_trans' a b c h1 h2

theorem objLe_antisymm (a b : F64) (h1 : objLe a b = true) (h2 : objLe b a = true) : eq a b = true := by
  rcases (objLe_iff a b).mp h1 with h | h
  · have hbb := le_lt_trans b a b (objLe_eq_le b a ▸ h2) h
    rw [lt_irrefl'] at hbb; cases hbb
  · exact h

end MahfModel.Objective
