/- C06 at run level: the scoped evaluation counter of `Scoped` traces. As long as no scope shadows the counter, all calls
of a trace go to the counter visible at its start (`scoped_noShadow`). The evaluation step itself is in `Proofs/PopMachine`.
Imports no Mathlib. -/
import MahfModel.Model.PopMachine
namespace MahfModel.PopMachine

variable {O : Type}

/-- Objective invocations a trace event stands for. -/
def evCalls : Ev O → Nat
  | .eval n _ => n
  | .selfEval vals => vals.length
  | _ => 0

/-- No scope of the trace shadows the evaluation counter. -/
def noCounterShadow (evs : List (Ev O)) : Prop := ∀ hb, Ev.enter true hb ∉ evs

theorem addTop_zero : ∀ cs : List Nat, addTop 0 cs = cs
  | [] => rfl
  | _ :: _ => rfl

theorem addTop_addTop (a b : Nat) : ∀ cs : List Nat, addTop b (addTop a cs) = addTop (a + b) cs
  | [] => rfl
  | c :: cs => congrArg (· :: cs) (Nat.add_assoc c a b)

section Scoped
variable [LT O] [DecidableLT O]

/-- As long as no open scope and no scope of the trace shadows the counter, the events' calls all go to the counter that
is visible at the start — whatever lies below it. -/
theorem scoped_noShadow (evs : List (Ev O)) (s : Scoped O) (hf : ∀ fr ∈ s.frames, fr.1 = false)
    (hn : noCounterShadow evs) :
    (scopedRun s evs).counters = addTop (evs.map evCalls).sum s.counters := by
  induction evs generalizing s with
  | nil => exact (addTop_zero _).symm
  | cons ev evs ih =>
    -- one event: the visible counter grows by the event's calls, still no shadowing frame
    have step : (scopedStep s ev).counters = addTop (evCalls ev) s.counters ∧ ∀ fr ∈ (scopedStep s ev).frames, fr.1 = false := by
      cases ev with
      | enter he hb =>
        cases he with
        | false => exact ⟨(addTop_zero _).symm, List.forall_mem_cons.mpr ⟨rfl, hf⟩⟩
        | true => exact absurd List.mem_cons_self (hn hb)
      | exit =>
        simp only [scopedStep]
        split
        · exact ⟨(addTop_zero _).symm, hf⟩
        · rename_i he hb fr hfr
          obtain ⟨h0, htl⟩ := List.forall_mem_cons.mp (hfr ▸ hf)
          obtain rfl : he = false := h0
          exact ⟨(addTop_zero _).symm, htl⟩
      | eval n vals => exact ⟨rfl, hf⟩
      | selfEval vals => exact ⟨rfl, hf⟩
      | update pop => exact ⟨(addTop_zero _).symm, hf⟩
      | other => exact ⟨(addTop_zero _).symm, hf⟩
    rw [List.map_cons, List.sum_cons, ← addTop_addTop, ← step.1]
    exact ih _ step.2 fun hb h => hn hb (List.mem_cons_of_mem _ h)

end Scoped

end MahfModel.PopMachine
