/- A PSO loop with scoped refinements in its slots runs exactly like the plain PSO loop of `Model/PsoLoop.lean`: a scoped slot is
the identity (`runSlot_scoped`), the pass body is its four phases in sequence (`passBody_phases`), so the run with slots is the
plain run lifted over the registries below (`loopGoN_scoped`).  All of it is control flow and holds on the model's own classes. -/
import MahfModel.Proofs.C18Chain
namespace MahfModel.Pso

section run
variable {F : Type}

/-- All four slots hold scoped components only. -/
def Slots.allScoped (sl : Slots) : Bool :=
  Comps.allScoped sl.pre && Comps.allScoped sl.con && Comps.allScoped sl.ine && Comps.allScoped sl.upd

theorem unframe_frameOf (lv : LoopVars F) : unframe (frameOf lv) lv = lv := by
  cases lv; rfl

theorem andThen_liftN (g k : RunSt F → Status × RunSt F) (s : NestSt F) :
    andThen (liftN g s) (liftN k) = liftN (fun st => andThen (g st) k) s := by
  simp only [liftN]
  rcases g s.st with ⟨_ | _ | _, st⟩ <;> rfl

variable [Div F] (cast : Nat → F) (zero : F) (ifuel : Nat)

theorem runSlot_scoped (cs : Comps) (s : NestSt F)
    (h : Comps.allScoped cs = true) : runSlot cast zero ifuel cs s = (.ok, s) := by
  obtain ⟨h1, h2⟩ := scoped_block_frame cast zero s.st.sw.xs.length ifuel cs (frameOf s.st.lv :: s.below) h
    ⟨rfl, rfl⟩
  simp only [runSlot, h1, h2, unframe_frameOf]

theorem andThen_runSlot_scoped {cs : Comps}
    (h : Comps.allScoped cs = true) (r : Status × NestSt F) : andThen r (runSlot cast zero ifuel cs) = r := by
  rcases r with ⟨_ | _ | _, s⟩
  · exact runSlot_scoped cast zero ifuel cs s h
  · rfl
  · rfl

variable [Add F] [Sub F] [Mul F] [Neg F] [LT F] [DecidableLT F]
variable (sl : Slots) (P : Params F) (f : List F → F) (repair : List F → List F)

omit [Div F] in
theorem passBody_phases (draws : List (List (F × F))) (st : RunSt F) :
    passBody P f repair draws st =
      andThen (andThen (andThen (phaseVel P draws st) (phaseEval f repair)) (phaseInertia P)) phaseBest := by
  simp only [passBody, phaseVel]
  rcases hv : velStep P.c1 P.c2 P.vmax draws st.sw with ⟨s, s1⟩
  cases s with
  | ok =>
    simp only [andThen, phaseEval, phaseInertia]
    by_cases hi : P.inertia = true
    · simp only [hi, if_true]
      cases hp : st.lv.progIter with
      | none => rfl
      | some p =>
        simp only [phaseBest]
        rcases hb : pbestStep (inertiaStep P.start P.stop p
          (evaluate f { s1 with xs := s1.xs.map (fun x => ({ x with pos := repair x.pos } : Part F)) })) with ⟨sb, s4⟩
        cases sb <;> rfl
    · have hi' : P.inertia = false := by simpa using hi
      simp only [hi', Bool.false_eq_true, if_false, phaseBest]
      rcases hb : pbestStep (evaluate f { s1 with xs := s1.xs.map (fun x => ({ x with pos := repair x.pos } : Part F)) })
        with ⟨sb, s4⟩
      cases sb <;> rfl
  | err => simp only [andThen]
  | panic => simp only [andThen]

theorem passBodyN_scoped (draws : List (List (F × F))) (s : NestSt F) (h : sl.allScoped = true) :
    passBodyN cast zero ifuel sl P f repair draws s = liftN (passBody P f repair draws) s := by
  simp only [Slots.allScoped, Bool.and_eq_true] at h
  obtain ⟨⟨⟨hpre, hcon⟩, hine⟩, hupd⟩ := h
  simp only [passBodyN, runSlot_scoped cast zero ifuel sl.pre s hpre, andThen_runSlot_scoped cast zero ifuel hcon,
    andThen_runSlot_scoped cast zero ifuel hine, andThen_runSlot_scoped cast zero ifuel hupd]
  show andThen (andThen (andThen (liftN (phaseVel P draws) s) _) _) _ = _
  rw [andThen_liftN, andThen_liftN, andThen_liftN]
  simp only [liftN, passBody_phases]

theorem loopGoN_scoped (c : Cond) (draws : Nat → List (List (F × F))) (h : sl.allScoped = true)
    (fuel : Nat) (s : NestSt F) :
    loopGoN cast zero ifuel sl P f repair c draws fuel s = liftN (loopGo cast P f repair c draws fuel) s := by
  induction fuel generalizing s with
  | zero => rfl
  | succ fuel ih =>
    simp only [loopGoN, loopGo, liftN]
    by_cases hb : (evalCond cast c s.st.lv).1 = true
    · simp only [hb, if_true]
      rw [passBodyN_scoped cast zero ifuel sl P f repair _ _ h]
      simp only [liftN]
      rcases hp : passBody P f repair (draws (evalCond cast c s.st.lv).2.iters)
        { s.st with lv := (evalCond cast c s.st.lv).2 } with ⟨sp, st2⟩
      cases sp with
      | ok => simp only [ih, liftN]
      | err | panic => rfl
    · have hb' : (evalCond cast c s.st.lv).1 = false := by simpa using hb
      simp only [hb', Bool.false_eq_true, if_false]

end run

end MahfModel.Pso
