/- C15 — the named configurations of the counterexamples and examples of `Props/C15Cfg`: paths given as string literals
(`segOf`, `segLit`), ten type names, three exported component trees, and what tells them apart. -/
import MahfModel.Model.LogC15Cfg
namespace MahfModel.Log

def segOf (s : String) (h : s.toList.all (fun c => !isDelim c) = true := by decide) : Seg := ⟨s.toList, h⟩

/-- Paths given as strings differ as soon as the strings do: no character has to be looked at. -/
theorem segOf_inj {s s' : String} {h : s.toList.all (fun c => !isDelim c) = true}
    {h' : s'.toList.all (fun c => !isDelim c) = true} : segOf s h = segOf s' h' ↔ s = s' := by
  simp only [segOf, Seg.mk.injEq, String.toList_inj]

theorem toList_of_eq_ofList {s : String} {l : List Char} (hs : s = String.ofList l) : s.toList = l := by
  subst hs; exact String.toList_ofList

/-- `segOf` for a literal. `String.toList` on a literal decodes its UTF-8 bytes, in the elaborator and again in
the kernel; but a literal unfolds to `String.ofList l` for free, so the check runs on `l` (found by unifying `rfl`). -/
def segLit (s : String) {l : List Char} (hs : s = String.ofList l := by rfl)
    (hl : l.all (fun c => !isDelim c) = true := by decide) : Seg :=
  segOf s (toList_of_eq_ofList hs ▸ hl)

def tyIdGlobal : Ty := .mk (segOf "mahf::identifier::inner::Global") .nil
def tyIdA : Ty := .mk (segOf "mahf::identifier::inner::A") .nil
def tyIdB : Ty := .mk (segLit "mahf::identifier::inner::B") .nil
def tyNormalMutation (id : Tys) : Ty := .mk (segOf "mahf::components::mutation::common::NormalMutation") id
def tyUniformMutation (id : Tys) : Ty := .mk (segOf "mahf::components::mutation::common::UniformMutation") id
def tyMutationRate (t : Ty) : Ty := .mk (segLit "mahf::components::mutation::MutationRate") (.cons t .nil)
def tyIterations : Ty := .mk (segOf "mahf::state::common::Iterations") .nil
def tyEvaluations : Ty := .mk (segOf "mahf::state::common::Evaluations") .nil
def tyValueOf (t : Ty) : Ty := .mk (segLit "mahf::lens::common::ValueOf") (.cons t .nil)
def tyProgress (t : Ty) : Ty := .mk (segLit "mahf::state::common::Progress") (.cons t .nil)

/-- `NormalMutation::<I>::new_with_id(0.1, 0.5)` as exported: `NormalMutation(std_dev, rm, phantom: PhantomData)`. -/
def normalMutationOf (id : Ty) : CTree String Param :=
  .node "NormalMutation" [.val "x3fb999999999999a", .val "x3fe0000000000000"] (.cons (.node "PhantomData" [.ph id] .nil) .nil)

/-- `while LessThanN::iterations(100) { t }` as exported. -/
def inLoop100 (t : CTree String Param) : CTree String Param :=
  .node "Loop" [] (.cons (.node "LessThanN" [.val "100"] (.cons (.node "ValueOf" [.ty tyIterations] .nil) .nil))
    (.cons (.node "seq" [] (.cons t .nil)) .nil))

/-- `Linear::new(0.9, 0.1, ValueOf::<Progress<ValueOf<I>>>::new(), ValueOf::<MutationRate<O>>::new())`. -/
def linearOf (i o : Ty) : CTree String Param :=
  .node "Linear" [.val "x3feccccccccccccd", .val "x3fb999999999999a"]
    (.cons (.node "ValueOf" [.ty (tyProgress (tyValueOf i))] .nil) (.cons (.node "ValueOf" [.ty (tyMutationRate o)] .nil) .nil))

theorem normalMutationOf_inj {i j : Ty} : normalMutationOf i = normalMutationOf j ↔ i = j := by
  simp [normalMutationOf]

theorem inLoop100_inj {a b : CTree String Param} : inLoop100 a = inLoop100 b ↔ a = b := by
  simp [inLoop100]

theorem linearOf_inj {i o i' o' : Ty} : linearOf i o = linearOf i' o' ↔ i = i' ∧ o = o' := by
  simp [linearOf, tyProgress, tyValueOf, tyMutationRate]

/-- The identifier of `NormalMutation::<I>` is a `PhantomData` field: the code's export does not
depend on it, at top level or inside a loop. -/
theorem serCode_forgets_identifier (i j : Ty) :
    serCode (normalMutationOf i) = serCode (normalMutationOf j) ∧
    serCode (inLoop100 (normalMutationOf i)) = serCode (inLoop100 (normalMutationOf j)) := ⟨rfl, rfl⟩

theorem tyIdA_ne_tyIdB : tyIdA ≠ tyIdB := by simp [tyIdA, tyIdB, segLit, segOf_inj]

theorem tyIdGlobal_ne_tyIdA : tyIdGlobal ≠ tyIdA := by simp [tyIdGlobal, tyIdA, segOf_inj]

end MahfModel.Log
