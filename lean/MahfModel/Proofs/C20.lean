/- C20: the run invariant.  `InvT` says: aligned, every (individual, molecule) pair `PairOk`, buffer not negative
(`InvT.iff_pairs`); the elementary edits keep it, and `Reaction.inv` follows by the nine cases of the relation. -/
import MahfModel.Proofs.C20Reaction
import Mathlib.Algebra.Order.Field.Basic
namespace MahfModel.Cro

section order
variable {F : Type} [LinearOrder F]

theorem updateBest_hits_best (m : Mol F) (p : Ind F) (h : m.minHit ≤ m.numHit) :
    (m.updateBest p).minHit ≤ (m.updateBest p).numHit ∧ (m.updateBest p).best.obj ≤ p.obj := by
  unfold Mol.updateBest; split
  · exact ⟨le_refl _, le_refl _⟩
  · rename_i hlt; exact ⟨h, not_lt.mp hlt⟩

end order

section field
variable {F : Type} [Field F] [LinearOrder F]

/-- What holds of population / molecule list / buffer between two updates: index-aligned, no
negative kinetic energy or buffer, hit counters ordered (`min_hit ≤ num_hit`, so the criterion's
`u32` subtraction cannot underflow), every molecule's remembered best is at least as good as the
individual it sits beside. -/
structure InvT (pop : Pop F) (mols : List (Mol F)) (buffer : F) : Prop where
  aligned : pop.length = mols.length
  ke_nonneg : ∀ m ∈ mols, 0 ≤ m.ke
  hits : ∀ m ∈ mols, m.minHit ≤ m.numHit
  buffer_nonneg : 0 ≤ buffer
  best_le : ∀ xm ∈ pop.zip mols, xm.2.best.obj ≤ xm.1.obj

/-- The invariant of a state whose population is on top of the stack. -/
def RunInv (st : St F) : Prop := InvT (st.stack.headD []) st.mols st.buffer

/-- A (individual, molecule) pair that may sit in an invariant state. -/
def PairOk (x : Ind F) (m : Mol F) : Prop := 0 ≤ m.ke ∧ m.minHit ≤ m.numHit ∧ m.best.obj ≤ x.obj

theorem PairOk.hit {x : Ind F} {m : Mol F} (h : PairOk x m) : PairOk x m.hit :=
  ⟨h.1, Nat.le_succ_of_le h.2.1, h.2.2⟩

theorem PairOk.new (x : Ind F) (ke : F) (h : 0 ≤ ke) : PairOk x (Mol.new ke x) :=
  ⟨h, Nat.le_refl _, le_refl _⟩

/-- The accepted on-wall collision: counters of `m.hit`, best updated with the product, then the new kinetic energy. -/
theorem PairOk.collide' {x p : Ind F} {m : Mol F} (h : PairOk x m) (ke : F) (hk : 0 ≤ ke) :
    PairOk p ({ (m.hit.updateBest p) with ke := ke } : Mol F) :=
  ⟨hk, updateBest_hits_best _ _ (Nat.le_succ_of_le h.2.1)⟩

theorem InvT.iff_pairs {pop : Pop F} {mols : List (Mol F)} {b : F} :
    InvT pop mols b ↔ pop.length = mols.length ∧ (∀ xm ∈ pop.zip mols, PairOk xm.1 xm.2) ∧ 0 ≤ b := by
  constructor
  · intro h
    exact ⟨h.aligned, fun xm hxm => ⟨h.ke_nonneg _ (List.of_mem_zip hxm).2, h.hits _ (List.of_mem_zip hxm).2,
      h.best_le xm hxm⟩, h.buffer_nonneg⟩
  · rintro ⟨hal, hp, hb⟩
    -- aligned, so every molecule sits in a pair
    have hm : ∀ m ∈ mols, ∃ x, PairOk x m := fun m hm => by
      obtain ⟨xm, hx, rfl⟩ := List.mem_map.mp (List.map_snd_zip hal.ge ▸ hm)
      exact ⟨_, hp xm hx⟩
    exact ⟨hal, fun m h => (hm m h).elim fun _ q => q.1, fun m h => (hm m h).elim fun _ q => q.2.1, hb,
      fun xm hx => (hp xm hx).2.2⟩

theorem InvT.pair {pop : Pop F} {mols : List (Mol F)} {b : F} (h : InvT pop mols b) {i : Nat} {x : Ind F} {m : Mol F}
    (hx : pop[i]? = some x) (hm : mols[i]? = some m) : PairOk x m :=
  (InvT.iff_pairs.mp h).2.1 (x, m) (List.mem_of_getElem? (List.getElem?_zip_eq_some.mpr ⟨hx, hm⟩))

theorem InvT.set {pop : Pop F} {mols : List (Mol F)} {b b' : F} (h : InvT pop mols b) (i : Nat) (x' : Ind F) (m' : Mol F)
    (hp : PairOk x' m') (hb : 0 ≤ b') : InvT (pop.set i x') (mols.set i m') b' :=
  InvT.iff_pairs.mpr ⟨by rw [List.length_set, List.length_set, h.aligned],
    zip_set pop mols i x' m' ▸ forall_mem_set (InvT.iff_pairs.mp h).2.1 hp, hb⟩

theorem InvT.eraseIdx {pop : Pop F} {mols : List (Mol F)} {b : F} (h : InvT pop mols b) (j : Nat) :
    InvT (pop.eraseIdx j) (mols.eraseIdx j) b :=
  InvT.iff_pairs.mpr ⟨length_eraseIdx_congr h.aligned j,
    zip_eraseIdx pop mols j ▸ fun xm hxm => (InvT.iff_pairs.mp h).2.1 xm (List.mem_of_mem_eraseIdx hxm), h.buffer_nonneg⟩

theorem InvT.hit {pop : Pop F} {mols : List (Mol F)} {b : F} (h : InvT pop mols b) {i : Nat} {r x : Ind F} {m : Mol F}
    (hi : ReactantAt pop mols i r x m) : InvT pop (mols.set i m.hit) b :=
  set_self_of_getElem? pop i x hi.ind ▸ h.set i x m.hit (h.pair hi.ind hi.mol).hit h.buffer_nonneg

variable [IsStrictOrderedRing F]

section
-- stated on the ordered field of the statements that cite them; their proofs use less
set_option linter.unusedSectionVars false

theorem updateBest_numHit (m : Mol F) (p : Ind F) : (m.updateBest p).numHit = m.numHit := by
  unfold Mol.updateBest; split <;> rfl

/-- The accepted inter-molecular collision: the kinetic energy is set before the best is updated. -/
theorem PairOk.collide {x p : Ind F} {m : Mol F} (h : PairOk x m) (ke : F) (hk : 0 ≤ ke) :
    PairOk p (({ m.hit with ke := ke } : Mol F).updateBest p) :=
  ⟨by rw [updateBest_ke]; exact hk, updateBest_hits_best _ _ (Nat.le_succ_of_le h.2.1)⟩

theorem InvT.append {pop : Pop F} {mols : List (Mol F)} {b : F} (h : InvT pop mols b) (x : Ind F) (m : Mol F)
    (hp : PairOk x m) : InvT (pop ++ [x]) (mols ++ [m]) b :=
  InvT.iff_pairs.mpr ⟨by rw [List.length_append, List.length_append, h.aligned]; rfl,
    List.zip_append h.aligned ▸ List.forall_mem_append.mpr ⟨(InvT.iff_pairs.mp h).2.1, List.forall_mem_singleton.mpr hp⟩,
    h.buffer_nonneg⟩

end

/-- `A` although `F` is an ordered field: the sign arguments are those of `Reaction.nonneg` word for word, and through `A`'s
fields (all arguments explicit) they check at less than half the cost of the field's own lemmas. -/
theorem Reaction.inv (A : MonoArith F) {rx : Rx F} {st st' : St F} (h : Reaction rx st st') (hd : rx.legalDraws)
    (hI : InvT ((st.stack.drop 2).headD []) st.mols st.buffer) : RunInv st' := by
  have hb := hI.buffer_nonneg
  induction h with
  | wallHit hi hc =>
    obtain ⟨h0, hla, ha1⟩ := hd
    have hde := A.sub_nonneg _ _ hc
    exact hI.set _ _ _ ((hI.pair hi.ind hi.mol).collide' _ (A.mul_nonneg _ _ hde (A.le_trans _ _ _ h0 hla)))
      (A.add_nonneg _ _ hb (A.mul_nonneg _ _ hde (A.sub_nonneg _ _ ha1)))
  | wallMiss hi hc | decompMiss hi hc hd' => exact hI.hit hi
  | decompHit hi hc =>
    obtain ⟨hA, -⟩ := hd
    have hde := A.sub_nonneg _ _ hc
    exact (hI.set _ _ _ (.new _ _ (A.mul_nonneg _ _ hde hA.1)) hb).append _ _
      (.new _ _ (A.mul_nonneg _ _ hde (A.sub_nonneg _ _ hA.2)))
  | decompBuffer hi hc hd' =>
    obtain ⟨-, h1, h2, hB⟩ := hd
    have hde := A.le_of_not_lt _ _ hd'
    exact (hI.set _ _ _ (.new _ _ (A.mul_nonneg _ _ hde hB.1))
      (A.mul_nonneg _ _ hb (A.sub_nonneg _ _ (A.mul_le_one _ _ h1.1 h1.2 h2.1 h2.2)))).append _ _
      (.new _ _ (A.mul_nonneg _ _ hde (A.sub_nonneg _ _ hB.2)))
  | interHit hi hj hij hc =>
    exact (hI.set _ _ _ ((hI.pair hi.ind hi.mol).collide _ (A.mul_nonneg _ _ hc hd.1)) hb).set _ _ _
      ((hI.pair hj.ind hj.mol).collide _ (A.mul_nonneg _ _ hc (A.sub_nonneg _ _ hd.2))) hb
  | interMiss hi hj hij hc =>
    exact (hI.hit hi).hit (hj.mols_set_ne hij _)
  | synthHit hi hj hij hc =>
    exact (hI.set _ _ _ (.new _ _ (A.sub_nonneg _ _ hc)) hb).eraseIdx _
  | synthMiss => exact hI

end field

end MahfModel.Cro
