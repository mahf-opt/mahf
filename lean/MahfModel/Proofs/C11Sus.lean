/- C11: stochastic universal sampling returns exactly `n` individuals — over ANY carrier (core classes only, so in
particular over `Float`): the count does not depend on arithmetic.  Also what an `Ok` SUS call consists of
(`sus_select_decomp`), which the specification in `C11SusRange` starts from as well. -/
import MahfModel.Proofs.C11Select
namespace MahfModel.Selection

section generic
variable {F : Type} [Add F] [LT F] [DecidableLT F]

theorem susInner_index (distance : F) (rest : List F) (i : Nat) (sumW : F) :
    (susInner distance rest i sumW).1 + (susInner distance rest i sumW).2.2.length = i + rest.length := by
  induction rest generalizing i sumW with
  | nil => unfold susInner; split <;> rfl
  | cons w rest ih =>
    unfold susInner
    split
    · rw [ih (i + 1) (sumW + w)]; simp; omega
    · rfl

variable [Mul F]

theorem susGo_count (O : Ops F) (start gaps : F) (cnt k : Nat) (rest : List F) (i : Nat) (sumW : F) :
    (susGo O start gaps cnt k rest i sumW).length = cnt ∧
    ∀ j ∈ susGo O start gaps cnt k rest i sumW, j ≤ i + rest.length := by
  induction cnt generalizing k rest i sumW with
  | zero => simp [susGo]
  | succ cnt ih =>
    simp only [susGo]
    have hidx := susInner_index (start + O.ofNat k * gaps) rest i sumW
    obtain ⟨h1, h2⟩ := ih (k + 1) (susInner (start + O.ofNat k * gaps) rest i sumW).2.2
      (susInner (start + O.ofNat k * gaps) rest i sumW).1 (susInner (start + O.ofNat k * gaps) rest i sumW).2.1
    refine ⟨by simp [h1], ?_⟩
    intro j hj
    rcases List.mem_cons.mp hj with rfl | hj
    · omega
    · have := h2 j hj; omega

variable [Div F] [OfNat F 0]

theorem susIndices_count (O : Ops F) (ws : List F) (n : Nat) (u : F) (is : List Nat)
    (h : susIndices O ws n u = .ok is) : is.length = n ∧ ∀ j ∈ is, j < ws.length := by
  simp only [susIndices] at h
  split_ifs at h
  cases ws with
  | nil => cases h
  | cons w0 rest =>
    simp only at h
    injection h with h; subst h
    obtain ⟨h1, h2⟩ := susGo_count O (u * (sum (w0 :: rest) / O.ofNat n)) (sum (w0 :: rest) / O.ofNat n) n 0 rest 0 w0
    refine ⟨h1, fun j hj => ?_⟩
    have := h2 j hj
    simp; omega

variable [Sub F] [LE F] [DecidableLE F] [OfNat F 1]

theorem sus_select_decomp (O : Ops F) (n : Nat) (offset u : F) (pop sel : Pop F)
    (h : select O (.sus n offset) (.draw u) pop = .ok sel) :
    ∃ objs ws is, objectives pop = some objs ∧ proportionalWeights O objs offset false = .ok (some ws) ∧
      susIndices O ws n u = .ok is ∧ sel = pick pop is ∧ ws.length = pop.length := by
  rw [select_sus] at h
  split at h
  · cases h
  · next objs hobjs =>
    split at h
    · cases h
    · cases h
    · next ws hws =>
      split at h
      · cases h
      · next is his =>
        injection h with h
        exact ⟨objs, ws, is, hobjs, hws, his, h.symm, by
          rw [proportionalWeights_length_any O objs offset false ws hws, objectives_length hobjs]⟩

end generic
end MahfModel.Selection
