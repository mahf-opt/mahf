/-
C03 — relations between the state before a run, the state after it and the error it stopped with (`Seq`): kept by
the sequencing operators, by every condition (`condEval_pres`) and, as `Inv`, by every program (`srun_pres`; `Inv.ofReg`
when the relation looks at the registry only, e.g. the depth). One leaf call (`step`) and the events a run does not
produce are here as well.
-/
import MahfModel.Proofs.C03Seq
import MahfModel.Proofs.C03Reg
namespace MahfModel.Config

/-! ### One leaf call -/

theorem step_faulty {s : Script} {ev : Ev} {σ : St} (h : s.faulty ev (σ.tr.count ev) = true)
    (eff : Reg → Option Reg) : step s ev eff σ = (⟨σ.reg, ev :: σ.tr⟩, .err ev.1 ev.2) := by
  rw [step, if_pos h]

theorem step_ok {s : Script} {ev : Ev} {σ : St} (h : s.faulty ev (σ.tr.count ev) = false)
    {eff : Reg → Option Reg} {r : Reg} (he : eff σ.reg = some r) : step s ev eff σ = (⟨r, ev :: σ.tr⟩, .ok) := by
  rw [step, h, if_neg Bool.false_ne_true]
  show (match eff σ.reg with | some r => _ | none => _) = _
  rw [he]

theorem step_cases (s : Script) (ev : Ev) (eff : Reg → Option Reg) (σ : St) :
    step s ev eff σ = (⟨σ.reg, ev :: σ.tr⟩, .err ev.1 ev.2) ∨
    ∃ r, eff σ.reg = some r ∧ step s ev eff σ = (⟨r, ev :: σ.tr⟩, .ok) := by
  simp only [step]
  split
  · exact Or.inl rfl
  · split
    · rename_i r h; exact Or.inr ⟨r, h, rfl⟩
    · exact Or.inl rfl

theorem step_pres {R : Reg → Reg → Prop} (hrefl : ∀ r, R r r) (s : Script) (ev : Ev) {eff : Reg → Option Reg}
    (he : ∀ r r', eff r = some r' → R r r') (σ : St) : R σ.reg (step s ev eff σ).1.reg := by
  rcases step_cases s ev eff σ with h | ⟨r, hr, h⟩ <;> rw [h]
  · exact hrefl _
  · exact he _ _ hr

theorem evalLeaf_frame (s : Script) (id : Nat) (σ : St) :
    (evalLeaf s id σ).1.reg = σ.reg ∧ (evalLeaf s id σ).1.tr = (Phase.ceval, id) :: σ.tr := by
  simp only [evalLeaf]; split <;> exact ⟨rfl, rfl⟩

/-! ### Relations between the state before a run, the state after it and the error it stopped with -/

def Res.errEv : Res → Option Ev
  | .err ph id => some (ph, id)
  | _ => none
def CRes.errEv : CRes → Option Ev
  | .err ph id => some (ph, id)
  | _ => none

/-- `P σ σ' oe`: what a run from `σ` that ended in `σ'` and stopped with the error `oe` (`none`: it did not stop with an
error) satisfies. It holds of doing nothing, and a run that did not stop with an error can be continued. -/
structure Seq (P : St → St → Option Ev → Prop) : Prop where
  refl : ∀ σ, P σ σ none
  trans : ∀ {a b c oe}, P a b none → P b c oe → P a c oe

theorem Seq.ofRel {R : St → St → Prop} (hrefl : ∀ σ, R σ σ) (htr : ∀ a b c, R a b → R b c → R a c) :
    Seq fun σ σ' _ => R σ σ' :=
  ⟨hrefl, fun h1 h2 => htr _ _ _ h1 h2⟩

theorem seq_reg : Seq fun σ σ' _ => σ'.reg = σ.reg := Seq.ofRel (fun _ => rfl) fun _ _ _ h1 h2 => h2.trans h1

theorem seq_suffix : Seq fun σ σ' _ => σ.tr <:+ σ'.tr :=
  Seq.ofRel (fun _ => List.suffix_refl _) fun _ _ _ => List.IsSuffix.trans

theorem seq_count (e : Ev) : Seq fun σ σ' _ => σ'.tr.count e = σ.tr.count e :=
  Seq.ofRel (fun _ => rfl) fun _ _ _ h1 h2 => h2.trans h1

section
variable {P : St → St → Option Ev → Prop} (hP : Seq P)
include hP

theorem andThen_pres {r : St × Res} {k : St → St × Res} {σ : St} (h1 : P σ r.1 r.2.errEv)
    (h2 : ∀ σ1, P σ1 (k σ1).1 (k σ1).2.errEv) : P σ (andThen r k).1 (andThen r k).2.errEv := by
  obtain ⟨σ1, x⟩ := r
  cases x
  · exact hP.trans h1 (h2 σ1)
  all_goals exact h1

theorem cbind_pres {x : St × CRes} {k : Bool → St → St × CRes} {σ : St} (h1 : P σ x.1 x.2.errEv)
    (h2 : ∀ b σ1, P σ1 (k b σ1).1 (k b σ1).2.errEv) : P σ (cbind x k).1 (cbind x k).2.errEv := by
  obtain ⟨σ1, b | _⟩ := x
  · exact hP.trans h1 (h2 b σ1)
  · exact h1

theorem cthen_pres {x : St × CRes} {k : Bool → St → St × Res} {σ : St} (h1 : P σ x.1 x.2.errEv)
    (h2 : ∀ b σ1, P σ1 (k b σ1).1 (k b σ1).2.errEv) : P σ (cthen x k).1 (cthen x k).2.errEv := by
  obtain ⟨σ1, b | _⟩ := x
  · exact hP.trans h1 (h2 b σ1)
  · exact h1

/-- A condition evaluation is a sequence of evaluations of its leaves. -/
theorem condEval_pres (s : Script) (c : Cond) :
    (∀ id, id ∈ c.ids → ∀ σ, P σ (evalLeaf s id σ).1 (evalLeaf s id σ).2.errEv) →
      ∀ σ, P σ (condEval s c σ).1 (condEval s c σ).2.errEv := by
  induction c using Cond.ind with
  | leaf id => exact fun h => h id (List.mem_singleton.mpr rfl)
  | not c ih => exact fun h σ => by rw [condEval_not]; exact cbind_pres hP (ih h σ) fun _ σ1 => hP.refl σ1
  | all_nil | any_nil => exact fun _ => hP.refl
  | all_cons c cs ihc ihcs =>
    intro h σ
    rw [condEval_all_cons]
    exact cbind_pres hP (ihc (fun id hi => h id (List.mem_append_left _ hi)) σ) fun _ σ1 =>
      cbind_pres hP (ihcs (fun id hi => h id (List.mem_append_right _ hi)) σ1) fun _ σ2 => hP.refl σ2
  | any_cons c cs ihc ihcs =>
    intro h σ
    rw [condEval_any_cons]
    exact cbind_pres hP (ihc (fun id hi => h id (List.mem_append_left _ hi)) σ) fun _ σ1 =>
      cbind_pres hP (ihcs (fun id hi => h id (List.mem_append_right _ hi)) σ1) fun _ σ2 => hP.refl σ2

theorem whileN_pres {cond : St → St × CRes} {body : St → St × Res}
    (hc : ∀ σ, P σ (cond σ).1 (cond σ).2.errEv) (hb : ∀ σ, P σ (body σ).1 (body σ).2.errEv) :
    ∀ (n : Nat) (σ : St), P σ (whileN cond body n σ).1 (whileN cond body n σ).2.errEv := by
  intro n
  induction n with
  | zero => exact hP.refl
  | succ n ih =>
    intro σ
    rw [whileN_succ]
    refine cthen_pres hP (hc σ) fun b σ1 => ?_
    cases b
    · exact hP.refl σ1
    · exact andThen_pres hP (hb σ1) ih

end

theorem condEval_reg (s : Script) (c : Cond) (σ : St) : (condEval s c σ).1.reg = σ.reg :=
  condEval_pres seq_reg s c (fun id _ σ => (evalLeaf_frame s id σ).1) σ

theorem evalAll_reg (s : Script) : ∀ (cs : Conds) (σ : St), (evalAll s cs σ).1.reg = σ.reg :=
  fun cs => condEval_reg s (.all cs)

theorem evalAny_reg (s : Script) : ∀ (cs : Conds) (σ : St), (evalAny s cs σ).1.reg = σ.reg :=
  fun cs => condEval_reg s (.any cs)

/-- `P` is kept by the atomic statements `φ` allows and the conditions `C` allows (`Stmt.all φ C`); `scope` is the rule for
`{ … }`: what holds between the pushed state and the body's end state holds between the caller's state and the
popped one. `srun_pres` is the induction over programs. -/
structure Inv (s : Script) (φ : Op → Bool) (C : Cond → Bool) (P : St → St → Option Ev → Prop) : Prop extends Seq P where
  op : ∀ o, φ o = true → ∀ σ, P σ (opRun s o σ).1 (opRun s o σ).2.errEv
  cond : ∀ c, C c = true → ∀ σ, P σ (condEval s c σ).1 (condEval s c σ).2.errEv
  scope : ∀ σ σ2 oe, P (push σ) σ2 oe → P σ (pop σ2) oe

theorem srun_pres {s : Script} {φ : Op → Bool} {C : Cond → Bool} {P : St → St → Option Ev → Prop}
    (I : Inv s φ C P) (f : Nat) (p : Stmt) (h : p.all φ C = true) (σ : St) :
    P σ (srun s f p σ).1 (srun s f p σ).2.errEv := by
  induction p generalizing σ with
  | skip => exact I.refl σ
  | atom o => exact I.op o h σ
  | seq a b iha ihb =>
    have h := Bool.and_eq_true_iff.mp h
    exact andThen_pres I.toSeq (iha h.1 σ) (ihb h.2)
  | loop c b ih =>
    have h := Bool.and_eq_true_iff.mp h
    exact whileN_pres I.toSeq (I.cond c h.1) (ih h.2) f σ
  | ite c t e iht ihe =>
    have h := Bool.and_eq_true_iff.mp h
    have h1 := Bool.and_eq_true_iff.mp h.1
    rw [srun_ite]
    refine cthen_pres I.toSeq (I.cond c h1.1 σ) fun b σ1 => ?_
    cases b
    · exact ihe h.2 σ1
    · exact iht h1.2 σ1
  | inScope b ih => exact I.scope _ _ _ (ih h (push σ))

/-- An invariant that only looks at the registry: conditions keep it, and for the atomic statements
it is enough to know what the actions of a leaf, the counter operations and the merge do. -/
theorem Inv.ofReg (s : Script) {φ : Op → Bool} {C : Cond → Bool} {R : Reg → Reg → Prop} (hrefl : ∀ r, R r r)
    (htr : ∀ a b c, R a b → R b c → R a c)
    (prim : ∀ ev acts, φ (.prim ev acts) = true → ∀ ph r, R r (applyActs ph acts r))
    (ctr0 : φ .counter0 = true → ∀ r, R r (r.insert 0 0))
    (incr : φ .bump = true → ∀ r r', r.incr = some r' → R r r')
    (merge : ∀ id mg, φ (.merge id mg) = true → ∀ r r', mergeEff mg r = some r' → R r r')
    (scope : ∀ r r2, R ([] :: r) r2 → R r r2.tail) :
    Inv s φ C (fun σ σ' _ => R σ.reg σ'.reg) where
  toSeq := Seq.ofRel (fun σ => hrefl σ.reg) fun _ _ _ => htr _ _ _
  op o ho σ := by
    cases o with
    | prim ev acts => exact step_pres hrefl s ev (fun _ _ => effOf_pres hrefl (prim ev acts ho)) σ
    | counter0 => exact ctr0 ho σ.reg
    | bump =>
      simp only [opRun, bump]
      split
      · rename_i r hr; exact incr ho _ r hr
      · exact hrefl _
    | merge id mg => exact step_pres hrefl s _ (merge id mg ho) σ
  cond c _ σ := by rw [condEval_reg]; exact hrefl _
  scope σ σ2 _ := scope σ.reg σ2.reg

theorem inv_depth (s : Script) :
    Inv s (fun _ => true) (fun _ => true) (fun σ σ' _ => σ'.reg.length = σ.reg.length) :=
  Inv.ofReg s (R := fun r r' => r'.length = r.length) (fun _ => rfl) (fun _ _ _ h1 h2 => h2.trans h1)
    (fun _ acts _ ph r => length_applyActs ph acts r) (fun _ r => Reg.length_insert r 0 0)
    (fun _ r r' h => Reg.length_incr r r' h) (fun _ mg _ r r' h => mergeEff_length mg r r' h)
    (fun r r2 h => by rw [List.length_tail, h]; rfl)

theorem srun_depth (s : Script) (f : Nat) (p : Stmt) (σ : St) :
    (srun s f p σ).1.reg.length = σ.reg.length :=
  srun_pres (inv_depth s) f p (Stmt.all_true p) σ

theorem srun_child_shape (s : Script) (f : Nat) (p : Stmt) (σ : St) :
    ∃ m t, (srun s f p (push σ)).1.reg = m :: t ∧ t.length = σ.reg.length := by
  have h := srun_depth s f p (push σ)
  obtain ⟨m, t, hr⟩ := List.exists_cons_of_length_eq_add_one h
  rw [hr] at h
  exact ⟨m, t, hr, Nat.succ.inj h⟩

/-! ### Events of a condition that does not occur in the tree are not produced -/

theorem condEval_count (s : Script) (cid : Nat) (c : Cond) (σ : St) (h : c.ids.contains cid = false) :
    (condEval s c σ).1.tr.count (Phase.ceval, cid) = σ.tr.count (Phase.ceval, cid) :=
  condEval_pres (seq_count _) s c (fun id hi σ => by
    rw [(evalLeaf_frame s id σ).2]
    refine List.count_cons_of_ne fun e => ?_
    rw [← (Prod.mk.inj e).2, List.contains_eq_mem, decide_eq_false_iff_not] at h
    exact h hi) σ

theorem evalAny_count (s : Script) (cid : Nat) : ∀ (cs : Conds) (σ : St), cs.ids.contains cid = false →
      (evalAny s cs σ).1.tr.count (Phase.ceval, cid) = σ.tr.count (Phase.ceval, cid) :=
  fun cs σ => condEval_count s cid (.any cs) σ

theorem step_count {e ev : Ev} (hne : ev ≠ e) (s : Script) (eff : Reg → Option Reg) (σ : St) :
    (step s ev eff σ).1.tr.count e = σ.tr.count e := by
  rcases step_cases s ev eff σ with h | ⟨r, _, h⟩ <;> rw [h] <;> exact List.count_cons_of_ne hne

theorem inv_count (s : Script) (cid : Nat) :
    Inv s (Op.sat (fun _ => true) true) (Cond.avoids cid)
      (fun σ σ' _ => σ'.tr.count (Phase.ceval, cid) = σ.tr.count (Phase.ceval, cid)) where
  toSeq := seq_count _
  op o ho σ := by
    cases o with
    | prim ev acts =>
      refine step_count (fun h => ?_) s _ σ
      rw [h] at ho; cases ho
    | counter0 => rfl
    | bump => simp only [opRun, bump]; split <;> rfl
    | merge id mg => exact step_count (fun h => by cases h) s _ σ
  cond c hc σ := condEval_count s cid c σ (by simpa [Cond.avoids] using hc)
  scope σ σ2 _ h := h

end MahfModel.Config
