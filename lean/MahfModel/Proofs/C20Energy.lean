/- C20: energy conservation.  `energy` after `set`, appending one pair and `eraseIdx` at a reactant's index, then
`Reaction.conserves` by the nine cases of the relation (exact arithmetic: a field; its linear order only decides the branches and
the equality of individuals, no law relating it to the arithmetic is used). -/
import MahfModel.Proofs.C20Reaction
import MahfModel.Proofs.ArithField
import Mathlib.Tactic.Ring
namespace MahfModel.Cro

section sums
variable {α : Type} {F : Type} [Field F]

theorem sumF_eq_sum (l : List F) : sumF l = l.sum := by
  induction l with
  | nil => rfl
  | cons a l ih => exact congrArg (a + ·) ih

theorem sumF_map_append (f : α → F) (l₁ l₂ : List α) :
    sumF ((l₁ ++ l₂).map f) = sumF (l₁.map f) + sumF (l₂.map f) := by
  rw [sumF_eq_sum, sumF_eq_sum, sumF_eq_sum, List.map_append, List.sum_append]

theorem sumF_map_eraseIdx (f : α → F) (l : List α) (j : Nat) (y : α) (h : l[j]? = some y) :
    sumF ((l.eraseIdx j).map f) = sumF (l.map f) - f y := by
  induction l generalizing j with
  | nil => simp at h
  | cons a as ih =>
    cases j with
    | zero =>
      simp only [List.getElem?_cons_zero, Option.some.injEq] at h
      subst h; simp only [List.eraseIdx_cons_zero, List.map_cons, sumF]; ring
    | succ j =>
      simp only [List.getElem?_cons_succ] at h
      simp only [List.eraseIdx_cons_succ, List.map_cons, sumF, ih j h]; ring

/-- `set` is erase-then-insert: `(l.set i x).eraseIdx i = l.eraseIdx i`. -/
theorem sumF_map_set (f : α → F) (l : List α) (i : Nat) (y x : α) (h : l[i]? = some y) :
    sumF ((l.set i x).map f) = sumF (l.map f) - f y + f x := by
  have hi := (List.getElem?_eq_some_iff.mp h).1
  have h1 := sumF_map_eraseIdx f (l.set i x) i x (by rw [List.getElem?_set_self hi])
  rw [List.eraseIdx_set_eq, sumF_map_eraseIdx f l i y h] at h1
  exact sub_eq_iff_eq_add.mp h1.symm

theorem sumF_nonneg [LinearOrder F] [IsStrictOrderedRing F] (l : List F) (h : ∀ x ∈ l, 0 ≤ x) : 0 ≤ sumF l :=
  sumF_eq_sum l ▸ Arith.sum_nonneg l h

end sums

section field
variable {F : Type} [Field F]

theorem energyAt_zero (pop : Pop F) (s : List (Pop F)) (mols : List (Mol F)) (b : F) :
    St.energyAt ⟨pop :: s, mols, b⟩ 0 = energy pop mols b := rfl

theorem energyAt_two (p q pop : Pop F) (s : List (Pop F)) (mols : List (Mol F)) (b : F) :
    St.energyAt ⟨p :: q :: pop :: s, mols, b⟩ 2 = energy pop mols b := rfl

theorem energy_append (pop : Pop F) (mols : List (Mol F)) (b : F) (x : Ind F) (m : Mol F) :
    energy (pop ++ [x]) (mols ++ [m]) b = energy pop mols b + x.obj + m.ke := by
  simp only [energy, sumF_map_append, List.map_cons, List.map_nil, sumF]; ring

variable [LinearOrder F]

omit [Field F] in
theorem ind_beq_obj {x r : Ind F} (h : (x == r) = true) : x.obj = r.obj := by
  have : (x.tag == r.tag && x.obj == r.obj) = true := h
  simp only [Bool.and_eq_true, beq_iff_eq] at this
  exact this.2

/-- Replacing a reactant's pair: its energy goes (the individual at `i` has the reactant's objective
value), the new pair's comes. -/
theorem energy_set {pop : Pop F} {mols : List (Mol F)} {i : Nat} {r x : Ind F} {m : Mol F}
    (h : ReactantAt pop mols i r x m) (x' : Ind F) (m' : Mol F) (b : F) :
    energy (pop.set i x') (mols.set i m') b = energy pop mols b + (x'.obj - r.obj) + (m'.ke - m.ke) := by
  simp only [energy, sumF_map_set (·.obj) pop i x x' h.ind, sumF_map_set (·.ke) mols i m m' h.mol, ind_beq_obj h.eq]; ring

theorem energy_hit {pop : Pop F} {mols : List (Mol F)} {i : Nat} {r x : Ind F} {m : Mol F}
    (h : ReactantAt pop mols i r x m) (b : F) : energy pop (mols.set i m.hit) b = energy pop mols b := by
  simp only [energy, sumF_map_set (·.ke) mols i m m.hit h.mol, show m.hit.ke = m.ke from rfl, sub_add_cancel]

theorem energy_eraseIdx {pop : Pop F} {mols : List (Mol F)} {j : Nat} {r x : Ind F} {m : Mol F}
    (h : ReactantAt pop mols j r x m) (b : F) :
    energy (pop.eraseIdx j) (mols.eraseIdx j) b = energy pop mols b - r.obj - m.ke := by
  simp only [energy, sumF_map_eraseIdx (·.obj) pop j x h.ind, sumF_map_eraseIdx (·.ke) mols j m h.mol, ind_beq_obj h.eq]; ring

theorem Reaction.conserves {rx : Rx F} {st st' : St F} (h : Reaction rx st st') :
    st'.energyAt 0 = st.energyAt 2 := by
  induction h <;> rw [energyAt_zero, energyAt_two]
  case wallHit hi hc => rw [energy_set hi]; simp only [energy]; ring
  case wallMiss hi _ | decompMiss hi _ _ => exact energy_hit hi _
  case decompHit hi _ | decompBuffer hi _ _ => rw [energy_append, energy_set hi]; simp only [energy, Mol.new]; ring
  case interHit hi hj hij hc =>
    rw [energy_set (hj.set_ne hij _ _), energy_set hi, updateBest_ke, updateBest_ke]; ring
  case interMiss hi hj hij hc =>
    exact (energy_hit (hj.mols_set_ne hij _) _).trans (energy_hit hi _)
  case synthHit hi hj hij hc =>
    rw [energy_eraseIdx (hj.set_ne hij _ _), energy_set hi]; simp only [Mol.new]; ring

end field

end MahfModel.Cro
