/-
C03 — lemmas behind `Props/C03Real.lean` (shipped conditions, `State::holding` leaves): the modules `Proofs/C03RealSeq`,
`Proofs/C03RealCompile`, `Proofs/C03RealMono`, `Proofs/C03RealCond`.
-/
import MahfModel.Proofs.C03RealCompile
import MahfModel.Proofs.C03RealMono
import MahfModel.Proofs.C03RealCond
