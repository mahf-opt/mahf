/- The guard analysis on the templates as functions of their parameters: closed forms for ALL parameter values
that meet the size-related requirements (`guardValidT`). -/
import MahfModel.Proofs.C16Guard
import MahfModel.Proofs.C16Param
namespace MahfModel.Tpl

/-- The requirements on the natural-number parameters under which every size precondition inside the template is
met: tournament size between 1 and the population size (GA), at least one parent (ES), at least `2y` (and one)
individuals for `DEBest` (DE). -/
def guardValidT (name : Tid) (ps : List Nat) : Bool :=
  match name, ps with
  | .real_ga, [n, ts] | .binary_ga, [n, ts] => decide (1 ≤ ts) && decide (ts ≤ n)
  | .real_es, [mu, _] => decide (1 ≤ mu)
  | .real_de, [n, y] => decide (2 * y ≤ n) && decide (1 ≤ n)
  | _, _ => true

theorem safeOf_loop_self {body : SComp} {st : AbsStack} (hb : safeOf body st = some st) :
    safeOf (.loop body) st = some st :=
  safeOf_loop .. ▸ loopCheck_self hb rfl

theorem safeOf_sq_cons (c : SComp) (cs : List SComp) (st : AbsStack) :
    safeOf (sq (c :: cs)) st = (safeOf c st).bind (safeOf (sq cs)) := by
  simp only [sq, SComps.ofList, safeOf, safesOf]
  cases safeOf c st <;> rfl

theorem guardsSafe_of_loop {pre mid : List SComp} {body : SComp} {s inv : AbsStack}
    (hp : safeOf (sq (pre ++ mid)) [] = some s) (hl : safeOf (.loop body) s = some inv) :
    guardsSafe (sq (pre ++ [sq (mid ++ [.loop body])])) = true :=
  isSome_of_loop safeOf_sq_cons (fun _ => rfl) hp hl

macro "safe_finish" hl:ident : tactic =>
  `(tactic| (generalize SComp.loop _ = L at $hl:ident ⊢
             simp [guardsSafe, safeOf, safesOf, gabs, sizeStep, opOf, astep, Itv.exact, $hl:ident]))

section
attribute [local simp] sq SComps.ofList l0 evalUpd safeOf safesOf gabs sizeStep opOf astep Itv.exact Itv.isExact stackJoin
  Itv.join Itv.hiMax Itv.hiMin Itv.hiAdd Itv.hiLe Itv.mulC Itv.divC Itv.add Itv.capC Itv.meet

theorem ils_outer_safe (pre : List SComp) (ls : SComp)
    (hpre : safeOf (sq pre) [⟨1, some 1⟩] = some [⟨1, some 1⟩])
    (hin : safeOf ls [⟨1, some 1⟩, ⟨1, some 1⟩] = some [⟨1, some 1⟩, ⟨1, some 1⟩]) :
    safeOf (sq (pre ++ [l0 .All, .scope (sq [sq [ls]]), l0 .BestIndividualUpdate, .leaf .MuPlusLambda 1 0, l0 .Logger]))
      [⟨1, some 1⟩] = some [⟨1, some 1⟩] := by
  rw [sq_append safeOf_sq_cons (fun _ => rfl), hpre, Option.bind_some]
  simp [hin]

/-- All templates but invasive weed (parameter-dependent invariant) and chemical reaction (outside the size
abstraction): every size precondition is met at every parameter point that satisfies `guardValidT`. -/
theorem tpl_guards_all (name : Tid) (ps : List Nat) (cool : Bool) (t : SComp)
    (hn1 : name ≠ .real_iwo) (hn2 : name ≠ .real_cro)
    (h : tplT name ps cool = some t) (hv : guardValidT name ps = true) :
    guardsSafe t = true := by
  revert hn1 hn2 hv
  apply tplT_cases (P := fun name ps t => name ≠ .real_iwo → name ≠ .real_cro → guardValidT name ps = true →
    guardsSafe t = true) (h := h)
  all_goals intros
  case real_iwo | real_cro => contradiction
  all_goals rename_i hv
  case real_ga | binary_ga | real_es | real_de =>
    simp only [guardValidT, Bool.and_eq_true, decide_eq_true_eq] at hv
    exact guardsSafe_of_loop (mid := []) rfl (safeOf_loop_self (by simp [hv]))
  case real_sa | permutation_sa | real_rs | permutation_rs | real_rw | permutation_rw => decide +kernel
  case permutation_ls => exact guardsSafe_of_loop (mid := []) rfl (safeOf_loop_self (by simp))
  case real_ls => exact guardsSafe_of_loop (pre := [_, _, _, _]) (mid := []) rfl (safeOf_loop_self (by simp))
  case real_pso =>
    exact guardsSafe_of_loop (mid := [_]) rfl (safeOf_loop_self rfl)
  case real_bh => exact guardsSafe_of_loop (mid := []) rfl (safeOf_loop_self rfl)
  case real_fa => exact guardsSafe_of_loop (mid := []) rfl (safeOf_loop_self (by cases cool <;> rfl))
  case real_ils | permutation_ils =>
    exact guardsSafe_of_loop (mid := []) rfl (safeOf_loop_self (ils_outer_safe _ _ rfl
      (safeOf_loop_self (by simp))))
  case ant_system ants _ _ | max_min_ant_system ants _ _ =>
    exact guardsSafe_of_loop (pre := [l0 .Empty]) (mid := []) rfl
      ((safeOf_loop ..).trans (loopCheck_aco ants (fun _ => by simp) rfl))

end

end MahfModel.Tpl
