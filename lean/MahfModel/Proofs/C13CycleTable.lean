/- C13: the cycle table of `cycle_crossover` as a list of integers under an abstract successor map `sig`. Marking the
   `sig`-path from an unmarked position with one number keeps the marked entries closed under `sig` and its preimages
   (`Inv`); the loop-head invariant `J` holds from loop entry and gives `Inv` back at the exit. -/
namespace MahfModel.Variation.Cycle

/-- Entry `j` of the cycle table (−1 = unmarked, also outside the table). -/
def gd (l : List Int) (j : Nat) : Int := l.getD j (-1)

theorem gd_set (l : List Int) (p : Nat) (v : Int) (j : Nat) (hp : p < l.length) :
    gd (l.set p v) j = if j = p then v else gd l j := by
  unfold gd
  simp only [List.getD_eq_getElem?_getD, List.getElem?_set]
  by_cases h : j = p
  · subst h; simp [hp]
  · have : ¬ p = j := fun e => h e.symm
    simp [h, this]

theorem gd_eq_getElem (l : List Int) (j : Nat) (h : j < l.length) : gd l j = l[j] := by
  rw [gd, List.getD_eq_getElem?_getD, List.getElem?_eq_getElem h]; rfl

def negs (l : List Int) : Nat := l.countP (· < 0)

theorem negs_set (l : List Int) (p : Nat) (v : Int) (hp : p < l.length) (hc : gd l p < 0) (hv : 0 ≤ v) :
    negs (l.set p v) + 1 = negs l := by
  rw [gd_eq_getElem l p hp] at hc
  unfold negs
  rw [List.countP_set hp]
  have hpos : 0 < List.countP (· < 0) l := by
    apply List.countP_pos_iff.mpr
    exact ⟨l[p], List.getElem_mem hp, by simpa using hc⟩
  have : ¬ v < 0 := by omega
  simp [hc, this]; omega

variable (sig : Nat → Nat) (n : Nat)

/-- marked entries are closed under `sig` with equal numbers, and under `sig`-preimages. -/
structure Inv (cyc : List Int) : Prop where
  len : cyc.length = n
  closed : ∀ j, j < n → 0 ≤ gd cyc j → gd cyc (sig j) = gd cyc j
  pre : ∀ j, j < n → 0 ≤ gd cyc (sig j) → 0 ≤ gd cyc j

theorem inv_init : Inv sig n (List.replicate n (-1)) := by
  have hg : ∀ j, gd (List.replicate n (-1)) j = -1 := by
    intro j
    unfold gd
    rw [List.getD_eq_getElem?_getD]
    by_cases h : j < n <;> simp [h]
  refine ⟨by simp, ?_, ?_⟩
  · intro j _ h; rw [hg] at h; omega
  · intro j _ h; rw [hg] at h; omega

/-- Loop-head invariant of the while loop started at the unmarked position `s` of table `c0`, from the very first pass
on: the table is closed under `sig` and under `sig`-preimages except at the two ends of the path marked so far (empty
before the first pass) — whatever points to `pos` carries `cn`, and `s` may have an unmarked predecessor. -/
structure J (c0 : List Int) (s : Nat) (cn : Int) (pos : Nat) (cur : List Int) : Prop where
  len : cur.length = n
  pos_lt : pos < n
  old : ∀ j, j < n → 0 ≤ gd c0 j → gd cur j = gd c0 j
  closed : ∀ j, j < n → 0 ≤ gd cur j → sig j ≠ pos → gd cur (sig j) = gd cur j
  pre : ∀ j, j < n → 0 ≤ gd cur (sig j) → sig j ≠ s → 0 ≤ gd cur j
  start : 0 ≤ gd cur s → gd cur s = cn
  last : ∀ j, j < n → 0 ≤ gd cur j → sig j = pos → gd cur j = cn
  back : pos ≠ s ∨ 0 ≤ gd cur s → ∃ q, q < n ∧ 0 ≤ gd cur q ∧ sig q = pos
  head : gd cur pos < 0 ∨ pos = s

variable {sig n}

theorem J.first {c0 : List Int} {s : Nat} {cn : Int} (h0 : Inv sig n c0) (hs : s < n) (c0s : gd c0 s < 0) :
    J sig n c0 s cn s c0 :=
  ⟨h0.len, hs, fun _ _ _ => rfl, fun j hj hjm _ => h0.closed j hj hjm, fun j hj hjm _ => h0.pre j hj hjm,
    fun h => by omega, fun j hj hjm e => by have := h0.closed j hj hjm; rw [e] at this; omega,
    fun h => h.elim (fun h => absurd rfl h) (fun h => by omega), Or.inr rfl⟩

variable (hlt : ∀ j, j < n → sig j < n) (hinj : ∀ i j, i < n → j < n → sig i = sig j → i = j)
include hlt hinj

theorem J.step {c0 : List Int} {s : Nat} {cn : Int} {pos : Nat} {cur : List Int} (hcn : 0 ≤ cn)
    (h : J sig n c0 s cn pos cur) (hneg : gd cur pos < 0) : J sig n c0 s cn (sig pos) (cur.set pos cn) := by
  have hp : pos < cur.length := h.len ▸ h.pos_lt
  have hg : ∀ j, gd (cur.set pos cn) j = if j = pos then cn else gd cur j := fun j => gd_set cur pos cn j hp
  have hne : ∀ j, 0 ≤ gd cur j → j ≠ pos := fun j hj e => by rw [e] at hj; omega
  refine ⟨by rw [List.length_set, h.len], hlt pos h.pos_lt, fun j hj hj0 => ?_, fun j hj hjm e => ?_,
    fun j hj hjm e => ?_, fun _ => ?_, fun j hj _ e => ?_, fun _ => ⟨pos, h.pos_lt, by rw [hg, if_pos rfl]; exact hcn, rfl⟩, ?_⟩
  · rw [hg, if_neg (hne j (h.old j hj hj0 ▸ hj0))]
    exact h.old j hj hj0
  · have ejp : j ≠ pos := fun e' => e (e' ▸ rfl)
    rw [hg j, if_neg ejp] at hjm
    rw [hg j, if_neg ejp, hg]
    split
    · next e2 => exact (h.last j hj hjm e2).symm
    · next e2 => exact h.closed j hj hjm e2
  · rw [hg] at hjm ⊢
    split
    · exact hcn
    · by_cases e2 : sig j = pos
      · obtain ⟨q, hq, hqm, hqs⟩ := h.back (Or.inl (e2 ▸ e))
        exact hinj j q hj hq (e2.trans hqs.symm) ▸ hqm
      · rw [if_neg e2] at hjm
        exact h.pre j hj hjm e
  · rw [hg]
    split
    · rfl
    · next e => rw [hg, if_neg e] at *; exact h.start ‹_›
  · rw [hinj j pos hj h.pos_lt e, hg, if_pos rfl]
  · apply Classical.byContradiction
    intro hcon
    rw [not_or, hg] at hcon
    obtain ⟨hmk, hns⟩ := hcon
    by_cases e : sig pos = pos
    · obtain ⟨q, hq, hqm, hqs⟩ := h.back (Or.inl (e ▸ hns))
      exact hne q hqm (hinj q pos hq h.pos_lt (hqs.trans e.symm))
    · rw [if_neg e] at hmk
      have := h.pre pos h.pos_lt (by omega) hns
      omega

omit hlt in
theorem J.exit {c0 : List Int} {s : Nat} {cn : Int} {pos : Nat} {cur : List Int}
    (h : J sig n c0 s cn pos cur) (hm : ¬ gd cur pos < 0) :
    Inv sig n cur ∧ (∀ j, j < n → 0 ≤ gd c0 j → gd cur j = gd c0 j) ∧ 0 ≤ gd cur s := by
  obtain rfl : pos = s := h.head.resolve_left hm
  have hs : 0 ≤ gd cur pos := Int.not_lt.mp hm
  refine ⟨⟨h.len, fun j hj hjm => ?_, fun j hj hjm => ?_⟩, h.old, hs⟩
  · by_cases e : sig j = pos
    · rw [e, h.start hs, h.last j hj hjm e]
    · exact h.closed j hj hjm e
  · by_cases e : sig j = pos
    · obtain ⟨q, hq, hqm, hqs⟩ := h.back (Or.inr hs)
      exact hinj j q hj hq (e.trans hqs.symm) ▸ hqm
    · exact h.pre j hj hjm e

end MahfModel.Variation.Cycle
