/- C13: the crossovers on positions; closed forms of the uniform, multi-point and arithmetic crossover. -/
import MahfModel.Model.Variation
namespace MahfModel.Variation
variable {α : Type}

/-! ### both genes of a position are conserved -/

theorem conserved_of_pick {β : Type} {a b x y : β} {P : Prop} [Decidable P]
    (hx : x = if P then b else a) (hy : y = if P then a else b) : (x = a ∧ y = b) ∨ (x = b ∧ y = a) := by
  subst hx hy
  split
  · exact Or.inr ⟨rfl, rfl⟩
  · exact Or.inl ⟨rfl, rfl⟩

/-! ### closed forms as `zipWith`s over the zipped parents; the uniform crossover -/

theorem length_zipWith_zip {β γ : Type} (f : γ → α × α → β) (ws : List γ) (p1 p2 : List α)
    (hl : p1.length = p2.length) (hw : ws.length = p1.length) : (ws.zipWith f (p1.zip p2)).length = p1.length := by
  rw [List.length_zipWith, List.length_zip, hw, ← hl, Nat.min_self, Nat.min_self]

theorem getElem?_zipWith_zip {β γ : Type} (f : γ → α × α → β) (ws : List γ) (p1 p2 : List α) (k : Nat)
    (hw : k < ws.length) (h1 : k < p1.length) (h2 : k < p2.length) :
    (ws.zipWith f (p1.zip p2))[k]? = some (f ws[k] (p1[k], p2[k])) := by
  rw [List.getElem?_zipWith, List.getElem?_eq_getElem hw,
    List.getElem?_eq_getElem (by rw [List.length_zip]; exact Nat.lt_min.mpr ⟨h1, h2⟩), List.getElem_zip]

/-- The loop over positions does not look behind its index: a gene in front of the children shifts it by one. -/
theorem uxLoop_cons (x y : α) (mask : List Bool) : ∀ (i : Nat) (c1 c2 : List α),
    uxLoop (i + 1) mask (x :: c1, y :: c2) = (uxLoop i mask (c1, c2)).map fun d => (x :: d.1, y :: d.2) := by
  induction mask with
  | nil => intro i c1 c2; rfl
  | cons m mask ih =>
    intro i c1 c2
    cases m
    · exact ih (i + 1) c1 c2
    · rw [uxLoop, uxLoop, if_pos rfl, if_pos rfl, List.getElem?_cons_succ, List.getElem?_cons_succ]
      cases c1[i]? with
      | none => rfl
      | some a =>
        cases c2[i]? with
        | none => rfl
        | some b => exact ih (i + 1) _ _

theorem uxLoop_spec (mask : List Bool) : ∀ (as bs : List α), as.length = mask.length → bs.length = mask.length →
    uxLoop 0 mask (as, bs) = some (uxSpec as bs mask) := by
  induction mask with
  | nil =>
    intro as bs ha hb
    obtain rfl := List.length_eq_zero_iff.mp ha
    obtain rfl := List.length_eq_zero_iff.mp hb
    rfl
  | cons m mask ih =>
    intro as bs ha hb
    match as, bs, ha, hb with
    | a :: as, b :: bs, ha, hb =>
      cases m
      · exact (uxLoop_cons a b mask 0 as bs).trans (by rw [ih as bs (Nat.succ.inj ha) (Nat.succ.inj hb)]; rfl)
      · exact (uxLoop_cons b a mask 0 as bs).trans (by rw [ih as bs (Nat.succ.inj ha) (Nat.succ.inj hb)]; rfl)

theorem uniformCrossover_eq (p1 p2 : List α) (mask : List Bool) (hl : p1.length = p2.length)
    (hm : mask.length = p1.length) : uniformCrossover p1 p2 mask = some (uxSpec p1 p2 mask) := by
  rw [uniformCrossover, if_neg (Nat.not_lt.mpr (Nat.le_of_eq hm.symm)),
    if_neg (Nat.not_lt.mpr (Nat.le_of_eq (hl.symm.trans hm.symm)))]
  exact uxLoop_spec mask p1 p2 hm.symm (hl.symm.trans hm.symm)

theorem uxSpec_positionwise (p1 p2 : List α) (mask : List Bool) (hl : p1.length = p2.length)
    (hm : mask.length = p1.length) :
    (uxSpec p1 p2 mask).1.length = p1.length ∧ (uxSpec p1 p2 mask).2.length = p1.length ∧
      ∀ k (hk : k < p1.length),
        (uxSpec p1 p2 mask).1[k]? = (if mask[k]'(hm ▸ hk) then p2[k]? else p1[k]?) ∧
        (uxSpec p1 p2 mask).2[k]? = (if mask[k]'(hm ▸ hk) then p1[k]? else p2[k]?) := by
  refine ⟨length_zipWith_zip _ mask p1 p2 hl hm, length_zipWith_zip _ mask p1 p2 hl hm, fun k hk => ?_⟩
  rw [uxSpec, getElem?_zipWith_zip _ mask p1 p2 k (hm ▸ hk) hk (hl ▸ hk), getElem?_zipWith_zip _ mask p1 p2 k (hm ▸ hk) hk (hl ▸ hk),
    List.getElem?_eq_getElem hk, List.getElem?_eq_getElem (hl ▸ hk)]
  cases mask[k] <;> exact ⟨rfl, rfl⟩

/-! ### multi-point crossover -/

theorem getElem?_take_append_drop (a b : List α) (n k : Nat) (h : n ≤ a.length) :
    (a.take n ++ b.drop n)[k]? = if n ≤ k then b[k]? else a[k]? := by
  have hl : (a.take n).length = n := List.length_take_of_le h
  split
  · next hk => rw [List.getElem?_append_right (Nat.le_trans (Nat.le_of_eq hl) hk), hl, List.getElem?_drop, Nat.add_sub_cancel' hk]
  · next hk => rw [List.getElem?_append_left (hl.symm ▸ Nat.lt_of_not_le hk), List.getElem?_take_of_lt (Nat.lt_of_not_le hk)]

theorem swapTails_spec (c1 c2 : List α) (idx : Nat) (hl : c1.length = c2.length) (hi : idx ≤ c1.length) :
    ∃ d1 d2, swapTails c1 c2 idx = some (d1, d2) ∧ d1.length = c1.length ∧ d2.length = c1.length ∧
      ∀ k, d1[k]? = (if idx ≤ k then c2[k]? else c1[k]?) ∧ d2[k]? = (if idx ≤ k then c1[k]? else c2[k]?) := by
  have h1 : ¬ (c1.length < idx ∨ c2.length < idx) := fun h => h.elim (Nat.not_lt.mpr hi) (Nat.not_lt.mpr (hl ▸ hi))
  have h2 : ¬ (c1.length - idx ≠ c2.length - idx) := Classical.not_not.mpr (by rw [hl])
  refine ⟨_, _, by simp only [swapTails, h1, h2, if_false], ?_, ?_, fun k =>
    ⟨getElem?_take_append_drop c1 c2 idx k hi, getElem?_take_append_drop c2 c1 idx k (hl ▸ hi)⟩⟩
  · rw [List.length_append, List.length_take_of_le hi, List.length_drop, ← hl, Nat.add_sub_cancel' hi]
  · rw [List.length_append, List.length_take_of_le (hl ▸ hi), List.length_drop, Nat.add_sub_cancel' hi]

theorem mpxLoop_spec (p1 p2 : List α) (n : Nat) (hp : p1.length = p2.length) (idxs : List Nat) :
    ∀ (i : Nat) (c1 c2 : List α), c1.length = c2.length → (∀ x ∈ idxs, x ≤ c1.length) →
    ∃ d1 d2, mpxLoop p1 p2 n i idxs (c1, c2) = some (d1, d2) ∧ d1.length = c1.length ∧ d2.length = c1.length ∧
      ∀ k, d1[k]? = (if idxs.countP (· ≤ k) % 2 = 1 then c2[k]? else c1[k]?) ∧
           d2[k]? = (if idxs.countP (· ≤ k) % 2 = 1 then c1[k]? else c2[k]?) := by
  induction idxs with
  | nil => intro i c1 c2 hl _; exact ⟨c1, c2, rfl, rfl, hl.symm, fun k => ⟨rfl, rfl⟩⟩
  | cons idx rest ih =>
    intro i c1 c2 hl hr
    obtain ⟨e1, e2, hs, l1, l2, hk⟩ := swapTails_spec c1 c2 idx hl (hr idx List.mem_cons_self)
    obtain ⟨d1, d2, hd, m1, m2, hk2⟩ := ih (i + 1) e1 e2 (l1.trans l2.symm)
      (fun x hx => l1 ▸ hr x (List.mem_cons_of_mem _ hx))
    refine ⟨d1, d2, ?_, m1.trans l1, m2.trans l1, fun k => ?_⟩
    · simp only [mpxLoop, hp, ne_eq, not_true_eq_false, if_false, hs, hd]
    · -- one more cut point `≤ k` flips the parity
      rw [(hk2 k).1, (hk2 k).2, (hk k).1, (hk k).2, List.countP_cons]
      by_cases hi : idx ≤ k
      · rcases Nat.mod_two_eq_zero_or_one (rest.countP (· ≤ k)) with hP | hP <;>
          simp [hi, hP, Nat.add_mod]
      · simp [hi]

/-! ### arithmetic crossover -/

section Arith
variable {F : Type} [Add F] [Sub F] [Mul F] [OfNat F 1]

/-- closed form of `arithmetic_crossover` on parents and alphas of one length. -/
def axSpec (p1 p2 al : List F) : List F × List F :=
  (al.zipWith (fun t (ab : F × F) => t * ab.1 + (1 - t) * ab.2) (p1.zip p2),
   al.zipWith (fun t (ab : F × F) => t * ab.2 + (1 - t) * ab.1) (p1.zip p2))

theorem axLoop_cons (x y : F) (al : List F) : ∀ (i : Nat) (as bs c1 c2 : List F),
    axLoop (i + 1) as bs al (x :: c1, y :: c2) =
      (x :: (axLoop i as bs al (c1, c2)).1, y :: (axLoop i as bs al (c1, c2)).2) := by
  induction al with
  | nil => intro i as bs c1 c2; cases as <;> cases bs <;> rfl
  | cons t al ih =>
    intro i as bs c1 c2
    match as, bs with
    | [], _ | _ :: _, [] => rfl
    | a :: as, b :: bs => exact ih (i + 1) as bs _ _

theorem axLoop_spec (al : List F) : ∀ (as bs : List F), as.length = al.length → bs.length = al.length →
    axLoop 0 as bs al (as, bs) = axSpec as bs al := by
  induction al with
  | nil =>
    intro as bs ha hb
    obtain rfl := List.length_eq_zero_iff.mp ha
    obtain rfl := List.length_eq_zero_iff.mp hb
    rfl
  | cons t al ih =>
    intro as bs ha hb
    match as, bs, ha, hb with
    | a :: as, b :: bs, ha, hb =>
      exact (axLoop_cons _ _ al 0 as bs as bs).trans (by rw [ih as bs (Nat.succ.inj ha) (Nat.succ.inj hb)]; rfl)

theorem arithmeticCrossover_eq (p1 p2 al : List F) (h1 : p1.length = p2.length) (h2 : al.length = p1.length) :
    arithmeticCrossover p1 p2 al = some (axSpec p1 p2 al) := by
  rw [arithmeticCrossover, if_neg (Nat.not_lt.mpr (Nat.le_of_eq h2.symm)),
    if_neg (Nat.not_lt.mpr (Nat.le_of_eq (h1.symm.trans h2.symm)))]
  exact congrArg some (axLoop_spec al p1 p2 h2.symm (h1.symm.trans h2.symm))
end Arith

end MahfModel.Variation
