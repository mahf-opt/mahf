/- C01: the guard-returning accessors and `*entry().or_insert(v) = w` as operations (`Model/RegistryX.lean`). A read accessor
is `try_get_value` and leaves the registry as it was (`readGuard_eq`), `set_value` is the write accessor with the error
forgotten (`setValue_eq_writeGuard`); with the found / absent equations of `writeGuard` and `orInsertW` the extended step
refines the stack of maps (`xstep_refines`). -/
import MahfModel.Proofs.C01Refine
import MahfModel.Model.RegistryX
namespace MahfModel.RegistryX
open MahfModel.Registry

/-- `try_borrow`, read, drop is `try_get_value`, and the registry is as before. -/
theorem readGuard_eq (r : Reg) (k : Key) : readGuard r k = (r, tryGetValue r k) := by
  unfold readGuard tryGetValue
  cases hb : tryBorrow r k with
  | error e => rfl
  | ok x =>
    obtain ⟨r1, i⟩ := x
    obtain ⟨c, _, hc, hw, _, rfl⟩ := tryBorrow_ok r r1 k false i hb
    simp only [cellAt_set r i k c _ hc]
    rw [grant_release r i k c false hc hw]

/-- `set_value` is `try_borrow_value_mut` + swap, with the error forgotten. -/
theorem setValue_eq_writeGuard (r : Reg) (k : Key) (v : Nat) :
    setValue r k v = ((writeGuard r k v).1, match (writeGuard r k v).2 with | .ok x => some x | .error _ => none) := by
  unfold setValue writeGuard
  cases tryBorrowMut r k with
  | error e => rfl
  | ok p =>
    obtain ⟨r1, i⟩ := p
    simp only
    cases cellAt r1 i k <;> rfl

theorem writeGuard_found (r : Reg) (k : Key) (v : Nat) (i : Nat) (c : Cell) (h : quiet r = true)
    (hf : find r k = some i) (hc : cellAt r i k = some c) :
    writeGuard r k v = (writeAt r i k (fun _ => v), .ok c.val) := by
  -- the registry is the one `set_value` leaves; the answer is the old value, since the borrow succeeds
  have hs := setValue_quiet r k v i c h hf hc
  rw [setValue_eq_writeGuard] at hs
  have h1 : (writeGuard r k v).1 = writeAt r i k (fun _ => v) := congrArg Prod.fst hs
  have h2 : (writeGuard r k v).2 = .ok c.val := by
    simp [writeGuard, show tryBorrowMut r k = _ from tryBorrow_quiet r k i c true h hf hc, cellAt_set r i k c _ hc,
      grantedCell]
  exact Prod.ext h1 h2

theorem writeGuard_absent (r : Reg) (k : Key) (v : Nat) (hf : find r k = none) :
    writeGuard r k v = (r, .error .notFound) := by
  simp [writeGuard, tryBorrowMut, hf]

theorem orInsertW_found (r : Reg) (i : Nat) (k : Key) (v w : Nat) (c : Cell) (hq : quiet r = true)
    (hc : cellAt r i k = some c) : orInsertW r (i, true) k v w = (writeAt r i k (fun _ => w), .val c.val) := by
  simp [orInsertW, occWrite_quiet r i k _ c hq hc]

theorem Scope.modify_put (s : Scope) (k : Key) (c : Cell) (f : Cell → Cell) :
    (s.put k c).modify k f = s.put k (f c) := by
  simp [Scope.put, Scope.modify]

theorem orInsertW_absent (r : Reg) (k : Key) (v w : Nat) :
    orInsertW r (0, false) k v w = (modifyAt r 0 (·.put k (fresh w)), .val v) := by
  simp only [orInsertW, vacInsert, Bool.false_eq_true, if_false, writeAt, modifyAt_modifyAt]
  congr 2
  funext s
  simp [Scope.modify_put, fresh]

theorem xstep_base (r : Reg) (o : ROp) : xstep r (.base o) = step r o := by simp only [xstep]
theorem xspecStep_base (sp : Spec) (o : ROp) : xspecStep sp (.base o) = specStep sp o := by simp only [xspecStep]

def XRefines (r : Reg) (op : XOp) : Prop :=
  Inv (xstep r op).1 ∧ (xstep r op).2 = (xspecStep (abs r) op).2 ∧ abs (xstep r op).1 = (xspecStep (abs r) op).1

theorem xstep_refines (r : Reg) (op : XOp) (h : Inv r) : XRefines r op := by
  have ⟨hne, hq⟩ := h
  have hw : ∀ k v, XRefines r (.borMut k v) ∧ XRefines r (.tryBorMut k v) := fun k v => by
    rcases resolve r k with ⟨hf, hl, hd, hn⟩ | ⟨i, c, hf, hi, hc, hl, hd, hh⟩
    · simp [XRefines, xstep, xspecStep, writeGuard_absent r k v hf, hl, Out.orPanic, Out.ofRes, h]
    · simp [XRefines, xstep, xspecStep, writeGuard_found r k v i c hq hf hc, hl, Out.orPanic, Out.ofRes,
        inv_writeAt r i k _ h, abs_writeAt r k i c _ hf hc]
  have hins : ∀ k v w, XRefines r (.entOrInsW k v w) := fun k v w => by
    rcases resolve r k with ⟨hf, hl, hd, hn⟩ | ⟨i, c, hf, hi, hc, hl, hd, hh⟩
    · have hp := abs_put_top r k (fresh w) hne
      simp [XRefines, xstep, xspecStep, entry_absent r k hf, orInsertW_absent, hl, inv_put_at r 0 k _ h, hp]
    · simp [XRefines, xstep, xspecStep, entry_found r k i hf, orInsertW_found r i k _ w c hq hc, hl,
        inv_writeAt r i k _ h, abs_writeAt r k i c _ hf hc]
  cases op with
  | base o => rw [XRefines, xstep_base, xspecStep_base]; exact step_refines r o h
  | bor k | tryBor k | bval k | tryBval k =>
    simp only [XRefines, xstep, xspecStep, readGuard_eq, tryGetValue_quiet r k hq]
    refine ⟨h, ?_, trivial⟩
    cases (abs r).lookup k <;> rfl
  -- `borrow_value_mut` is `borrow_mut`, `or_default` is `or_insert(0)`: the model and the stack have one arm for each pair
  | borMut k v | bvalMut k v => exact (hw k v).1
  | tryBorMut k v | tryBvalMut k v => exact (hw k v).2
  | entOrInsW k v w => exact hins k v w
  | entOrDefW k w => exact hins k 0 w

end MahfModel.RegistryX
