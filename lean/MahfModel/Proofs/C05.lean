/- C05, no stale objective values: `Valid f i` (a cached value is `f` of the solution) and the one walk of `pmStep`. The walk
never looks at what `Valid f` means, only that it holds of unevaluated individuals and of `i.evaluateWith f` (`Closed f P`), so
it is stated for every such property of individuals (`PM.All P`, `pmStep_all`), whatever `<` is. -/
import MahfModel.Proofs.PopMachine
import MahfModel.Proofs.ListIndex
namespace MahfModel.PopMachine

variable {O : Type}

/-- An individual is valid for `f` if its cached objective value, when present, is `f` of its solution. -/
def Valid (f : Nat → O) (i : Ind O) : Prop := ∀ o, i.obj = some o → o = f i.sol

def AllValid (f : Nat → O) (p : List (Ind O)) : Prop := ∀ i ∈ p, Valid f i

/-- Validity of everything the machine holds: every population, the best-so-far, the archive. -/
def AllValidPM (f : Nat → O) (pm : PM O) : Prop :=
  (∀ p ∈ pm.stack, AllValid f p) ∧ (∀ b, pm.best = some b → Valid f b) ∧ AllValid f pm.archive

/-- `P` holds of every individual the machine holds (`AllValidPM f` is `PM.All (Valid f)`). -/
def PM.All (P : Ind O → Prop) (pm : PM O) : Prop :=
  (∀ p ∈ pm.stack, ∀ i ∈ p, P i) ∧ (∀ b, pm.best = some b → P b) ∧ ∀ i ∈ pm.archive, P i

theorem PM.All.top {P : Ind O → Prop} {pm : PM O} (h : PM.All P pm) {p : List (Ind O)} {rest : List (List (Ind O))}
    (hst : pm.stack = p :: rest) : (∀ i ∈ p, P i) ∧ ∀ q ∈ rest, ∀ i ∈ q, P i :=
  List.forall_mem_cons.mp (hst ▸ h.1)

/-- What a property of individuals needs in order to survive every step of the machine: it holds of unevaluated
individuals and of individuals evaluated with `f`. `Valid f` is one; "unevaluated, carrying `f sol`, or an individual of
the state `x`" (the driver's `freshOrCopy`) is another. -/
structure Closed (f : Nat → O) (P : Ind O → Prop) : Prop where
  uneval : ∀ i : Ind O, i.obj = none → P i
  eval : ∀ i : Ind O, P (i.evaluateWith f)

theorem valid_of_unevaluated (f : Nat → O) (i : Ind O) (h : i.obj = none) : Valid f i := by
  intro o ho; rw [h] at ho; cases ho

/-- An individual whose cached value is `o` is valid iff `o` is `f` of its solution. -/
theorem valid_mk_iff (f : Nat → O) (s : Nat) (o : O) : Valid f ⟨s, some o⟩ ↔ o = f s :=
  ⟨fun h => h o rfl, fun h _ ho' => Option.some.inj ho' ▸ h⟩

theorem valid_evaluateWith (f : Nat → O) (i : Ind O) : Valid f (i.evaluateWith f) :=
  (valid_mk_iff f i.sol (f i.sol)).mpr rfl

theorem closed_valid (f : Nat → O) : Closed f (Valid f) := ⟨valid_of_unevaluated f, valid_evaluateWith f⟩

theorem valid_solutionMut (f : Nat → O) (i : Ind O) (w : Option Nat) : Valid f (i.solutionMut w) :=
  valid_of_unevaluated f _ rfl

theorem valid_clone (f : Nat → O) (i : Ind O) (h : Valid f i) : Valid f i.clone := by
  cases i; exact h

theorem allValid_append (f : Nat → O) (p q : List (Ind O)) : AllValid f (p ++ q) ↔ AllValid f p ∧ AllValid f q :=
  List.forall_mem_append

theorem allValid_cons (f : Nat → O) (i : Ind O) (p : List (Ind O)) : AllValid f (i :: p) ↔ Valid f i ∧ AllValid f p := by
  simp [AllValid]

theorem allValid_nil (f : Nat → O) : AllValid f ([] : List (Ind O)) := fun _ h => nomatch h

theorem asSolutionsMut_unevaluated (p : List (Ind O)) (ws : List (Option Nat)) : ∀ i ∈ asSolutionsMut p ws, i.obj = none := by
  induction p generalizing ws with
  | nil => exact fun _ h => nomatch h
  | cons i is ih => cases ws <;> exact List.forall_mem_cons.mpr ⟨rfl, ih _⟩

theorem asSolutionsMut_length (p : List (Ind O)) (ws : List (Option Nat)) : (asSolutionsMut p ws).length = p.length := by
  induction p generalizing ws with
  | nil => rfl
  | cons i is ih => cases ws <;> exact congrArg (· + 1) (ih _)

theorem intoIndividuals_unevaluated (ss : List Nat) : ∀ i ∈ (intoIndividuals ss : List (Ind O)), i.obj = none := by
  intro i hi
  obtain ⟨s, _, rfl⟩ := List.mem_map.mp hi
  rfl

theorem pick_mem (p : List (Ind O)) (idx : List Nat) : ∀ x ∈ pick p idx, x ∈ p := by
  intro x hx
  obtain ⟨k, _, hk⟩ := List.mem_filterMap.mp hx
  obtain ⟨y, hy, rfl⟩ := Option.map_eq_some_iff.mp hk
  exact (Ind.clone_eq y).symm ▸ List.mem_of_getElem? hy

theorem zipWith_cloneFrom (p src : List (Ind O)) : List.zipWith Ind.cloneFrom p src = src.take p.length := by
  induction p generalizing src with
  | nil => rfl
  | cons x xs ih =>
    cases src with
    | nil => rfl
    | cons y ys => rw [List.zipWith_cons_cons, ih, Ind.cloneFrom_eq]; rfl

theorem vecCloneFrom_eq (p src : List (Ind O)) : vecCloneFrom p src = src := by
  rw [vecCloneFrom, zipWith_cloneFrom, (List.map_congr_left fun i _ => Ind.clone_eq i).trans (List.map_id _),
    List.take_append_drop]

theorem intoSingle_mem (p : List (Ind O)) (i : Ind O) (h : intoSingle p = .ok i) : i ∈ p := by
  match p, h with
  | [x], h => simp [intoSingle] at h; simp [h]

section Step
variable [LT O] [DecidableLT O] [DecidableEq O]

/-- Every step of the machine hands on what holds of every individual: the individuals afterwards are unevaluated,
evaluated with `f`, or individuals of the state before. -/
theorem pmStep_all {P : Ind O → Prop} (f : Nat → O) (hP : Closed f P) (pm pm' : PM O) (op : PMOp)
    (hv : PM.All P pm) (hs : pmStep f pm op = some pm') : PM.All P pm' := by
  have top := @hv.top
  obtain ⟨hstack, hbest, harch⟩ := hv
  have newStack : ∀ s, (∀ q ∈ s, ∀ i ∈ q, P i) → PM.All P { pm with stack := s } := fun s h => ⟨h, hbest, harch⟩
  have fresh : ∀ ss : List Nat, ∀ i ∈ (intoIndividuals ss : List (Ind O)), P i :=
    fun ss i hi => hP.uneval i (intoIndividuals_unevaluated ss i hi)
  revert hs
  fun_cases pmStep f pm op <;> intro hs
  -- not delegated to a step function: a panic, or `pm'` is explicit
  any_goals cases hs
  · -- `init`
    exact newStack _ (List.forall_mem_cons.mpr ⟨fresh _, hstack⟩)
  · -- `select`
    exact newStack _ (List.forall_mem_cons.mpr ⟨fun i hi => (top ‹_›).1 i (pick_mem _ _ i hi), ‹pm.stack = _› ▸ hstack⟩)
  · -- `mutate`
    exact newStack _ (List.forall_mem_cons.mpr ⟨fun i hi => hP.uneval i (asSolutionsMut_unevaluated _ _ i hi), (top ‹_›).2⟩)
  · -- `recombine`
    exact newStack _ (List.forall_mem_cons.mpr ⟨fresh _, (top ‹_›).2⟩)
  · -- `moveEval`
    exact ⟨List.forall_mem_cons.mpr ⟨forall_mem_set (top ‹_›).1 (hP.eval _), (top ‹_›).2⟩, hbest, harch⟩
  · -- `eval`
    cases hst : pm.stack with
    | nil => rw [evalStep_nil f pm hst]; exact ⟨hstack, hbest, harch⟩
    | cons p rest =>
      rw [evalStep_cons f pm p rest hst]
      exact ⟨List.forall_mem_cons.mpr ⟨List.forall_mem_map.mpr fun j _ => hP.eval j, (top hst).2⟩, hbest, harch⟩
  · -- `bestUpdate`
    obtain ⟨p, rest, hst, ⟨_, rfl⟩ | ⟨c, b', r, hbi, hr, rfl⟩⟩ := bestUpdateStep_some hs
    · exact ⟨hstack, hbest, harch⟩
    · refine ⟨hstack, fun b hb => ?_, harch⟩
      rcases bestUpdate_cases pm.best b' c r hr with h | h
      · obtain rfl : c = b := Option.some.inj (h.symm.trans hb)
        exact (top hst).1 c (bestIndividual_mem p c hbi)
      · exact hbest b (h ▸ hb)
  · -- `archiveUpdate`
    obtain ⟨p, rest, a, hst, ha, rfl⟩ := archiveUpdateStep_some hs
    exact ⟨hstack, hbest, fun x hx =>
      (List.mem_append.mp (archiveUpdate_mem pm.archive p a _ ha x hx)).elim (harch x) ((top hst).1 x)⟩
  · -- `archiveInto`
    obtain ⟨p, rest, hst, rfl⟩ := archiveIntoStep_some hs
    exact ⟨List.forall_mem_cons.mpr
      ⟨fun x hx => (archiveInto_mem pm.archive p x hx).elim ((top hst).1 x) (harch x), (top hst).2⟩, hbest, harch⟩
  · -- `replace`
    obtain ⟨hoff, hrest⟩ := top ‹_›
    obtain ⟨hpar, hrest⟩ := List.forall_mem_cons.mp hrest
    exact newStack _ (List.forall_mem_cons.mpr
      ⟨fun i hi => (List.mem_append.mp (pick_mem _ _ i hi)).elim (hpar i) (hoff i), hrest⟩)
  · -- `pop`
    exact newStack _ (top ‹_›).2

end Step

end MahfModel.PopMachine
