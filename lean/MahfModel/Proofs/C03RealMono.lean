/-
C03 over the shipped conditions — what a run keeps of the caller's scopes: relational invariants of programs (`RInv`,
`rsrun_pres`); the depth; and `Mono k`: every scope that holds a `k` still holds one, also through `State::holding`,
which takes a state out of the scope that owns it and puts it back (`takeAt` / `putAt`, on the column of the key:
`col_takeAt`, `col_putAt`).
-/
import MahfModel.Proofs.C03RealSeq
import MahfModel.Proofs.C03Stable
namespace MahfModel.ConfigReal
open MahfModel.Config

/-! ### Generic relational invariants of the structured language -/

structure RInv (s : Script) (trg : RConds) (φ : ROp → Bool) (P : St → St → Prop) : Prop where
  refl : ∀ σ, P σ σ
  trans : ∀ a b c, P a b → P b c → P a c
  op : ∀ o, φ o = true → ∀ σ, P σ (ropRun s trg o σ).1
  cond : ∀ c σ, P σ (rcondEval s c σ).1
  scope : ∀ σ σ2, P (push σ) σ2 → P σ (pop σ2)

theorem rcbind_pres {P : St → St → Prop} (htr : ∀ a b c, P a b → P b c → P a c)
    {x : St × RCRes} {k : Bool → St → St × RCRes} {σ : St} (h1 : P σ x.1) (h2 : ∀ b σ1, P σ1 (k b σ1).1) :
    P σ (rcbind x k).1 := by
  obtain ⟨σ1, b | _ | _⟩ := x
  · exact htr _ _ _ h1 (h2 b σ1)
  all_goals exact h1

theorem rcthen_pres {P : St → St → Prop} (htr : ∀ a b c, P a b → P b c → P a c)
    {x : St × RCRes} {k : Bool → St → St × Res} {σ : St} (h1 : P σ x.1) (h2 : ∀ b σ1, P σ1 (k b σ1).1) :
    P σ (rcthen x k).1 := by
  obtain ⟨σ1, b | _ | _⟩ := x
  · exact htr _ _ _ h1 (h2 b σ1)
  all_goals exact h1

theorem rwhileN_pres {P : St → St → Prop} (hrefl : ∀ σ, P σ σ) (htr : ∀ a b c, P a b → P b c → P a c)
    {cond : St → St × RCRes} {body : St → St × Res}
    (hc : ∀ σ, P σ (cond σ).1) (hb : ∀ σ, P σ (body σ).1) :
    ∀ (n : Nat) (σ : St), P σ (rwhileN cond body n σ).1 := by
  intro n
  induction n with
  | zero => exact hrefl
  | succ n ih =>
    intro σ
    rw [rwhileN_succ]
    refine rcthen_pres htr (hc σ) fun b σ1 => ?_
    cases b
    · exact hrefl σ1
    · exact andThen_pres (Seq.ofRel hrefl htr) (hb σ1) ih

theorem rsrun_pres {s : Script} {trg : RConds} {φ : ROp → Bool} {P : St → St → Prop}
    (I : RInv s trg φ P) (f : Nat) (p : RStmt) (h : p.all φ = true) (σ : St) : P σ (rsrun s trg f p σ).1 := by
  induction p generalizing σ with
  | skip => exact I.refl σ
  | atom o => exact I.op o h σ
  | seq a b iha ihb =>
    have h := Bool.and_eq_true_iff.mp h
    exact andThen_pres (Seq.ofRel I.refl I.trans) (iha h.1 σ) (ihb h.2)
  | loop c b ih => exact rwhileN_pres I.refl I.trans (I.cond c) (ih h) f σ
  | ite c t e iht ihe =>
    have h := Bool.and_eq_true_iff.mp h
    rw [rsrun_ite]
    refine rcthen_pres I.trans (I.cond c σ) fun b σ1 => ?_
    cases b
    · exact ihe h.2 σ1
    · exact iht h.1 σ1
  | inScope b ih => exact I.scope _ _ (ih h (push σ))

/-! ### `takeAt` / `putAt`: a state is taken out of the scope that owns it and put back there -/

/-- Induction along the search of `takeAt`: found in the innermost scope, or not there and found
further out. -/
theorem takeAt_ind {k : Nat} {P : Reg → Nat → Nat → Reg → Prop}
    (here : ∀ m r v, m.get? k = some v → P (m :: r) 0 v (m.erase k :: r))
    (there : ∀ m r i v r', m.get? k = none → P r i v r' → P (m :: r) (i + 1) v (m :: r')) :
    ∀ (r : Reg) (i v : Nat) (r1 : Reg), takeAt r k = some (i, v, r1) → P r i v r1 := by
  intro r i v r1 h
  -- cases: empty; state in the innermost scope; found further out; found nowhere
  fun_induction takeAt r k generalizing i v r1 with
  | case1 | case4 => cases h
  | case2 m r k v hm => cases h; exact here m r v hm
  | case3 m r k hm i v r' ht ih => cases h; exact there m r i v r' hm (ih here there i v r' ht)

theorem takeAt_length (r : Reg) (k i v : Nat) (r1 : Reg) (h : takeAt r k = some (i, v, r1)) :
    r1.length = r.length ∧ i < r.length :=
  takeAt_ind (P := fun r i _ r1 => r1.length = r.length ∧ i < r.length)
    (fun _ _ _ _ => ⟨rfl, Nat.zero_lt_succ _⟩)
    (fun _ _ _ _ _ _ ih => ⟨congrArg (· + 1) ih.1, Nat.succ_lt_succ ih.2⟩) r i v r1 h

theorem takeAt_get (r : Reg) (k i v : Nat) (r1 : Reg) (h : takeAt r k = some (i, v, r1)) : r.get? k = some v :=
  takeAt_ind (P := fun r _ v _ => r.get? k = some v)
    (fun m r v hm => by rw [Reg.get?_cons, hm]; rfl)
    (fun m r _ v _ hm ih => by rw [Reg.get?_cons, hm]; exact ih) r i v r1 h

theorem takeAt_none : ∀ (r : Reg) (k : Nat), takeAt r k = none → r.get? k = none := by
  intro r k h
  -- cases: empty; state in the innermost scope; found further out; found nowhere
  fun_induction takeAt r k with
  | case1 => rfl
  | case2 | case3 => cases h
  | case4 m r k hm ht ih => rw [Reg.get?_cons, hm]; exact ih ht

theorem putAt_length : ∀ (r : Reg) (i k v : Nat), (putAt r i k v).length = r.length
  | [], _, _, _ => rfl
  | _ :: _, 0, _, _ => rfl
  | _ :: r, i + 1, k, v => congrArg (· + 1) (putAt_length r i k v)

/-- Taking `k` out of the scope at level `i` empties that entry of its column. -/
theorem col_takeAt {k : Nat} (k' : Nat) (r : Reg) (i v : Nat) (r1 : Reg) (h : takeAt r k = some (i, v, r1)) :
    Reg.col r1 k' = if k = k' then (Reg.col r k').set i none else Reg.col r k' :=
  takeAt_ind (P := fun r i _ r1 => Reg.col r1 k' = if k = k' then (Reg.col r k').set i none else Reg.col r k')
    (fun m r v _ => by
      show (m.erase k).get? k' :: Reg.col r k' = _
      rw [Scope.get_erase]; split <;> rfl)
    (fun m r i v r' _ ih => by
      show m.get? k' :: Reg.col r' k' = _
      rw [ih]; split <;> rfl) r i v r1 h

theorem col_putAt (r : Reg) (i k v k' : Nat) :
    Reg.col (putAt r i k v) k' = if k = k' then (Reg.col r k').set i (some v) else Reg.col r k' := by
  induction r generalizing i with
  | nil => exact (ite_self _).symm
  | cons m r ih =>
    cases i with
    | zero => show (m.put k v).get? k' :: Reg.col r k' = _; rw [Scope.get_put]; split <;> rfl
    | succ i => show m.get? k' :: Reg.col (putAt r i k v) k' = _; rw [ih]; split <;> rfl

theorem putAt_get (k v : Nat) (r : Reg) (i : Nat) (h : i < r.length) :
    ∃ m, (putAt r i k v)[i]? = some m ∧ m.get? k = some v := by
  -- the column of `k` at level `i`
  have := congrArg (·[i]?) (col_putAt r i k v k)
  rw [if_pos rfl, List.getElem?_set_self (by rwa [Reg.col, List.length_map]), Reg.col, List.getElem?_map] at this
  exact Option.map_eq_some_iff.mp this

-- emptying and filling the entry at level `i` of a column, for `HasAt` read off the column (`Covers`)
theorem _root_.MahfModel.Config.Covers.take {L : List Bool} {c : List (Option Nat)} (h : Covers L c) (i : Nat) :
    Covers (L.set i false) (c.set i none) := by
  induction L generalizing c i with
  | nil => trivial
  | cons l L ih =>
    cases c with
    | nil => cases i <;> trivial
    | cons x c =>
      cases i with
      | zero => exact ⟨(fun e => nomatch e), h.2⟩
      | succ i => exact ⟨h.1, ih h.2 i⟩

theorem _root_.MahfModel.Config.Covers.give {L : List Bool} {c : List (Option Nat)} {i : Nat} (h : Covers (L.set i false) c) (v : Nat) :
    Covers L (c.set i (some v)) := by
  induction L generalizing c i with
  | nil => trivial
  | cons l L ih =>
    cases c with
    | nil => trivial
    | cons x c =>
      cases i with
      | zero => exact ⟨fun _ => rfl, h.2⟩
      | succ i => exact ⟨h.1, ih h.2⟩

/-! ### Scope by scope: a state that a scope holds stays in that scope -/

/-- The depth is kept and every scope that holds a `k` still holds one. -/
def Mono (k : Nat) (r r' : Reg) : Prop := r'.length = r.length ∧ ∀ L, HasAt k L r → HasAt k L r'

theorem mono_refl (k : Nat) (r : Reg) : Mono k r r := ⟨rfl, fun _ h => h⟩

theorem mono_trans {k : Nat} {a b c : Reg} (h1 : Mono k a b) (h2 : Mono k b c) : Mono k a c :=
  ⟨h2.1.trans h1.1, fun L h => h2.2 L (h1.2 L h)⟩

theorem mono_insert (k k' v : Nat) (r : Reg) : Mono k r (r.insert k' v) :=
  ⟨Reg.length_insert r k' v, fun L h => (stable_hasAt k L true).insert rfl .init k' v r rfl h⟩

theorem mono_setv (k k' v : Nat) (r : Reg) : Mono k r (r.setv k' v) :=
  ⟨Reg.length_setv r k' v, fun L h => (stable_hasAt k L true).setv .init k' v r rfl h⟩

theorem mono_apply (k : Nat) (ph : Phase) (a : Act) (ha : a.keeps k = true) (r : Reg) : Mono k r (a.apply ph r) :=
  ⟨length_apply ph a r, fun L h => kept_apply ph a ha r _ (stable_hasAt k L true) h⟩

theorem mono_applyActs (k : Nat) (ph : Phase) (acts : List Act) (ha : acts.all (Act.keeps k) = true) (r : Reg) :
    Mono k r (applyActs ph acts r) :=
  applyActs_pres (mono_refl k) (fun _ _ _ => mono_trans) (mono_apply k ph) acts ha r

/-- `Mono` lifted to interpreter states. -/
def MonoS (k : Nat) (σ σ' : St) : Prop := Mono k σ.reg σ'.reg

theorem monoS_trans (k : Nat) : ∀ a b c : St, MonoS k a b → MonoS k b c → MonoS k a c :=
  fun _ _ _ h1 h2 => mono_trans h1 h2

theorem rcondPhase_mono (k : Nat) (s : Script) (ph : Phase) :
      ∀ (c : RCond) (σ : St), MonoS k σ (rcondPhase s ph c σ).1 := by
  intro c
  induction c using RCond.ind with
  | script id =>
    exact step_pres (mono_refl k) s (ph, id) fun r _ h => Option.some.inj h ▸ mono_refl k r
  | ltN lens n =>
    intro σ
    rw [rcondPhase]; split
    · exact mono_insert k _ _ σ.reg
    · exact mono_refl k _
  | everyN | chance | all_nil | any_nil => exact fun _ => mono_refl k _
  | not c ih => exact ih
  | all_cons c cs ihc ihcs | any_cons c cs ihc ihcs => exact fun σ => andThen_pres (Seq.ofRel (fun σ => mono_refl k σ.reg) (monoS_trans k)) (ihc σ) ihcs

theorem rcondsPhase_mono (k : Nat) (s : Script) (ph : Phase) (cs : RConds) (σ : St) :
    MonoS k σ (rcondsPhase s ph cs σ).1 :=
  rcondPhase_mono k s ph (.all cs) σ

theorem rcondEval_mono (k : Nat) (s : Script) (c : RCond) : ∀ (σ : St), MonoS k σ (rcondEval s c σ).1 := by
  induction c using RCond.ind with
  | script id => exact fun σ => by simp only [rcondEval, scriptEval]; split <;> exact mono_refl k _
  | ltN lens n =>
    intro σ
    show MonoS k σ (ltEval lens n σ).1
    unfold ltEval; split
    · exact mono_refl k _
    · exact mono_setv k _ _ σ.reg
  | everyN n => exact fun σ => by simp only [rcondEval, everyEval]; split <;> exact mono_refl k _
  | chance b => exact fun σ => by simp only [rcondEval, chanceEval]; split <;> exact mono_refl k _
  | not c ih =>
    exact fun σ => by rw [rcondEval_not]; exact rcbind_pres (monoS_trans k) (ih σ) fun _ _ => mono_refl k _
  | all_nil | any_nil => exact fun _ => mono_refl k _
  | all_cons c cs ihc ihcs =>
    intro σ
    rw [rcondEval_all_cons]
    exact rcbind_pres (monoS_trans k) (ihc σ) fun _ σ1 => rcbind_pres (monoS_trans k) (ihcs σ1) fun _ _ => mono_refl k _
  | any_cons c cs ihc ihcs =>
    intro σ
    rw [rcondEval_any_cons]
    exact rcbind_pres (monoS_trans k) (ihc σ) fun _ σ1 => rcbind_pres (monoS_trans k) (ihcs σ1) fun _ _ => mono_refl k _

theorem revalAll_mono (k : Nat) (s : Script) : ∀ (cs : RConds) (σ : St), MonoS k σ (revalAll s cs σ).1 :=
  fun cs => rcondEval_mono k s (.all cs)

theorem revalAny_mono (k : Nat) (s : Script) : ∀ (cs : RConds) (σ : St), MonoS k σ (revalAny s cs σ).1 :=
  fun cs => rcondEval_mono k s (.any cs)

theorem runRules_mono (k : Nat) (s : Script) : ∀ (cs : RConds) (any : Bool) (σ : St), MonoS k σ (runRules s cs any σ).1
  | .nil, _, σ => mono_refl k _
  | .cons c cs, any, σ => by
    have h := rcondEval_mono k s c σ
    rw [runRules]
    split
    · rename_i σ1 b heq; rw [heq] at h; exact mono_trans h (runRules_mono k s cs _ σ1)
    · rename_i σ1 ph id heq; rw [heq] at h; exact h
    · rename_i σ1 heq; rw [heq] at h; exact h

theorem logPush_mono (k : Nat) (σ : St) : MonoS k σ (logPush σ).1 := by
  unfold logPush
  split
  · exact mono_setv k _ _ σ.reg
  · exact mono_refl k _

theorem holding_length (k' : Nat) (f : Nat → St → Nat × (St × Res))
    (hf : ∀ v σ, (f v σ).2.1.reg.length = σ.reg.length) (σ : St) :
    (holding k' f σ).1.reg.length = σ.reg.length := by
  unfold holding
  cases ht : takeAt σ.reg k' with
  | none => rfl
  | some x =>
    obtain ⟨i, v, r1⟩ := x
    exact (putAt_length _ _ _ _).trans ((hf v { σ with reg := r1 }).trans (takeAt_length σ.reg k' i v r1 ht).1)

/-- `State::holding` keeps every state of every scope where it is (the held one included), if its
closure does. -/
theorem holding_mono (k k' : Nat) (f : Nat → St → Nat × (St × Res))
    (hf : ∀ v σ, MonoS k σ (f v σ).2.1) (σ : St) : MonoS k σ (holding k' f σ).1 := by
  refine ⟨holding_length k' f (fun v σ => (hf v σ).1) σ, fun L hq => ?_⟩
  unfold holding
  cases ht : takeAt σ.reg k' with
  | none => exact hq
  | some x =>
    obtain ⟨i, v, r1⟩ := x
    have hm := (hf v { σ with reg := r1 }).2
    -- the column of `k` after `takeAt`, the closure and `putAt`
    by_cases hk : k' = k
    · subst hk
      rw [hasAt_iff, col_putAt, if_pos rfl]
      refine Covers.give ((hasAt_iff _ _ _).mp (hm _ ((hasAt_iff _ _ _).mpr ?_))) _
      rw [col_takeAt k' _ _ _ _ ht, if_pos rfl]; exact ((hasAt_iff _ _ _).mp hq).take i
    · rw [hasAt_iff, col_putAt, if_neg hk]
      refine (hasAt_iff _ _ _).mp (hm _ ((hasAt_iff _ _ _).mpr ?_))
      rw [col_takeAt k _ _ _ _ ht, if_neg hk]; exact (hasAt_iff _ _ _).mp hq

theorem loggerBody_mono (k : Nat) (s : Script) (trg : RConds) (v : Nat) (σ : St) :
    MonoS k σ (loggerBody s trg v σ).2.1 := by
  have h := runRules_mono k s trg false σ
  unfold loggerBody
  split
  · rename_i σ1 heq; rw [heq] at h; exact mono_trans h (logPush_mono k σ1)
  · rename_i σ1 r b _ heq; rw [heq] at h; exact h

theorem ropRun_mono (k : Nat) (s : Script) (trg : RConds) (o : ROp)
    (ho : ROp.sat (Act.keeps k) (fun _ => true) o = true) (σ : St) : MonoS k σ (ropRun s trg o σ).1 := by
  cases o with
  | prim ev acts =>
    exact step_pres (mono_refl k) s ev
      (fun _ _ => effOf_pres (mono_refl k) fun ph r => mono_applyActs k ph acts ho r) σ
  | counter0 => exact mono_insert k 0 0 σ.reg
  | bump =>
    simp only [ropRun, bump]
    split
    · rename_i r hr
      exact ⟨Reg.length_incr _ r hr, fun L h => (stable_hasAt k L true).incr rfl _ r hr h⟩
    · exact mono_refl k _
  | progress0 lens => exact mono_insert k _ _ σ.reg
  | held id k' acts => exact holding_mono k k' (holdBody s id acts) (fun _ σ' => mono_applyActs k .exec acts ho σ'.reg) σ
  | logInit =>
    simp only [ropRun, loggerInit]
    split
    · exact holding_mono k 7 _ (fun v σ' => rcondsPhase_mono k s .cinit trg σ') σ
    · exact mono_refl k _
  | logExec =>
    simp only [ropRun, loggerExec]
    split
    · exact holding_mono k 7 _ (loggerBody_mono k s trg) σ
    · exact mono_refl k _

theorem rinv_mono (k : Nat) (s : Script) (trg : RConds) :
    RInv s trg (ROp.sat (Act.keeps k) (fun _ => true)) (MonoS k) where
  refl σ := mono_refl k σ.reg
  trans := monoS_trans k
  op o ho σ := ropRun_mono k s trg o ho σ
  cond c σ := rcondEval_mono k s c σ
  scope σ σ2 := fun ⟨hl, hq⟩ => by
    obtain ⟨m, t, hr⟩ := List.exists_cons_of_length_eq_add_one hl
    rw [hr] at hl hq
    show Mono k σ.reg σ2.reg.tail
    rw [hr]
    exact ⟨Nat.succ.inj hl, fun L hL => (hq (false :: L) (And.intro (fun h => nomatch h) hL)).2⟩

/-! ### Scope discipline -/

-- Depth facts about conditions and the logger are the first half of `Mono`, which does not depend on the key (0 below).
theorem ropRun_length (s : Script) (trg : RConds) (o : ROp) (σ : St) :
    (ropRun s trg o σ).1.reg.length = σ.reg.length := by
  cases o with
  -- a leaf call and the increment are `opRun`'s
  | prim ev acts => exact (inv_depth s).op (.prim ev acts) rfl σ
  | bump => exact (inv_depth s).op .bump rfl σ
  | counter0 => exact Reg.length_insert _ _ _
  | progress0 lens => exact Reg.length_insert _ _ _
  | held id k' acts => exact holding_length k' _ (fun _ _ => length_applyActs _ _ _) σ
  | logInit =>
    simp only [ropRun, loggerInit]
    split
    · exact holding_length 7 _ (fun v σ' => (rcondsPhase_mono 0 s .cinit trg σ').1) σ
    · rfl
  | logExec =>
    simp only [ropRun, loggerExec]
    split
    · exact holding_length 7 _ (fun v σ' => (loggerBody_mono 0 s trg v σ').1) σ
    · rfl

theorem rinv_depth (s : Script) (trg : RConds) :
    RInv s trg (fun _ => true) (fun σ σ' => σ'.reg.length = σ.reg.length) where
  refl _ := rfl
  trans _ _ _ h1 h2 := h2.trans h1
  op o _ σ := ropRun_length s trg o σ
  cond c σ := (rcondEval_mono 0 s c σ).1
  scope σ σ2 h := by rw [pop, List.length_tail, h]; rfl

theorem rsrun_depth (s : Script) (trg : RConds) (f : Nat) (p : RStmt) (σ : St) :
    (rsrun s trg f p σ).1.reg.length = σ.reg.length :=
  rsrun_pres (rinv_depth s trg) f p (RStmt.all_true p) σ

/-! ### One `HoldLeaf` -/

theorem rexec_hold (s : Script) (trg : RConds) (fuel id k : Nat) (acts : List Act) (σ : St) {i v : Nat} {r1 : Reg}
    (ht : takeAt σ.reg k = some (i, v, r1)) :
    rexec s trg fuel (.hold id k acts) σ =
      (⟨putAt (applyActs .exec acts r1) i k (v + 1), (.exec, id) :: σ.tr⟩,
        if s.faulty (.exec, id) (σ.tr.count (.exec, id)) then .err .exec id else .ok) := by
  rw [rexec, holding, ht]; rfl

end MahfModel.ConfigReal
