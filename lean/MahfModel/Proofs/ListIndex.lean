/-
Lists read at a list of positions.  Several models read a list `l` at witness positions `σ`, either dropping
positions out of range (`σ.filterMap (l[·]?)`: `Replacement.permute`, `Selection.pick`, `Determinism.callsPar`) or
failing on them (`σ.mapM (l[·]?)`: `Variation.permuteBy`, `Boundary.shuffleBy`).  Read at a permutation of
`0 … l.length-1` either gives a permutation of `l`.  Last, a list written at one position (`forall_mem_set`: `PopMachine`'s
and `Cro`'s updates replace an individual or a molecule in place).  Core only, no imports.
-/
namespace MahfModel
variable {α β : Type}

/-! ### `mapM` into `Option` -/

theorem mapM_map_some (f : α → Option β) (σ : List α) (r : List β) (h : σ.mapM f = some r) :
    r.map some = σ.map f := by
  induction σ generalizing r with
  | nil => cases h; rfl
  | cons a t ih =>
    rw [List.mapM_cons] at h
    obtain ⟨b, hb, h⟩ := Option.bind_eq_some_iff.mp h
    obtain ⟨r', hr', h⟩ := Option.bind_eq_some_iff.mp h
    cases h
    rw [List.map_cons, List.map_cons, hb, ih r' hr']

theorem mapM_length (f : α → Option β) (σ : List α) (r : List β) (h : σ.mapM f = some r) : r.length = σ.length := by
  simpa using congrArg List.length (mapM_map_some f σ r h)

theorem exists_mapM_of_mem (f : α → Option β) (σ : List α) (r : List β) (h : σ.mapM f = some r) (a : α)
    (ha : a ∈ σ) : ∃ b ∈ r, f a = some b :=
  let ⟨b, hb, e⟩ := List.mem_map.1 (mapM_map_some f σ r h ▸ List.mem_map_of_mem (f := f) ha)
  ⟨b, hb, e.symm⟩

theorem exists_of_mem_mapM (f : α → Option β) (σ : List α) (r : List β) (h : σ.mapM f = some r) (b : β)
    (hb : b ∈ r) : ∃ a ∈ σ, f a = some b :=
  List.mem_map.1 (mapM_map_some f σ r h ▸ List.mem_map_of_mem (f := some) hb)

theorem mapM_returns (f : α → Option β) (l : List α) (h : ∀ a ∈ l, ∃ b, f a = some b) :
    ∃ r, l.mapM f = some r := by
  induction l with
  | nil => exact ⟨[], rfl⟩
  | cons a t ih =>
    obtain ⟨b, hb⟩ := h a List.mem_cons_self
    obtain ⟨r, hr⟩ := ih fun x hx => h x (List.mem_cons_of_mem _ hx)
    exact ⟨b :: r, by simp [List.mapM_cons, hb, hr]⟩

/-- A `mapM` that returns is the `filterMap`: what holds of the dropping form holds of the failing one. -/
theorem filterMap_of_mapM (f : α → Option β) (σ : List α) (r : List β) (h : σ.mapM f = some r) :
    σ.filterMap f = r := by
  have := congrArg (List.filterMap id) (mapM_map_some f σ r h)
  rw [List.filterMap_map, List.filterMap_map] at this
  exact this.symm.trans List.filterMap_some

/-- A `mapM` into `Option` that returns on a list returns on every rearrangement of it, with the result rearranged. -/
theorem mapM_perm (f : α → Option β) {σ σ' : List α} (h : σ.Perm σ') (r : List β) (hr : σ.mapM f = some r) :
    ∃ r', σ'.mapM f = some r' ∧ r.Perm r' := by
  obtain ⟨r', hr'⟩ := mapM_returns f σ' fun a ha =>
    let ⟨b, _, hb⟩ := exists_mapM_of_mem f σ r hr a (h.mem_iff.2 ha)
    ⟨b, hb⟩
  exact ⟨r', hr', filterMap_of_mapM f σ r hr ▸ filterMap_of_mapM f σ' r' hr' ▸ h.filterMap f⟩

/-! ### Reading at positions, positions out of range dropped -/

theorem filterMap_getElem?_range (l : List α) : (List.range l.length).filterMap (l[·]?) = l := by
  induction l with
  | nil => rfl
  | cons a l ih =>
    rw [List.length_cons, List.range_succ_eq_map]
    simp only [List.filterMap_cons, List.getElem?_cons_zero, List.filterMap_map]
    congr 1

theorem perm_filterMap_getElem? {l : List α} {σ : List Nat} (h : σ.Perm (List.range l.length)) :
    (σ.filterMap (l[·]?)).Perm l :=
  (h.filterMap (l[·]?)).trans (.of_eq (filterMap_getElem?_range l))

theorem perm_filterMap_getElem?_map (g : α → β) {l : List α} {σ : List Nat} (h : σ.Perm (List.range l.length)) :
    (σ.filterMap fun i => l[i]?.map g).Perm (l.map g) := by
  rw [← List.map_filterMap]
  exact (perm_filterMap_getElem? h).map g

/-! ### Reading at positions, failing on a position out of range -/

theorem mapM_getElem?_returns (σ : List Nat) (l : List α) (h : ∀ i ∈ σ, i < l.length) :
    ∃ r, σ.mapM (l[·]?) = some r :=
  mapM_returns _ σ fun i hi => ⟨l[i]'(h i hi), List.getElem?_eq_getElem (h i hi)⟩

theorem perm_of_mapM_getElem? (σ : List Nat) (l r : List α) (h : σ.mapM (l[·]?) = some r)
    (hσ : σ.Perm (List.range l.length)) : r.Perm l :=
  filterMap_of_mapM _ σ r h ▸ perm_filterMap_getElem? hσ

theorem eq_of_mapM_getElem?_range (l r : List α) (h : (List.range l.length).mapM (l[·]?) = some r) : r = l :=
  (filterMap_of_mapM _ _ r h).symm.trans (filterMap_getElem?_range l)

theorem forall_mem_set {P : α → Prop} {l : List α} {k : Nat} {a : α} (h : ∀ x ∈ l, P x) (ha : P a) :
    ∀ x ∈ l.set k a, P x :=
  fun x hx => (List.mem_or_eq_of_mem_set hx).elim (h x) fun e => e ▸ ha

end MahfModel
