/- Soundness of the pass-count prediction `predict` for every execution of `bexec`. -/
import MahfModel.Proofs.C16BudgetFuel
namespace MahfModel.Tpl

/-! ### Conditions -/

theorem BCond.evalAt_static (c : BCond) (it ev : Option Nat) (ob : Bool) (hs : c.static = true) :
    c.evalAt it ev ob = c.evalAt it ev false := by
  induction c with
  | iterLt n => rfl
  | evalLt n => rfl
  | and a b iha ihb | or a b iha ihb =>
    rw [BCond.static, Bool.and_eq_true] at hs
    simp only [BCond.evalAt_and, BCond.evalAt_or, iha hs.1, ihb hs.2]
  | «opaque» => cases hs

/-- What the condition sees through the chain of registries is what it sees in the innermost one, as long as the
innermost one holds every counter the condition reads. -/
theorem BCond.evalAt_vis (c : BCond) (i : Nat) (v : Option Nat) (L : List Lvl) (ob r : Bool)
    (h : c.evalAt (some i) v ob = some r) :
    c.evalAt (visIters (⟨some i, v⟩ :: L)) (visEvals (⟨some i, v⟩ :: L)) ob = some r := by
  induction c generalizing r with
  | iterLt n => exact h
  | evalLt n =>
    cases v with
    | none => cases h
    | some v => exact h
  | and a b iha ihb | or a b iha ihb =>
    simp only [BCond.evalAt_and, BCond.evalAt_or, Option.bind_eq_some_iff, Option.map_eq_some_iff] at h ⊢
    obtain ⟨x, hx, y, hy, rfl⟩ := h
    exact ⟨x, iha x hx, y, ihb y hy, rfl⟩
  | «opaque» => exact h

/-! ### A component without a loop of its level has the same effect in every registry -/

theorem predict_loopfree (F : Nat) (d : Nat) (c : BComp) : ∀ (l l1 : Lvl) (g : List (Nat × Nat)),
    directB c = 0 → predict F d c l = some (l1, g) →
    ∀ l' : Lvl, l'.evals.isSome = l.evals.isSome →
      predict F d c l' = some (⟨l'.iters, l'.evals.map (· + evalsOf c)⟩, g) := by
  induction c using BComp.rec (motive_2 := fun cs => ∀ (l l1 : Lvl) (g : List (Nat × Nat)),
      directBs cs = 0 → predicts F d cs l = some (l1, g) →
      ∀ l' : Lvl, l'.evals.isSome = l.evals.isSome →
        predicts F d cs l' = some (⟨l'.iters, l'.evals.map (· + evalsOfL cs)⟩, g)) with
  | leaf =>
    intro l l1 g _ h l' _
    simp only [predict, evalsOf, map_add_zero] at h ⊢
    rw [← (Prod.mk.inj (Option.some.inj h)).2]
  | eval n =>
    intro l l1 g _ h l' hv
    simp only [predict, evalsOf] at h ⊢
    cases hl : l.evals with
    | none => simp [hl] at h
    | some v =>
      cases hl' : l'.evals with
      | none => simp [hl, hl'] at hv
      | some v' => simp only [hl, Option.some.injEq, Prod.mk.injEq] at h; simp [← h.2]
  | evalAny | addAny => intro l l1 g _ h; cases h
  | seq cs ih =>
    intro l l1 g hd h l' hv
    simp only [predict, evalsOf] at h ⊢
    exact ih l l1 g hd h l' hv
  | loop c b => intro l l1 g hd; exact nomatch (Nat.add_eq_zero_iff.1 (hd : 1 + directB b = 0)).1
  | branch t e =>
    intro l l1 g _ h l' _
    simp only [predict, evalsOf, map_add_zero] at h ⊢
    split at h
    · rw [if_pos ‹_›, ← (Prod.mk.inj (Option.some.inj h)).2]
    · cases h
  | scope b =>
    intro l l1 g _ h l' _
    simp only [predict, evalsOf, map_add_zero, Option.map_eq_some_iff] at h ⊢
    obtain ⟨r, hr, h⟩ := h
    exact ⟨r, hr, by rw [← (Prod.mk.inj h).2]⟩
  | nil =>
    rename_i l l1 g _ h l' _
    simp only [predicts, evalsOfL, map_add_zero] at h ⊢
    rw [← (Prod.mk.inj (Option.some.inj h)).2]
  | cons c rest ihc ihr =>
    rename_i l l1 g hd h l' hv
    rw [directBs] at hd
    simp only [predicts] at h ⊢
    cases h1 : predict F d c l with
    | none => simp [h1] at h
    | some r1 =>
      obtain ⟨la, ga⟩ := r1
      cases h2 : predicts F d rest la with
      | none => simp [h1, h2] at h
      | some r2 =>
        obtain ⟨lb, gb⟩ := r2
        simp only [h1, h2, Option.some.injEq, Prod.mk.injEq] at h
        have e1 := ihc l la ga (Nat.add_eq_zero_iff.1 hd).1 h1
        -- the registry after `c`, as the lemma itself gives it
        have hla := (e1 l rfl).symm.trans h1
        simp only [Option.some.injEq, Prod.mk.injEq, and_true] at hla
        have e2 := ihr la lb gb (Nat.add_eq_zero_iff.1 hd).2 h2 ⟨l'.iters, l'.evals.map (· + evalsOf c)⟩ (by
          rw [← hla, Option.isSome_map, Option.isSome_map]; exact hv)
        simp only [e1 l' hv, e2, evalsOfL, map_add_add, ← h.2]

theorem predicts_loopfree (F : Nat) : ∀ (d : Nat) (cs : BComps) (l l1 : Lvl) (g : List (Nat × Nat)),
    directBs cs = 0 → predicts F d cs l = some (l1, g) →
    ∀ l' : Lvl, l'.evals.isSome = l.evals.isSome →
      predicts F d cs l' = some (⟨l'.iters, l'.evals.map (· + evalsOfL cs)⟩, g) :=
  fun d cs => predict_loopfree F d (.seq cs)

/-! ### `init` replaces the counters of the level -/

theorem ite_add_eq_zero (a b : Nat) (x : Option Nat) :
    (if b == 0 then (if a == 0 then x else some 0) else some 0) = if a + b == 0 then x else some 0 := by
  cases a <;> cases b <;> rfl

theorem binit_spec (c : BComp) : ∀ l : Lvl,
    binit c l = ⟨if directB c == 0 then l.iters else some 0, if evalLeaves c == 0 then l.evals else some 0⟩ := by
  induction c using BComp.rec (motive_2 := fun cs => ∀ l : Lvl,
      binits cs l = ⟨if directBs cs == 0 then l.iters else some 0, if evalLeavesL cs == 0 then l.evals else some 0⟩) with
  | leaf | addAny | scope _ | eval _ | evalAny => intro l; rfl
  | seq cs ih => exact ih
  | loop _ b ih =>
    intro l
    refine (ih _).trans ?_
    show (⟨_, _⟩ : Lvl) = ⟨if 1 + directB b == 0 then _ else _, if evalLeaves b == 0 then _ else _⟩
    cases directB b <;> rfl
  | branch t e iht ihe =>
    intro l
    show binit e (binit t l) = _
    rw [ihe, iht]
    exact congr (congrArg Lvl.mk (ite_add_eq_zero ..)) (ite_add_eq_zero ..)
  | nil => rfl
  | cons c cs ihc ihcs =>
    show binits cs (binit c _) = _
    rw [ihcs, ihc]
    exact congr (congrArg Lvl.mk (ite_add_eq_zero ..)) (ite_add_eq_zero ..)

theorem binits_spec : ∀ (cs : BComps) (l : Lvl),
    binits cs l = ⟨if directBs cs == 0 then l.iters else some 0, if evalLeavesL cs == 0 then l.evals else some 0⟩ :=
  fun cs => binit_spec (.seq cs)

/-- A configuration with a loop and an evaluator at its top level starts every run from `(0, 0)`, whatever an
earlier run left in the state. -/
theorem binit_overwrites (c : BComp) (prior : Lvl) (hl : 1 ≤ directB c) (he : 1 ≤ evalLeaves c) :
    binit c prior = ⟨some 0, some 0⟩ := by
  simp [binit_spec, beq_false_of_ne (Nat.ne_of_gt hl), beq_false_of_ne (Nat.ne_of_gt he)]

/-! ### A component that touches no counter -/

theorem quiet_noop_all (o : BOracle) (fuel : Nat) :
    (∀ d c s s', quiet c = true → bexec o fuel d c s = some s' → s'.lvls = s.lvls ∧ s'.runs = s.runs) ∧
    (∀ d cs s s', quiets cs = true → bexecs o fuel d cs s = some s' → s'.lvls = s.lvls ∧ s'.runs = s.runs) := by
  induction fuel with
  | zero => simp only [bexec_zero, bexecs_zero, reduceCtorEq, false_implies, implies_true, and_self]
  | succ fuel ih =>
    obtain ⟨ih1, ih2⟩ := ih
    refine ⟨fun d c s s' hq h => ?_, fun d cs s s' hq h => ?_⟩
    · cases c with
      | leaf =>
        rw [bexec_leaf] at h
        split at h
        · cases h
        · cases h; exact ⟨rfl, rfl⟩
      | seq cs => exact ih2 _ _ _ _ hq (bexec_seq .. ▸ h)
      | branch t e =>
        replace hq := Bool.and_eq_true_iff.1 (hq : (quiet t && quiet e) = true)
        have g := ih1 _ _ _ _ (by split <;> simp only [hq]) (bexec_branch .. ▸ h)
        exact g
      | eval _ | evalAny | addAny | loop _ _ | scope _ => cases hq
    · cases cs with
      | nil => rw [bexecs_nil] at h; cases h; exact ⟨rfl, rfl⟩
      | cons c rest =>
        replace hq := Bool.and_eq_true_iff.1 (hq : (quiet c && quiets rest) = true)
        rw [bexecs_cons, Option.bind_eq_some_iff] at h
        obtain ⟨s1, h1, h2⟩ := h
        obtain ⟨a1, b1⟩ := ih1 _ _ _ _ hq.1 h1
        obtain ⟨a2, b2⟩ := ih2 _ _ _ _ hq.2 h2
        exact ⟨a2.trans a1, b2.trans b1⟩

theorem quiets_noop (o : BOracle) : ∀ (fuel d : Nat) (cs : BComps) (s s' : BSt),
    quiets cs = true → bexecs o fuel d cs s = some s' → s'.lvls = s.lvls ∧ s'.runs = s.runs :=
  fun fuel => (quiet_noop_all o fuel).2

/-! ### `repLog` -/

theorem repLog_nil (m : Nat) : repLog m [] = [] := by
  induction m with
  | zero => rfl
  | succ m ih => simp [repLog, ih]

theorem repLog_succ_right (p : Nat) (bl : List (Nat × Nat)) : repLog (p + 1) bl = repLog p bl ++ bl := by
  induction p with
  | zero => simp [repLog]
  | succ p ih =>
    show bl ++ repLog (p + 1) bl = (bl ++ repLog p bl) ++ bl
    rw [ih, List.append_assoc]

/-! ### Soundness of the prediction -/

/-- Wherever `predict` answers, every terminating execution (all oracles, any fuel, inside any chain of enclosing
registries `L`) leaves exactly the predicted counters in the component's registry, leaves `L` alone, and has made
exactly the predicted loop executions. -/
theorem bexec_sound_all (o : BOracle) (F fuel : Nat) :
    (∀ d c s s' l l' L g, s.lvls = l :: L → predict F d c l = some (l', g) → bexec o fuel d c s = some s' →
      s'.lvls = l' :: L ∧ s'.runs = s.runs ++ g) ∧
    (∀ d cs s s' l l' L g, s.lvls = l :: L → predicts F d cs l = some (l', g) → bexecs o fuel d cs s = some s' →
      s'.lvls = l' :: L ∧ s'.runs = s.runs ++ g) ∧
    (∀ d c b p s s' i v L bl e Fq q, c.static = true →
      (∀ (i' : Nat) (v' : Option Nat), v'.isSome = v.isSome →
        predict F (d + 1) b ⟨some i', v'⟩ = some (⟨some i', v'.map (· + e)⟩, bl)) →
      s.lvls = ⟨some i, v⟩ :: L → firstStop c e Fq i v = some q → bloop o fuel d c b p s = some s' →
      s'.lvls = ⟨some (i + q), v.map (· + q * e)⟩ :: L ∧ s'.runs = s.runs ++ repLog q bl ++ [(d, p + q)]) := by
  induction fuel with
  | zero => simp only [bexec_zero, bexecs_zero, bloop_zero, reduceCtorEq, false_implies, implies_true, and_self]
  | succ fuel ih =>
    obtain ⟨ih1, ih2, ih3⟩ := ih
    refine ⟨fun d c s s' l l' L g hs hp h => ?_, fun d cs s s' l l' L g hs hp h => ?_,
      fun d c b p s s' i v L bl e Fq q hc hb hs hq h => ?_⟩
    · cases c with
      | leaf =>
        rw [predict] at hp
        cases hp
        rw [bexec_leaf] at h
        split at h
        · cases h
        · cases h; exact ⟨hs, (List.append_nil _).symm⟩
      | eval n =>
        rw [bexec_eval, hs] at h
        obtain ⟨li, lv⟩ := l
        cases lv with
        | none => cases hp
        | some v =>
          cases hp
          split at h
          · cases h
          · cases h; exact ⟨rfl, (List.append_nil _).symm⟩
      | evalAny => cases hp
      | addAny => cases hp
      | seq cs => exact ih2 _ _ _ _ _ _ _ _ hs hp (bexec_seq .. ▸ h)
      | loop c b =>
        rw [predict] at hp
        split at hp
        next hcb =>
          rw [Bool.and_eq_true, beq_iff_eq] at hcb
          cases hi : l.iters with
          | none => simp [hi] at hp
          | some i =>
            cases hb : predict F (d + 1) b l with
            | none => simp [hi, hb] at hp
            | some r =>
              simp only [hi, hb, Option.map_eq_some_iff, Prod.mk.injEq] at hp
              obtain ⟨q, hq, rfl, rfl⟩ := hp
              have hl : l = ⟨some i, l.evals⟩ := by rw [← hi]
              have := ih3 d c b 0 s s' i l.evals L r.2 (evalsOf b) F q hcb.1
                (fun i' v' hv' => predict_loopfree F (d + 1) b l r.1 r.2 hcb.2 hb ⟨some i', v'⟩ hv')
                (hl ▸ hs) hq (bexec_loop .. ▸ h)
              rwa [Nat.zero_add, List.append_assoc] at this
        next => cases hp
      | branch t e =>
        rw [predict] at hp
        split at hp
        next hq =>
          cases hp
          rw [Bool.and_eq_true] at hq
          obtain ⟨e1, e2⟩ := (quiet_noop_all o fuel).1 d _ { s with tick := s.tick + 1 } s'
            (by split <;> simp only [hq]) (bexec_branch .. ▸ h)
          exact ⟨e1.trans hs, e2.trans (List.append_nil _).symm⟩
        next => cases hp
      | scope b =>
        rw [predict, Option.map_eq_some_iff] at hp
        obtain ⟨r, hr, hp⟩ := hp
        cases hp
        rw [bexec_scope, Option.map_eq_some_iff] at h
        obtain ⟨s1, h1, rfl⟩ := h
        obtain ⟨e1, e2⟩ := ih1 _ _ _ _ _ _ _ _ rfl hr h1
        exact ⟨by simp only [e1, hs, List.tail_cons], e2⟩
    · cases cs with
      | nil =>
        rw [predicts] at hp
        cases hp
        rw [bexecs_nil] at h
        cases h
        exact ⟨hs, (List.append_nil _).symm⟩
      | cons c rest =>
        rw [predicts] at hp
        cases h1 : predict F d c l with
        | none => simp [h1] at hp
        | some r1 =>
          cases h2 : predicts F d rest r1.1 with
          | none => simp [h1, h2] at hp
          | some r2 =>
            simp only [h1, h2, Option.some.injEq, Prod.mk.injEq] at hp
            rw [bexecs_cons, Option.bind_eq_some_iff] at h
            obtain ⟨s1, hx1, hx2⟩ := h
            obtain ⟨e1, g1⟩ := ih1 _ _ _ _ _ _ _ _ hs h1 hx1
            obtain ⟨e2, g2⟩ := ih2 _ _ _ _ _ _ _ _ e1 h2 hx2
            exact ⟨hp.1 ▸ e2, by rw [g2, g1, List.append_assoc, hp.2]⟩
    · cases Fq with
      | zero => cases hq
      | succ Fq =>
        rw [firstStop] at hq
        rw [bloop_succ, Option.bind_eq_some_iff] at h
        obtain ⟨r, hr, h⟩ := h
        rw [hs, BCond.evalAt_static c _ _ _ hc] at hr
        cases hev : c.evalAt (some i) v false with
        | none => simp [hev] at hq
        | some r' =>
          obtain rfl : r' = r := Option.some.inj ((BCond.evalAt_vis c i v L false r' hev).symm.trans hr)
          cases r' with
          | false =>
            simp only [hev, Option.some.injEq] at hq
            subst hq
            cases h
            simp only [hs, Nat.add_zero, Nat.zero_mul, Option.map_id_fun', id_eq, repLog, List.append_nil, and_self]
          | true =>
            simp only [hev, Option.map_eq_some_iff] at hq
            obtain ⟨q', hq', rfl⟩ := hq
            simp only [if_true, Option.bind_eq_some_iff] at h
            obtain ⟨s1, h1, l1, hl1, h2⟩ := h
            obtain ⟨e1, g1⟩ := ih1 _ _ { s with tick := s.tick + 1 } _ _ _ _ _ hs (hb i v rfl) h1
            rw [e1] at hl1
            cases hl1
            obtain ⟨e2, g2⟩ := ih3 d c b (p + 1) _ s' (i + 1) (v.map (· + e)) L bl e Fq q' hc
              (fun i' v' hv' => hb i' v' (by rw [hv', Option.isSome_map])) rfl hq' h2
            refine ⟨?_, ?_⟩
            · rw [e2, map_add_add, Nat.add_assoc, Nat.add_comm 1, Nat.succ_mul, Nat.add_comm e]
            · rw [g2, g1, Nat.add_assoc, Nat.add_comm 1]
              simp only [repLog, List.append_assoc]

theorem bexecs_sound (o : BOracle) (F : Nat) : ∀ (fuel d : Nat) (cs : BComps) (s s' : BSt) (l l' : Lvl) (L : List Lvl)
    (g : List (Nat × Nat)),
    s.lvls = l :: L → predicts F d cs l = some (l', g) → bexecs o fuel d cs s = some s' →
    s'.lvls = l' :: L ∧ s'.runs = s.runs ++ g :=
  fun fuel => (bexec_sound_all o F fuel).2.1

/-- A running loop whose body has no loop of its level: from `(i, v)` it makes exactly the `q` further passes
`firstStop` computes. -/
theorem bloop_sound (o : BOracle) (F : Nat) : ∀ (fuel d : Nat) (c : BCond) (b : BComp) (p : Nat) (s s' : BSt)
    (i : Nat) (v : Option Nat) (L : List Lvl) (bl : List (Nat × Nat)) (Fq q : Nat),
    c.static = true → directB b = 0 →
    (∀ (i' : Nat) (v' : Option Nat), v'.isSome = v.isSome →
      predict F (d + 1) b ⟨some i', v'⟩ = some (⟨some i', v'.map (· + evalsOf b)⟩, bl)) →
    s.lvls = ⟨some i, v⟩ :: L → firstStop c (evalsOf b) Fq i v = some q →
    bloop o fuel d c b p s = some s' →
    s'.lvls = ⟨some (i + q), v.map (· + q * evalsOf b)⟩ :: L ∧ s'.runs = s.runs ++ repLog q bl ++ [(d, p + q)] :=
  fun fuel d c b p s s' i v L bl Fq q hc _ => (bexec_sound_all o F fuel).2.2 d c b p s s' i v L bl (evalsOf b) Fq q hc

end MahfModel.Tpl
