/-
C03 — lemmas behind `Props/C03.lean`: the modules `Proofs/C03Seq` … `Proofs/C03Counter`, and a concrete tree,
script and state for the non-vacuity examples.
-/
import MahfModel.Proofs.C03Faults
import MahfModel.Proofs.C03Push
import MahfModel.Proofs.C03Passes
import MahfModel.Proofs.C03Loops
import MahfModel.Proofs.C03Counter
namespace MahfModel.Config

/-! ### A concrete tree, script and state for the non-vacuity examples in `Props/C03.lean` -/

/-- `{ leaf1: insert K1 = 5 ; while c101 { leaf2: set K2 := 9 } }`. -/
def exBody : Comp :=
  .block (.cons (.leaf 1 [.ins .exec 1 5]) (.cons (.loop (.leaf 101) (.leaf 2 [.set .exec 2 9])) .nil))
/-- A hooked scope: `state_init` inserts K3 = 5, the merge hook exports K3 as K2, then K1 as K1. -/
def exHook : Comp := .scopeW 900 [.ins .init 3 5] [(3, 2), (1, 1)] (.leaf 1 [.ins .exec 1 7, .set .exec 3 6])
def exScript : Script := { conds := [(101, false, [true, true])], fails := [] }
def exState : St := { reg := [[(1, 100), (2, 200)]], tr := [] }

end MahfModel.Config
