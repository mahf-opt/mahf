/- C19 (ant colony), run level: tour lengths are positive, `stepOf` read backwards, and one loop pass on a valid state
(from the update theorems of `Props/C19.lean`). Declares `popOf`, `kindOk` and `RunValid`, in which `Props/C19Run.lean`
states the run theorems. -/
import MahfModel.Props.C19
namespace MahfModel.Aco
open MahfModel.Props.C19

variable {F : Type}

/-! ### Tour lengths are positive -/

section field
variable [Field F] [LinearOrder F] [IsStrictOrderedRing F]

theorem tourLenGo_pos {dist : Nat → Nat → F} (hd : ∀ i j, i ≠ j → 0 < dist i j) {first : Nat} {l : List Nat}
    {s : F} (hne : l ≠ []) (hnd : l.Nodup) (hlast : l.getLast? ≠ some first) (hs : 0 ≤ s) :
    0 < tourLenGo dist first l s := by
  fun_induction tourLenGo dist first l s with
  | case1 s => exact absurd rfl hne  -- no city
  | case2 a s => exact add_pos_of_nonneg_of_pos hs (hd a first fun e => hlast (e ▸ rfl))  -- closing edge
  | case3 a b rest s ih =>  -- inner edge
    obtain ⟨ha, hnd'⟩ := List.nodup_cons.mp hnd
    exact ih (List.cons_ne_nil _ _) hnd' (by rwa [List.getLast?_cons_cons] at hlast)
      (add_pos_of_nonneg_of_pos hs (hd a b fun e => ha (e ▸ List.mem_cons_self))).le

theorem tourLen_pos {dist : Nat → Nat → F} (hd : ∀ i j, i ≠ j → 0 < dist i j) {t : List Nat}
    (hnd : t.Nodup) (hlen : 2 ≤ t.length) : 0 < tourLen dist t := by
  match t, hlen with
  | a :: b :: rest, _ =>
    refine tourLenGo_pos hd (List.cons_ne_nil _ _) hnd (fun h => ?_) (le_refl _)
    rw [List.getLast?_cons_cons] at h
    exact (List.nodup_cons.mp hnd).1 (List.mem_of_getLast? h)

end field

/-! ### `stepOf` read backwards -/

section
variable [Add F] [Sub F] [Mul F] [Div F] [LT F] [LE F] [DecidableLT F] [DecidableLE F]
  [OfNat F 0] [OfNat F 1]

/-- The population the update component sees after evaluation. -/
def popOf (dist : Nat → Nat → F) (ts : List (List Nat)) : List (Ind F) :=
  ts.map (fun t => ({ route := t, obj := some (tourLen dist t) } : Ind F))

theorem stepOf_tours (k : Kind F) (pm : PM F) (dist : Nat → Nat → F) (ts : List (List Nat)) :
    stepOf k pm dist (.tours ts) =
      match update k pm (popOf dist ts) with
      | none => .updPanic ts (ts.map (tourLen dist))
      | some pm' => .ok ts (ts.map (tourLen dist)) pm' := rfl

theorem stepOf_ok {k : Kind F} {pm : PM F} {dist : Nat → Nat → F} {g : GenOut} {ts : List (List Nat)}
    {objs : List F} {pm' : PM F} (h : stepOf k pm dist g = .ok ts objs pm') :
    g = .tours ts ∧ objs = ts.map (tourLen dist) ∧ update k pm (popOf dist ts) = some pm' := by
  cases g with
  | panic => cases h
  | badWitness => cases h
  | tours ts' =>
    rw [stepOf_tours] at h
    split at h
    · cases h
    · cases h; exact ⟨rfl, rfl, ‹_›⟩

theorem stepOf_of_update {k : Kind F} {pm : PM F} {dist : Nat → Nat → F} {ts : List (List Nat)} {pm' : PM F}
    (h : update k pm (popOf dist ts) = some pm') :
    stepOf k pm dist (.tours ts) = .ok ts (ts.map (tourLen dist)) pm' := by
  rw [stepOf_tours, h]

theorem stepOf_not_genPanic (k : Kind F) (pm : PM F) (dist : Nat → Nat → F) {g : GenOut} (hg : g ≠ .panic) :
    stepOf k pm dist g ≠ .genPanic := by
  cases g with
  | panic => exact absurd rfl hg
  | badWitness => nofun
  | tours ts => rw [stepOf_tours]; split <;> nofun

end

/-! ### The update on a valid state -/

section field
variable [Field F] [LinearOrder F] [IsStrictOrderedRing F]

theorem popOf_valid {dist : Nat → Nat → F} (hd : ∀ i j, i ≠ j → 0 < dist i j) {n : Nat} (hn : 2 ≤ n)
    {ts : List (List Nat)} (hp : ∀ t ∈ ts, t.Perm (List.range n)) :
    (∀ ind ∈ popOf dist ts, ∀ c ∈ ind.route, c < n) ∧
      ∀ ind ∈ popOf dist ts, ∃ o, ind.obj = some o ∧ 0 < o := by
  simp only [popOf, List.forall_mem_map]
  exact ⟨fun t ht c hc => List.mem_range.mp ((hp t ht).mem_iff.mp hc), fun t ht =>
    ⟨_, rfl, tourLen_pos hd ((hp t ht).nodup_iff.mpr List.nodup_range)
      (by rw [(hp t ht).length_eq, List.length_range]; exact hn)⟩⟩

/-- Validity of the update's parameters: `ρ ∈ [0, 1]`, `c ≥ 0` for the ant system; `0 ≤ min ≤ max` for the
max-min variant (its evaporation rate needs no condition: the clamp restores the bounds). -/
def kindOk : Kind F → Prop
  | .as ρ c => 0 ≤ ρ ∧ ρ ≤ 1 ∧ 0 ≤ c
  | .mmas _ hi lo => 0 ≤ lo ∧ lo ≤ hi

theorem update_valid {k : Kind F} (hk : kindOk k) {pm : PM F} (hwf : pm.wf = true)
    (hnn : ∀ x ∈ pm.inner, 0 ≤ x) {pop : List (Ind F)}
    (hr : ∀ ind ∈ pop.drop 1, ∀ c ∈ ind.route, c < pm.dim)
    (ho : ∀ ind ∈ pop.drop 1, ∃ o, ind.obj = some o ∧ 0 < o) :
    ∃ pm', update k pm pop = some pm' ∧ pm'.wf = true ∧ pm'.dim = pm.dim ∧ ∀ x ∈ pm'.inner, 0 ≤ x := by
  have ho' := obj_isSome_of_exists ho
  cases k with
  | as ρ c =>
    -- the new elements are the entry function at the old ones
    refine ⟨_, asUpdate_eq_mapE ρ c hwf hr ho', (mapE_wf _ _).trans hwf, rfl, fun x hx => ?_⟩
    obtain ⟨k, hk', rfl⟩ := List.mem_mapIdx.mp hx
    exact asSpecGo_nonneg hk.2.2 _ _ (mul_nonneg (hnn _ (List.getElem_mem hk')) (sub_nonneg.mpr hk.2.1)) ho
  | mmas ρ hi lo =>
    obtain ⟨hlo, hb⟩ := hk
    obtain ⟨pm', h1, hd, hw, _⟩ := mmas_update_spec pm ρ hi lo pop hwf ho' ((routesValid_iff _ _).mpr hr) hb
    exact ⟨pm', h1, hw, hd, mmas_nonneg pm ρ hi lo pop pm' hb hlo h1⟩

/-- What a run must satisfy for the property to be claimed: an exact back-end (`fin`, `close`), a `powf` that
keeps non-negative bases non-negative, the positive offset `1e-15`, comparison = the order, at least two
cities, positive distances between distinct cities, a non-negative initial trail and valid update
parameters (`kindOk`). -/
structure RunValid (N : Num F) (c : RunCfg F) : Prop where
  fin : ∀ x, N.fin x = true
  close : ∀ a b, N.close a b = decide (a = b)
  pow : ∀ x a, 0 ≤ x → 0 ≤ N.pow x a
  eps : 0 < N.eps
  tle : N.tle = dle
  cities : 2 ≤ c.n
  dist : ∀ i j, i ≠ j → 0 < c.dist i j
  init : 0 ≤ c.τ0
  kind : kindOk c.kind

theorem pass_valid {N : Num F} {c : RunCfg F} (hv : RunValid N c) {pm : PM F} (hwf : pm.wf = true)
    (hdim : pm.dim = c.n) (hnn : ∀ x ∈ pm.inner, 0 ≤ x) {gw : List Nat} {wits ts : List (List Nat)}
    (hgen : generateW N dle pm c.dist c.α c.β c.n c.numAnts gw wits = .tours ts) :
    (∀ ind ∈ popOf c.dist ts, ∀ x ∈ ind.route, x < pm.dim) ∧
      (∀ ind ∈ popOf c.dist ts, ∃ o, ind.obj = some o ∧ 0 < o) ∧
      ∃ pm', update c.kind pm (popOf c.dist ts) = some pm' ∧ pm'.wf = true ∧ pm'.dim = c.n ∧
        ∀ x ∈ pm'.inner, 0 ≤ x := by
  obtain ⟨hr, ho⟩ := popOf_valid hv.dist hv.cities
    (fun t ht => ((generateW_spec hgen).2 (Nat.one_le_of_lt hv.cities) t ht).1)
  rw [← hdim] at hr
  obtain ⟨pm', h, hw, hd, hn⟩ := update_valid hv.kind hwf hnn
    (fun ind hi => hr ind (List.mem_of_mem_drop hi)) (fun ind hi => ho ind (List.mem_of_mem_drop hi))
  exact ⟨hr, ho, pm', h, hw, hd.trans hdim, hn⟩

end field

end MahfModel.Aco
