/- C10 — the flat conditions, each on its own: ChangeOf as a scan with a memory (also re-initialised), And / Or / Not
over scripted operands, counting the words on which RandomChance fires, and the counter loop guarded by LessThanN. -/
import MahfModel.Model.Conditions
import MahfModel.Proofs.ArithNat
namespace MahfModel.Conditions

/-! ### ChangeOf -/

section changeOf
variable {V : Type} (eqv : V → V → Bool)

/-- The `Previous` state is the value last reported (or the initial one if nothing fired yet). -/
theorem changeOfState_eq (prev : Option V) (xs : List V) :
    changeOfState eqv prev xs =
      match lastReported xs (changeOfRun eqv prev xs) with
      | some r => some r
      | none => prev := by
  induction xs generalizing prev with
  | nil => rfl
  | cons v vs ih =>
    simp only [changeOfState, changeOfRun, lastReported]
    rw [ih]
    cases h : lastReported vs (changeOfRun eqv (changeOfStep eqv prev v).2 vs) with
    | some r => rfl
    | none =>
      cases prev with
      | none => simp [changeOfStep]
      | some p => cases h2 : eqv v p <;> simp [changeOfStep, h2]

theorem changeOfRun_take (prev : Option V) (xs : List V) (k : Nat) :
    (changeOfRun eqv prev xs).take k = changeOfRun eqv prev (xs.take k) := by
  induction xs generalizing prev k with
  | nil => simp [changeOfRun]
  | cons v vs ih => cases k <;> simp [changeOfRun, ih]

/-- The verdict at position `k` is one step from the memory the first `k` values leave. -/
theorem changeOfRun_getElem? (prev : Option V) (xs : List V) (k : Nat) (hk : k < xs.length) :
    (changeOfRun eqv prev xs)[k]? = some (changeOfStep eqv (changeOfState eqv prev (xs.take k)) xs[k]).1 := by
  induction xs generalizing prev k with
  | nil => cases hk
  | cons v vs ih =>
    cases k with
    | zero => rfl
    | succ k => exact ih _ k (Nat.lt_of_succ_lt_succ hk)

/-- A fresh condition fires at its first evaluation, so only the empty history reports nothing. -/
theorem lastReported_run_none (xs : List V) :
    lastReported xs (changeOfRun eqv none xs) = none ↔ xs = [] := by
  cases xs with
  | nil => simp [lastReported]
  | cons v vs => simp only [changeOfRun, lastReported, changeOfStep]; split <;> simp

/-! ### ChangeOf: re-initialisation, several conditions -/

theorem changeOfRunR_append_init (slot : Option (Option V)) (pre post : List (Option V)) :
    changeOfRunR eqv slot (pre ++ none :: post) =
      changeOfRunR eqv slot pre ++ changeOfRunR eqv (some none) post := by
  induction pre generalizing slot with
  | nil => cases slot <;> simp [changeOfRunR]
  | cons e es ih =>
    cases e with
    | none => cases slot <;> simp [changeOfRunR, ih]
    | some v => cases slot <;> simp [changeOfRunR, ih]

theorem changeOfRunR_evals (p : Option V) (vs : List V) :
    changeOfRunR eqv (some p) (vs.map some) = (changeOfRun eqv p vs).map some := by
  induction vs generalizing p with
  | nil => simp [changeOfRunR, changeOfRun]
  | cons v vs ih => simp [changeOfRunR, changeOfRun, ih]

end changeOf

theorem upd_same {α : Type} (f : Nat → α) (k : Nat) (a : α) : upd f k a k = a := by simp [upd]
theorem upd_other {α : Type} (f : Nat → α) (k j : Nat) (a : α) (h : j ≠ k) : upd f k a j = f j := by
  simp [upd, h]

/-! ### And / Or / Not -/

/-- Boolean values of a list of operands (specification side). -/
def semList (env : Env) : Forms → List Bool
  | .nil => []
  | .cons f fs => sem (fun o => (env o).toBool) f :: semList env fs

mutual
  theorem eval_ok (env : Env) (f : Form) (log : List Nat) (h : errFree env f = true) :
      eval env f log = (.val (sem (fun o => (env o).toBool) f), log ++ leaves f) := by
    cases f with
    | leaf tag operand =>
      simp only [errFree, bne_iff_ne, ne_eq] at h
      simp only [eval, sem, leaves]
      cases he : env operand with
      | val b => rfl
      | err => exact absurd he h
    | and fs | or fs =>
      simp only [errFree] at h
      obtain ⟨i1, i2, i3⟩ := evalAll_ok env fs log h
      simp [eval, sem, leaves, i1, i2, i3]
    | not g =>
      simp only [errFree] at h
      simp [eval, sem, leaves, eval_ok env g log h]
  theorem evalAll_ok (env : Env) (fs : Forms) (log : List Nat) (h : errFreeAll env fs = true) :
      evalAll env fs log = (some (semList env fs), log ++ leavesAll fs) ∧
      allB (semList env fs) = semAll (fun o => (env o).toBool) fs ∧
      anyB (semList env fs) = semAny (fun o => (env o).toBool) fs := by
    cases fs with
    | nil => simp [evalAll, semList, leavesAll, allB, anyB, semAll, semAny]
    | cons g gs =>
      simp only [errFreeAll, Bool.and_eq_true] at h
      obtain ⟨i1, i2, i3⟩ := evalAll_ok env gs (log ++ leaves g) h.2
      simp [evalAll, eval_ok env g log h.1, i1, semList, leavesAll, allB, anyB, semAll, semAny, i2, i3]
end

/- With an erring operand the evaluation errs, and what has been evaluated is a prefix of the
left-to-right leaf order (evaluation stops at the first error). -/
mutual
  theorem eval_err (env : Env) (f : Form) (log : List Nat) (h : errFree env f = false) :
      ∃ l, eval env f log = (.err, log ++ l) ∧ l <+: leaves f := by
    cases f with
    | leaf tag operand =>
      simp only [errFree, bne_eq_false_iff_eq] at h
      exact ⟨[tag], by simp only [eval, h], List.prefix_refl _⟩
    | and fs | or fs =>
      obtain ⟨i1, l, i2, i3⟩ := evalAll_err env fs log h
      have e : evalAll env fs log = (none, log ++ l) := Prod.ext i1 i2
      exact ⟨l, by simp only [eval, e], i3⟩
    | not g =>
      obtain ⟨l, i1, i2⟩ := eval_err env g log h
      exact ⟨l, by simp only [eval, i1], i2⟩
  theorem evalAll_err (env : Env) (fs : Forms) (log : List Nat) (h : errFreeAll env fs = false) :
      (evalAll env fs log).1 = none ∧ ∃ l, (evalAll env fs log).2 = log ++ l ∧ l <+: leavesAll fs := by
    cases fs with
    | nil => simp [errFreeAll] at h
    | cons g gs =>
      simp only [errFreeAll, Bool.and_eq_false_iff] at h
      cases hg : errFree env g with
      | true =>
        obtain ⟨i1, l, i2, i3⟩ := evalAll_err env gs (log ++ leaves g) (h.resolve_left (by simp [hg]))
        have e : evalAll env gs (log ++ leaves g) = (none, log ++ leaves g ++ l) := Prod.ext i1 i2
        simp only [evalAll, eval_ok env g log hg, e, List.append_assoc]
        exact ⟨trivial, leaves g ++ l, rfl, (List.prefix_append_right_inj _).mpr i3⟩
      | false =>
        obtain ⟨l, i1, i2⟩ := eval_err env g log hg
        simp only [evalAll, i1]
        exact ⟨trivial, l, rfl, i2.trans (List.prefix_append _ _)⟩
end

/-! ### RandomChance: counts that do not depend on which words fire -/

theorem countP_relabel (N m : Nat) (σ : Nat → Nat) (hσ : ((List.range N).map σ).Perm (List.range N)) :
    ((List.range N).countP (fun w => decide (σ w < m))) = min m N := by
  rw [← Arith.countP_lt_range N m, ← hσ.countP_eq (fun w => decide (w < m)), List.countP_map]; rfl

/-! ### Loop -/

section loop
variable {F : Type} [Div F] (toF : Nat → F)

theorem loopGo_succ (n step fuel : Nat) (s : LoopSt F) :
    loopGo toF n step (fuel + 1) s =
      if s.counter < n then
        loopGo toF n step fuel ⟨s.counter + step, toF s.counter / toF n, s.tests + 1, s.passes + 1⟩
      else some { s with progress := toF s.counter / toF n, tests := s.tests + 1 } := by
  simp only [loopGo, lessThanN, decide_eq_true_eq]

/-- The loop stops at the first pass count `p` at which the counter has reached `n`: `p` passes,
`p + 1` tests, and the progress written by the last test. (`lLoop_exact`, `loop2Go_least` in
`Proofs/C10Loops.lean` and `nsGo_least` in `Proofs/C10Nested.lean` follow the same plan: induction on
the passes still to come, one test unfolded per step.) -/
theorem loopGo_least (n step p : Nat) : ∀ (c : Nat) (pr : F) (t ps fuel : Nat),
    (∀ q, q < p → c + q * step < n) → n ≤ c + p * step → p + 1 ≤ fuel →
    loopGo toF n step fuel ⟨c, pr, t, ps⟩ =
      some ⟨c + p * step, toF (c + p * step) / toF n, t + p + 1, ps + p⟩ := by
  induction p with
  | zero =>
    intro c pr t ps fuel _ hn hf
    obtain ⟨fuel, rfl⟩ := Nat.exists_eq_add_one_of_ne_zero (Nat.ne_of_gt hf)
    simp only [Nat.zero_mul, Nat.add_zero] at hn ⊢
    rw [loopGo_succ, if_neg (Nat.not_lt.mpr hn)]
  | succ p ih =>
    intro c pr t ps fuel hgo hn hf
    obtain ⟨fuel, rfl⟩ := Nat.exists_eq_add_one_of_ne_zero (Nat.ne_of_gt (Nat.lt_of_lt_of_le (Nat.succ_pos _) hf))
    have e : ∀ q, c + (q + 1) * step = c + step + q * step := fun q => by
      rw [Nat.succ_mul, ← Nat.add_assoc, Nat.add_right_comm]
    have h0 : c < n := by simpa using hgo 0 (Nat.succ_pos p)
    -- one pass advances the counter by `step`; the rest is the hypothesis from there, re-bracketed
    rw [loopGo_succ, if_pos h0, ih (c + step) _ (t + 1) (ps + 1) fuel
      (fun q hq => e q ▸ hgo (q + 1) (Nat.succ_lt_succ hq)) (e p ▸ hn) (Nat.le_of_succ_le_succ hf),
      e p, Nat.add_right_comm t 1 p, Nat.add_right_comm ps 1 p]
    rfl

/-- Iteration-bounded loop (`step = 1`) entered with the counter at `c ≤ n`: exactly `n − c` passes. -/
theorem loopRun_exact [OfNat F 0] (n d c fuel : Nat) (hc : c + d = n) (hf : d + 1 ≤ fuel) :
    loopRun toF n 1 c fuel = some ⟨n, toF n / toF n, d + 1, d⟩ := by
  have h := loopGo_least toF n 1 d c 0 0 0 fuel
    (fun q hq => by rw [Nat.mul_one, ← hc]; exact Nat.add_lt_add_left hq c)
    (Nat.le_of_eq (by rw [Nat.mul_one, hc])) hf
  rwa [Nat.mul_one, hc, Nat.zero_add] at h

end loop

end MahfModel.Conditions
