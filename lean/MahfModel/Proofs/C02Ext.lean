/- C02: which requests can be answered by a panic (`Props.C02.no_panic_from_fallible`). -/
import MahfModel.Model.Borrow
namespace MahfModel.Borrow
open MahfModel.Registry

def isPanicOut : Out → Bool
  | .panic => true
  | _ => false

/-- The requests that are NOT explicitly panicking accessors: everything a client can issue through `&State`
except `borrow`, `borrow_mut`, `get_value` (and `&mut` statements, which are C01/C03 matter). -/
def fallible : MOp → Bool
  | .borP _ | .borMutP _ | .ex _ => false
  | .sh (.get _) => false
  | _ => true

theorem ofRes_noPanic (x : Except Err Nat) : isPanicOut (Out.ofRes x) = false := by cases x <;> rfl
theorem ofOpt_noPanic (x : Option Nat) : isPanicOut (Out.ofOpt x) = false := by cases x <;> rfl

end MahfModel.Borrow
