/-
C03 — frame rules for trees: `srun_frame` through the compilation. A stable property of the caller's scopes holds after a
run, an execution (`run_frame`, `exec_frame`), a scope (`scope_frame`) and a hooked scope (`scopeW_frame`), whatever the
outcome; an execution leaves the visible counter alone (`exec_counter_same`) and, by `inv_count`, adds no evaluation of a
condition that does not occur in the tree (`exec_count_same`); what the merge hook of a hooked scope delivers.
-/
import MahfModel.Proofs.C03Stable
import MahfModel.Proofs.C03Compile
namespace MahfModel.Config

/-! ### Frame rules for a run, an execution, a scope -/

theorem exec_scope (s : Script) (f : Nat) (b : Comp) (σ : St) :
    exec s f (.scope b) σ = (pop (srun s f (prog b) (push σ)).1, (srun s f (prog b) (push σ)).2) :=
  exec_eq s f (.scope b) σ

/-- A property of the caller's scopes that is stable under set/remove/increment survives a scope,
whatever the body inserts and however it ends. -/
theorem scope_frame (s : Script) (f : Nat) {Q : Reg → Prop} {A : Act → Bool} {L : Bool} (hst : Stable Q A false L)
    (b : Comp) (hb : b.sat A (fun _ => true) L = true) (σ : St) (hq : Q σ.reg) :
    Q (exec s f (.scope b) σ).1.reg := by
  -- below the child's map (`Stable.tail`)
  rw [exec_scope]; exact srun_frame s f hst.tail (prog b) (prog_all A _ L b hb) (push σ) hq

theorem run_frame (s : Script) (f : Nat) {Q : Reg → Prop} {A : Act → Bool} {L : Bool} (hst : Stable Q A true L)
    (c : Comp) (hc : c.sat A (fun _ => true) L = true) (σ : St) (hq : Q σ.reg) :
    Q (run s f c σ).1.reg := by
  rw [run_eq]; exact srun_frame s f hst (prog c) (prog_all A _ L c hc) σ hq

theorem exec_frame (s : Script) (f : Nat) {Q : Reg → Prop} {A : Act → Bool} {L : Bool} (hst : Stable Q A true L)
    (c : Comp) (hc : c.sat A (fun _ => true) L = true) (σ : St) (hq : Q σ.reg) :
    Q (exec s f c σ).1.reg := by
  rw [exec_eq]; exact srun_frame s f hst (execProg c) (execProg_all A _ L c hc) σ hq

/-- Executing a loop-free tree whose leaves never touch key 0 leaves the visible counter alone. -/
theorem exec_counter_same (s : Script) (f : Nat) (b : Comp)
    (hb : b.sat Act.offCounter (fun _ => true) false = true) (σ : St) :
    (exec s f b σ).1.reg.get? 0 = σ.reg.get? 0 :=
  get0_of_profile _ _ (exec_frame s f (stable_profile _) b hb σ rfl)

/-- A body in which the condition `cid` does not occur adds no `ceval cid` event. -/
theorem exec_count_same (s : Script) (f : Nat) (cid : Nat) (b : Comp)
    (hb : b.sat (fun _ => true) (Cond.avoids cid) true = true) (σ : St) :
    (exec s f b σ).1.tr.count (Phase.ceval, cid) = σ.tr.count (Phase.ceval, cid) := by
  rw [exec_eq]
  exact srun_pres (inv_count s cid) f _ (execProg_all _ _ true b hb) σ

/-! ### Hooked scopes (`Scope::new_with`) -/

/-- What runs inside the child state of a hooked scope before the merge: `state_init`, then the
body's lifecycle. -/
def hookBody (id : Nat) (si : List Act) (b : Comp) : Stmt :=
  .seq (.atom (.prim (.init, id) si)) (prog b)

theorem exec_scopeW (s : Script) (f : Nat) (id : Nat) (si : List Act) (mg : List (Nat × Nat)) (b : Comp) (σ : St) :
    exec s f (.scopeW id si mg b) σ =
      closeMerge s id mg (andThen (step s (.init, id) (leafEff .init si) (push σ)) (run s f b)) := rfl

theorem hookBody_eq (s : Script) (f : Nat) (id : Nat) (si : List Act) (b : Comp) (σ : St) :
    andThen (step s (.init, id) (leafEff .init si) σ) (run s f b) = srun s f (hookBody id si b) σ :=
  andThen_congr rfl fun σ0 => run_eq s f b σ0

/-- The closure's registry loses its innermost scope; if the closure ended normally and the merge hook does not fail, the
hook's exports are inserted into what is left. -/
theorem closeMerge_cases (s : Script) (id : Nat) (mg : List (Nat × Nat)) (x : St × Res) :
    (closeMerge s id mg x).1.reg = x.1.reg.tail ∧ (closeMerge s id mg x).2 ≠ .ok ∨
    x.2 = .ok ∧ closeMerge s id mg x = (⟨exportKeys (x.1.reg.headD []) mg x.1.reg.tail, (.exec, id) :: x.1.tr⟩, .ok) := by
  obtain ⟨σ2, r⟩ := x
  cases r with
  | ok =>
    rcases step_cases s (Phase.exec, id) (fun p => some (exportKeys (σ2.reg.headD []) mg p)) (pop σ2) with h | ⟨r', hr', h⟩
    · exact Or.inl (by rw [closeMerge, h]; exact ⟨rfl, fun e => nomatch e⟩)
    · cases hr'; exact Or.inr ⟨rfl, h⟩
  | _ => exact Or.inl ⟨rfl, fun e => nomatch e⟩

/-- `scope_frame` for a hooked scope: a property of the caller's scopes that is stable under what
`state_init` and the body's leaves do, and under inserting the keys the merge hook exports, holds
after the scope — whatever the outcome. -/
theorem scopeW_frame (s : Script) (f : Nat) {Q : Reg → Prop} {A : Act → Bool} {L : Bool} (hst : Stable Q A false L)
    (id : Nat) (si : List Act) (mg : List (Nat × Nat)) (b : Comp)
    (hs : si.all A = true) (hb : b.sat A (fun _ => true) L = true)
    (hQ : ∀ k v p, k ∈ mg.map (·.2) → Q p → Q (p.insert k v)) (σ : St) (hq : Q σ.reg) :
    Q (exec s f (.scopeW id si mg b) σ).1.reg := by
  rw [exec_scopeW, hookBody_eq]
  have hqt := srun_frame s f hst.tail (hookBody id si b) (Stmt.all_seq hs (prog_all A _ L b hb)) (push σ) hq
  rcases closeMerge_cases s id mg (srun s f (hookBody id si b) (push σ)) with h | ⟨_, h⟩
  · rw [h.1]; exact hqt
  · rw [h]; exact exportKeys_pres _ mg hQ _ hqt

theorem exportKeys_get (m : Scope) (mg : List (Nat × Nat)) (k : Nat) :
    ∀ (p : Reg), p ≠ [] → (exportKeys m mg p).get? k = exportedValue m mg k (p.get? k) := by
  unfold exportKeys exportedValue
  induction mg with
  | nil => exact fun _ _ => rfl
  | cons ab mg ih =>
    intro p hp
    rw [List.foldl_cons, List.foldl_cons]
    cases hm : m.get? ab.1 with
    | none => rw [ih p hp]; split <;> rfl
    | some v => rw [ih _ (ne_nil_of_len (Reg.length_insert p ab.2 v) hp), Reg.get_insert _ _ _ _ hp]

theorem exportedValue_of_not_target (m : Scope) (mg : List (Nat × Nat)) (k : Nat) (d : Option Nat)
    (h : k ∉ mg.map (·.2)) : exportedValue m mg k d = d := by
  unfold exportedValue
  induction mg generalizing d with
  | nil => rfl
  | cons ab mg ih =>
    rw [List.foldl_cons, if_neg fun e => h (List.mem_cons.mpr (Or.inl e.symm))]
    exact ih d fun e => h (List.mem_cons_of_mem _ e)

end MahfModel.Config
