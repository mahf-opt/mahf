/- C13: both circular swaps are chains of swaps; a chain realises the cyclic closed form `Cyc` of its index list. -/
import MahfModel.Model.Variation
namespace MahfModel.Variation
variable {α : Type}

/-! ### swaps and chains of swaps -/

theorem swapAt_perm (l l' : List α) (i j : Nat) (h : swapAt l i j = some l') : l'.Perm l := by
  unfold swapAt at h
  split at h
  · next a b ha hb =>
    obtain ⟨hi, rfl⟩ := List.getElem?_eq_some_iff.mp ha
    obtain ⟨hj, rfl⟩ := List.getElem?_eq_some_iff.mp hb
    obtain rfl := Option.some.inj h
    exact List.set_set_perm hi hj
  · cases h

theorem swapAt_spec (l : List α) (i j : Nat) (hi : i < l.length) (hj : j < l.length) :
    ∃ r, swapAt l i j = some r ∧ r.length = l.length ∧
      ∀ p, r[p]? = if p = j then l[i]? else if p = i then l[j]? else l[p]? := by
  unfold swapAt
  rw [List.getElem?_eq_getElem hi, List.getElem?_eq_getElem hj]
  refine ⟨_, rfl, by simp, ?_⟩
  intro p
  simp only [List.getElem?_set, List.length_set]
  grind -- the cases `p = i`, `p = j`

theorem swapAt_comm (l : List α) (i j : Nat) : swapAt l i j = swapAt l j i := by
  unfold swapAt
  cases hi : l[i]? with
  | none => cases hj : l[j]? <;> simp
  | some a =>
    cases hj : l[j]? with
    | none => simp
    | some b =>
      simp only [Option.some.injEq]
      obtain ⟨hi', rfl⟩ := List.getElem?_eq_some_iff.mp hi
      obtain ⟨hj', rfl⟩ := List.getElem?_eq_some_iff.mp hj
      apply List.ext_getElem?
      intro p
      simp only [List.getElem?_set, List.length_set]
      grind -- the cases `p = i`, `p = j`

theorem swapPairs_perm (l l' : List α) (ps : List (Nat × Nat)) (h : swapPairs l ps = some l') : l'.Perm l := by
  fun_induction swapPairs l ps
  case case1 => cases h; exact .refl _
  case case2 hs ih => exact (ih h).trans (swapAt_perm _ _ _ _ hs)
  case case3 => cases h

/-- The swaps along a chain of indices `c`: `swap(c₀,c₁); swap(c₁,c₂); …`. -/
abbrev chain (c : List Nat) : List (Nat × Nat) := c.zip c.tail

/-! ### the cyclic closed form of a chain -/

/-- cyclic closed form along chain `c`: position `c[j]` receives the old element of `c[j+1]`,
the last position receives the old element of the first; positions off the chain keep theirs. -/
structure Cyc (l : List α) (c : List Nat) (r : List α) : Prop where
  len : r.length = l.length
  off : ∀ p, p ∉ c → r[p]? = l[p]?
  step : ∀ j x y, c[j]? = some x → c[j+1]? = some y → r[x]? = l[y]?
  wrap : ∀ x y, c.getLast? = some x → c.head? = some y → r[x]? = l[y]?

theorem Cyc.single (l : List α) (a : Nat) : Cyc l [a] l where
  len := rfl
  off _ _ := rfl
  step j x y _ hy := by cases j <;> cases hy
  wrap x y hx hy := by cases hx; cases hy; rfl

/-- Swapping the first two positions of a chain and then running the rest of the chain runs the whole chain. -/
theorem Cyc.cons {l l' r : List α} {a b : Nat} {t : List Nat} (hn : (a :: b :: t).Nodup)
    (hlen : l'.length = l.length)
    (hl' : ∀ p, l'[p]? = if p = b then l[a]? else if p = a then l[b]? else l[p]?)
    (h : Cyc l' (b :: t) r) : Cyc l (a :: b :: t) r := by
  obtain ⟨ha, hbt⟩ := List.nodup_cons.mp hn
  have hb : b ∉ t := (List.nodup_cons.mp hbt).1
  have hab : a ≠ b := fun e => ha (e ▸ List.mem_cons_self)
  have keep : ∀ y ∈ t, l'[y]? = l[y]? := fun y hy => by
    have hyb : y ≠ b := fun e => hb (e ▸ hy)
    have hya : y ≠ a := fun e => ha (e ▸ List.mem_cons_of_mem _ hy)
    rw [hl', if_neg hyb, if_neg hya]
  refine ⟨h.len.trans hlen, fun p hp => ?_, fun j x y hx hy => ?_, fun x y hx hy => ?_⟩
  · rw [List.mem_cons, not_or, List.mem_cons, not_or] at hp
    rw [h.off p ((not_congr List.mem_cons).mpr (not_or.mpr hp.2)), hl', if_neg hp.2.1, if_neg hp.1]
  · cases j with
    | zero =>
      obtain rfl := Option.some.inj hx
      obtain rfl := Option.some.inj hy
      rw [h.off _ ha, hl', if_neg hab, if_pos rfl]
    | succ j =>
      rw [h.step j x y hx hy, keep y (List.mem_of_getElem? hy)]
  · obtain rfl := Option.some.inj hy
    rw [h.wrap x b hx rfl, hl', if_pos rfl]

theorem chain_cyc (c : List Nat) (hn : c.Nodup) (hne : c ≠ []) (l : List α) (hr : ∀ x ∈ c, x < l.length) :
    ∃ r, swapPairs l (chain c) = some r ∧ Cyc l c r := by
  induction c generalizing l with
  | nil => exact absurd rfl hne
  | cons a t ih =>
    cases t with
    | nil => exact ⟨l, rfl, Cyc.single l a⟩
    | cons b t =>
      obtain ⟨l', hs, hl', hg⟩ := swapAt_spec l a b (hr a (by simp)) (hr b (by simp))
      obtain ⟨r, hc, hcyc⟩ := ih (List.nodup_cons.mp hn).2 (List.cons_ne_nil _ _) l'
        (fun x hx => hl' ▸ hr x (List.mem_cons_of_mem _ hx))
      exact ⟨r, by rw [chain, List.tail_cons, List.zip_cons_cons, swapPairs, hs]; exact hc, Cyc.cons hn hl' hg hcyc⟩

theorem chain_cyc_of_perm (c idx : List Nat) (hp : c.Perm idx) (hn : idx.Nodup) (hne : c ≠ []) (l : List α)
    (hr : ∀ i ∈ idx, i < l.length) : ∃ r, swapPairs l (chain c) = some r ∧ Cyc l c r :=
  chain_cyc c (hp.nodup_iff.mpr hn) hne l fun x hx => hr x (hp.mem_iff.mp hx)

/-! ### rotating and reading the closed form -/

theorem getElem?_append_of_eq_some {β : Type} {l l' : List β} {j : Nat} {x : β} (h : l[j]? = some x) :
    (l ++ l')[j]? = some x := by
  rw [List.getElem?_append_left (List.getElem?_eq_some_iff.mp h).1, h]

theorem Cyc.rotl (l : List α) (a : Nat) (t : List Nat) (r : List α) (h : Cyc l (t ++ [a]) r) : Cyc l (a :: t) r := by
  refine ⟨h.len, fun p hp => h.off p fun hm => hp ((List.perm_append_singleton a t).mem_iff.mp hm),
    fun j x y hx hy => ?_, fun x y hx hy => ?_⟩
  · cases j with
    | zero =>
      obtain rfl := Option.some.inj hx
      refine h.wrap a y List.getLast?_concat ?_
      rw [List.head?_append, List.head?_eq_getElem?, show t[0]? = some y from hy]; rfl
    | succ j => exact h.step j x y (getElem?_append_of_eq_some hx) (getElem?_append_of_eq_some hy)
  · obtain rfl := Option.some.inj hy
    rcases List.eq_nil_or_concat t with rfl | ⟨t', z, rfl⟩
    · exact h.wrap x a hx rfl
    · rw [List.concat_eq_append] at hx h
      rw [← List.cons_append, List.getLast?_concat] at hx
      obtain rfl := Option.some.inj hx
      refine h.step t'.length _ _ ?_ ?_
      · exact getElem?_append_of_eq_some List.getElem?_concat_length
      · rw [show t'.length + 1 = (t' ++ [z]).length by simp]; exact List.getElem?_concat_length ..

theorem Cyc.unique (l : List α) (c : List Nat) (r1 r2 : List α) (h1 : Cyc l c r1) (h2 : Cyc l c r2) : r1 = r2 := by
  apply List.ext_getElem?
  intro p
  by_cases hp : p ∈ c
  · obtain ⟨j, hj, rfl⟩ := List.getElem_of_mem hp
    by_cases hj2 : j + 1 < c.length
    · rw [h1.step j _ _ (List.getElem?_eq_getElem hj) (List.getElem?_eq_getElem hj2),
        h2.step j _ _ (List.getElem?_eq_getElem hj) (List.getElem?_eq_getElem hj2)]
    · have hl : c.getLast? = some c[j] := by
        rw [List.getLast?_eq_getElem?, ← List.getElem?_eq_getElem hj]; congr 1; omega
      have hh : c.head? = some (c[0]'(Nat.zero_lt_of_lt hj)) := by
        rw [List.head?_eq_getElem?, List.getElem?_eq_getElem]
      rw [h1.wrap _ _ hl hh, h2.wrap _ _ hl hh]
  · rw [h1.off p hp, h2.off p hp]

/-- The cyclic closed form, read in terms of the index list: the element at `i_k` moves to `i_{(k+1) mod n}`. -/
theorem Cyc.moves (l : List α) (idx : List Nat) (r : List α) (h : Cyc l idx.reverse r) (k x y : Nat)
    (hx : idx[(k + 1) % idx.length]? = some x) (hy : idx[k]? = some y) : r[x]? = l[y]? := by
  have hk := (List.getElem?_eq_some_iff.mp hy).1
  by_cases hk1 : k + 1 < idx.length
  · rw [Nat.mod_eq_of_lt hk1] at hx
    exact h.step (idx.length - 2 - k) x y ((List.getElem?_reverse' (by omega)).trans hx)
      ((List.getElem?_reverse' (by omega)).trans hy)
  · have e : k + 1 = idx.length := by omega
    rw [e, Nat.mod_self] at hx
    refine h.wrap x y ?_ ?_
    · rw [List.getLast?_reverse, List.head?_eq_getElem?, hx]
    · rw [List.head?_reverse, List.getLast?_eq_getElem?, ← hy, ← e]; rfl

/-! ### circular swaps as chains -/

theorem zip_tail_snoc (x : Nat) (c : List Nat) : c.zip (c.tail ++ [x]) = chain (c ++ [x]) := by
  induction c with
  | nil => rfl
  | cons a t ih =>
    cases t with
    | nil => rfl
    | cons b t => exact congrArg ((a, b) :: ·) ih

/-- `circular_swap` runs the chain `[i_{n-2}, …, i_0, i_{n-1}]`. -/
theorem circularSwap_eq_chain (l : List α) (x : Nat) (rest : List Nat) (idx : List Nat)
    (hrev : idx.reverse = x :: rest) (h2 : 2 ≤ idx.length) :
    circularSwap l idx = swapPairs l (chain (rest ++ [x])) := by
  rw [circularSwap, if_neg (by omega), hrev, ← zip_tail_snoc]
  cases rest <;> rfl

theorem circularSwap2Loop_snoc (l : List α) (pre : List Nat) (y x k : Nat) :
    circularSwap2Loop l (pre ++ [y] ++ [x]) (k + 1) =
      match swapAt l x y with
      | some l' => circularSwap2Loop l' (pre ++ [y]) k
      | none => none := by
  have e1 : (pre ++ [y] ++ [x])[(pre ++ [y] ++ [x]).length - 1]? = some x :=
    List.getLast?_eq_getElem?.symm.trans List.getLast?_concat
  have e2 : (pre ++ [y] ++ [x])[(pre ++ [y] ++ [x]).length - 2]? = some y := by
    rw [show (pre ++ [y] ++ [x]).length - 2 = pre.length by simp]
    exact getElem?_append_of_eq_some List.getElem?_concat_length
  rw [circularSwap2Loop, e1, e2, List.dropLast_concat]
  rfl

theorem circularSwap2Loop_eq_chain (k : Nat) : ∀ (l : List α) (r : List Nat), k + 1 ≤ r.length →
    circularSwap2Loop l r.reverse k = swapPairs l (chain (r.take (k + 1))) := by
  induction k with
  | zero => intro l r _; cases r <;> rfl
  | succ k ih =>
    intro l r hr
    match r, hr with
    | x :: y :: r', hr =>
      rw [List.reverse_cons, List.reverse_cons, circularSwap2Loop_snoc, List.take_succ_cons, List.take_succ_cons,
        chain, List.tail_cons, List.zip_cons_cons, swapPairs]
      cases swapAt l x y with
      | none => rfl
      | some l' => exact (List.reverse_cons ▸ ih l' (y :: r') (Nat.le_of_succ_le_succ hr)).trans (by rw [List.take_succ_cons]; rfl)

/-- `circular_swap2` runs the chain `[i_0, i_{n-1}, …, i_1]`. -/
theorem circularSwap2_eq_chain (l : List α) (i0 : Nat) (tl : List Nat) (htl : tl ≠ []) :
    circularSwap2 l (i0 :: tl) = swapPairs l (chain (i0 :: tl.reverse)) := by
  obtain ⟨t', z, rfl⟩ : ∃ t' z, tl = t' ++ [z] := ⟨_, _, (List.dropLast_concat_getLast htl).symm⟩
  have hlen : (i0 :: (t' ++ [z])).length = t'.length + 2 := by
    rw [List.length_cons, List.length_append, List.length_singleton]
  have e1 : (i0 :: (t' ++ [z]))[t'.length + 1]? = some z := List.getElem?_concat_length (l := t')
  have hloop : ∀ l' : List α, circularSwap2Loop l' (i0 :: (t' ++ [z])) t'.length = swapPairs l' (chain (z :: t'.reverse)) :=
    fun l' => by
      have := circularSwap2Loop_eq_chain t'.length l' (z :: (t'.reverse ++ [i0]))
        (by rw [List.length_cons, List.length_append, List.length_reverse]; exact Nat.le_succ _)
      rwa [List.reverse_cons, List.reverse_append, List.reverse_reverse, List.take_succ_cons,
        List.take_left' List.length_reverse] at this
  unfold circularSwap2
  rw [if_neg (by rw [hlen]; omega)]
  dsimp only
  rw [hlen, Nat.add_sub_cancel, show t'.length + 2 - 1 = t'.length + 1 from rfl, e1, List.getElem?_cons_zero,
    List.reverse_append, List.reverse_singleton, List.singleton_append, chain, List.tail_cons, List.zip_cons_cons, swapPairs]
  dsimp only
  rw [swapAt_comm l z i0]
  cases swapAt l i0 z with
  | none => rfl
  | some l' =>
    dsimp only
    refine Eq.trans ?_ (hloop l')
    split
    · rfl
    · next hn => rw [Nat.eq_zero_of_not_pos fun h => hn (Nat.succ_lt_succ (Nat.succ_lt_succ h))]; rfl

theorem circularSwap_cyc (l : List α) (idx : List Nat) (hn : idx.Nodup) (h2 : 2 ≤ idx.length)
    (hr : ∀ i ∈ idx, i < l.length) :
    ∃ r, circularSwap l idx = some r ∧ Cyc l idx.reverse r := by
  cases hrev : idx.reverse with
  | nil => rw [List.reverse_eq_nil_iff.mp hrev] at h2; cases h2
  | cons x rest =>
    obtain ⟨r, h1, hc⟩ := chain_cyc_of_perm (rest ++ [x]) idx
      ((List.perm_append_singleton x rest).trans (hrev ▸ List.reverse_perm idx)) hn (by simp) l hr
    exact ⟨r, (circularSwap_eq_chain l x rest idx hrev h2).trans h1, hc.rotl⟩

/-- The chain of `circular_swap2` is the chain of `circular_swap` rotated twice, so both realise the same closed form,
which determines the result. -/
theorem circularSwap_agree (l : List α) (idx : List Nat) (hn : idx.Nodup) (h2 : 2 ≤ idx.length)
    (hr : ∀ i ∈ idx, i < l.length) :
    ∃ r, circularSwap l idx = some r ∧ circularSwap2 l idx = some r ∧ Cyc l idx.reverse r := by
  obtain ⟨r, e1, c1⟩ := circularSwap_cyc l idx hn h2 hr
  match idx, h2 with
  | i0 :: a :: t, _ =>
    obtain ⟨r2, e2, c2⟩ := chain_cyc_of_perm (i0 :: (a :: t).reverse) (i0 :: a :: t)
      ((List.reverse_perm _).cons i0) hn (List.cons_ne_nil _ _) l hr
    have c1' : Cyc l (i0 :: (a :: t).reverse) r := (List.reverse_cons ▸ c1).rotl
    exact ⟨r, e1, (circularSwap2_eq_chain l i0 (a :: t) (List.cons_ne_nil _ _)).trans
      (e2.trans (congrArg some (Cyc.unique _ _ _ _ c2 c1'))), c1⟩

/-! ### the closed form `cswapSpec` -/

theorem pred_succ_mod (k n : Nat) (hk : k < n) : ((k + n - 1) % n + 1) % n = k := by
  rcases k with _ | k
  · rw [Nat.zero_add, Nat.mod_eq_of_lt (Nat.sub_lt hk Nat.one_pos), Nat.sub_add_cancel hk, Nat.mod_self]
  · rw [show k + 1 + n - 1 = k + n by omega, Nat.add_mod_right, Nat.mod_eq_of_lt (show k < n by omega),
      Nat.mod_eq_of_lt hk]

theorem cswapSpec_eq (l : List Nat) (idx : List Nat) (r : List Nat) (hr : ∀ i ∈ idx, i < l.length)
    (hc : Cyc l idx.reverse r) : r = cswapSpec l idx := by
  apply List.ext_getElem?
  intro p
  simp only [cswapSpec, List.getElem?_map]
  by_cases hp : p < l.length
  · rw [List.getElem?_range hp, Option.map_some]
    by_cases hm : p ∈ idx
    · have hk : idx.idxOf p < idx.length := List.idxOf_lt_length_of_mem hm
      have hk' : (idx.idxOf p + idx.length - 1) % idx.length < idx.length := Nat.mod_lt _ (Nat.zero_lt_of_lt hk)
      rw [hc.moves l idx r ((idx.idxOf p + idx.length - 1) % idx.length) p _
          (by rw [pred_succ_mod _ _ hk, List.getElem?_eq_getElem hk, List.getElem_idxOf hk])
          (List.getElem?_eq_getElem hk'),
        List.getElem?_eq_getElem (hr _ (List.getElem_mem hk')), if_pos (List.contains_iff_mem.mpr hm),
        getElem!_pos idx _ hk', getElem!_pos l _ (hr _ (List.getElem_mem hk'))]
    · rw [hc.off p ((not_congr List.mem_reverse).mpr hm), List.getElem?_eq_getElem hp,
        if_neg ((not_congr List.contains_iff_mem).mpr hm), getElem!_pos l p hp]
  · rw [List.getElem?_eq_none (hc.len ▸ Nat.le_of_not_lt hp), List.getElem?_eq_none (List.length_range ▸ Nat.le_of_not_lt hp)]
    rfl

end MahfModel.Variation
