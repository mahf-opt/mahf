/- Which of several extremal elements a left-to-right selection loop returns (`Iterator::min_by_key`, `min`, `max`:
`PopMachine.minByKey`, `Objective.minGo` / `maxGo`), stated once over arbitrary relations. No order classes, no Mathlib. -/
namespace MahfModel.Pick
variable {α : Type}

/-- `m` stands in `l`, `R1 m` holds of everything before it and `R2 m` of everything after it
(first minimum: `R1` "strictly less", `R2` "at most"; last maximum: "at least" and "strictly greater"). -/
def Split (R1 R2 : α → α → Prop) (l : List α) (m : α) : Prop :=
  ∃ pre post, l = pre ++ m :: post ∧ (∀ x ∈ pre, R1 m x) ∧ (∀ x ∈ post, R2 m x)

variable (B : α → α → Prop) [DecidableRel B]

/-- Left to right; a later `y` replaces the candidate `m` when `B y m`. -/
def foldPick (m : α) (l : List α) : α := l.foldl (fun m y => if B y m then y else m) m

/-- Loop invariant of the fold: the candidate stands in the part seen so far, split as in `Split`. A replacement
must give `R1` of the old candidate and carry `R1`, `R2` of the old candidate over to `R1` of the new one; a refusal
must give `R2`. (`P`: what is known of all elements, e.g. that they are evaluated.) -/
theorem foldPick_split (P : α → Prop) (R1 R2 : α → α → Prop)
    (hrep : ∀ y m, P y → P m → B y m → R1 y m ∧ (∀ x, R1 m x → R1 y x) ∧ (∀ x, R2 m x → R1 y x))
    (hkeep : ∀ y m, P y → P m → ¬ B y m → R2 m y)
    (l : List α) : ∀ (acc : List α) (m : α) (mid : List α),
      P m → (∀ x ∈ l, P x) → (∀ x ∈ acc, R1 m x) → (∀ x ∈ mid, R2 m x) →
      Split R1 R2 (acc ++ m :: (mid ++ l)) (foldPick B m l) := by
  induction l with
  | nil => intro acc m mid _ _ h1 h2; exact ⟨acc, mid, by rw [List.append_nil]; rfl, h1, h2⟩
  | cons y ys ih =>
    intro acc m mid hm hl h1 h2
    obtain ⟨hy, hys⟩ := List.forall_mem_cons.mp hl
    rw [foldPick, List.foldl_cons]
    by_cases hB : B y m
    · obtain ⟨r1, r2, r3⟩ := hrep y m hy hm hB
      rw [if_pos hB, show acc ++ m :: (mid ++ y :: ys) = (acc ++ m :: mid) ++ y :: ([] ++ ys) by
        simp only [List.append_assoc, List.cons_append, List.nil_append]]
      exact ih (acc ++ m :: mid) y [] hy hys (List.forall_mem_append.mpr ⟨fun x hx => r2 x (h1 x hx),
        List.forall_mem_cons.mpr ⟨r1, fun x hx => r3 x (h2 x hx)⟩⟩) (fun _ hx => nomatch hx)
    · rw [if_neg hB, show acc ++ m :: (mid ++ y :: ys) = acc ++ m :: ((mid ++ [y]) ++ ys) by
        simp only [List.append_assoc, List.cons_append, List.nil_append]]
      exact ih acc m (mid ++ [y]) hm hys h1 (List.forall_mem_append.mpr ⟨h2,
        List.forall_mem_singleton.mpr (hkeep y m hy hm hB)⟩)

theorem foldPick_first (P : α → Prop) (R1 R2 : α → α → Prop)
    (hrep : ∀ y m, P y → P m → B y m → R1 y m ∧ (∀ x, R1 m x → R1 y x) ∧ (∀ x, R2 m x → R1 y x))
    (hkeep : ∀ y m, P y → P m → ¬ B y m → R2 m y) (m : α) (l : List α) (hl : ∀ x ∈ m :: l, P x) :
    Split R1 R2 (m :: l) (foldPick B m l) :=
  foldPick_split B P R1 R2 hrep hkeep l [] m [] (List.forall_mem_cons.mp hl).1 (List.forall_mem_cons.mp hl).2
    (fun _ hx => (nomatch hx)) (fun _ hx => (nomatch hx))

end MahfModel.Pick
