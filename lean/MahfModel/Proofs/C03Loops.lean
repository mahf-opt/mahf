/-
C03 — completed loops as `Passes`: a `while` ends normally iff it made some number of passes below the bound
(`whileN_ok_iff`); each pass adds one to the visible counter (`passes_counter`); with a single scripted condition the
number of passes is read off the script (`passes_script`).
-/
import MahfModel.Proofs.C03Seq
import MahfModel.Proofs.C03Reg
namespace MahfModel.Config

theorem whileN_ok_iff (cond : St → St × CRes) (body : St → St × Res) (n : Nat) (σ σ' : St) :
    whileN cond body n σ = (σ', .ok) ↔ ∃ k, k < n ∧ Passes cond body k σ σ' := by
  constructor
  · intro h
    induction n generalizing σ with
    | zero => cases h
    | succ n ih =>
      rw [whileN_succ] at h
      obtain ⟨b, σ1, hc, h⟩ := cthen_ok h
      cases b
      · cases h; exact ⟨0, Nat.succ_pos n, .done hc⟩
      · obtain ⟨σ2, hb, h⟩ := andThen_ok h
        obtain ⟨k, hk, hp⟩ := ih σ2 h
        exact ⟨k + 1, Nat.succ_lt_succ hk, .pass hc hb hp⟩
  · rintro ⟨k, hk, hp⟩
    induction hp generalizing n with
    | done hc =>
      obtain ⟨n, rfl⟩ := Nat.exists_eq_succ_of_ne_zero (Nat.ne_of_gt hk)
      rw [whileN_succ, hc]; rfl
    | pass hc hb _ ih =>
      obtain ⟨n, rfl⟩ := Nat.exists_eq_succ_of_ne_zero (Nat.ne_of_gt (Nat.zero_lt_of_lt hk))
      rw [whileN_succ, hc]
      show andThen _ _ = _
      rw [hb]
      exact ih n (Nat.lt_of_succ_lt_succ hk)

theorem bump_ok {σ σ' : St} (h : bump σ = (σ', .ok)) : σ.reg.incr = some σ'.reg ∧ σ'.tr = σ.tr := by
  unfold bump at h
  split at h
  · rename_i r hr; cases h; exact ⟨hr, rfl⟩
  · cases h

/-- Each completed pass adds exactly one to the visible counter, provided test and body leave it
alone. -/
theorem passes_counter {cond : St → St × CRes} {body : St → St × Res}
    (hc : ∀ σ, (cond σ).1.reg = σ.reg)
    (hb : ∀ σ σ', body σ = (σ', .ok) → σ'.reg.get? 0 = σ.reg.get? 0)
    {n : Nat} {σ σ' : St} (h : Passes cond (fun x => andThen (body x) bump) n σ σ') :
    σ'.reg.get? 0 = (σ.reg.get? 0).map (· + n) := by
  induction h with
  | @done σ σ' h => have := hc σ; rw [h] at this; rw [this]; cases σ.reg.get? 0 <;> rfl
  | @pass n σ σ1 σ2 σ' h1 h2 _ ih =>
    have c1 := hc σ; rw [h1] at c1
    obtain ⟨σm, hm, hbump⟩ := andThen_ok h2
    rw [ih, Reg.get_incr _ _ 0 (bump_ok hbump).1, if_pos rfl, hb _ _ hm, c1]
    cases σ.reg.get? 0 with
    | none => rfl
    | some v => exact congrArg some (show v + 1 + n = v + (n + 1) by omega)

theorem evalLeaf_val {s : Script} {id : Nat} {σ σ' : St} {b : Bool} (h : evalLeaf s id σ = (σ', .val b)) :
    σ' = ⟨σ.reg, (Phase.ceval, id) :: σ.tr⟩ ∧ s.value id (σ.tr.count (Phase.ceval, id)) = b := by
  simp only [evalLeaf] at h
  split at h <;> cases h
  exact ⟨rfl, rfl⟩

/-- With a single scripted condition the number of passes is read off the script: the values
consumed are `true` for every pass and `false` for the final test. -/
theorem passes_script (s : Script) (cid : Nat) {body : St → St × Res}
    (hb : ∀ σ σ', body σ = (σ', .ok) → σ'.tr.count (Phase.ceval, cid) = σ.tr.count (Phase.ceval, cid))
    {n : Nat} {σ σ' : St} (h : Passes (evalLeaf s cid) body n σ σ') :
    (∀ i, i < n → s.value cid (σ.tr.count (Phase.ceval, cid) + i) = true) ∧
    s.value cid (σ.tr.count (Phase.ceval, cid) + n) = false ∧
    σ'.tr.count (Phase.ceval, cid) = σ.tr.count (Phase.ceval, cid) + n + 1 := by
  induction h with
  | @done σ σ' h =>
    obtain ⟨rfl, hv⟩ := evalLeaf_val h
    exact ⟨fun i hi => absurd hi (Nat.not_lt_zero i), hv, List.count_cons_self⟩
  | @pass n σ σ1 σ2 σ' h1 h2 _ ih =>
    obtain ⟨rfl, hv⟩ := evalLeaf_val h1
    -- the test added one `ceval cid` event, the body none
    rw [hb _ _ h2, List.count_cons_self] at ih
    refine ⟨fun i hi => ?_, Nat.add_right_comm _ 1 n ▸ ih.2.1, Nat.add_right_comm _ 1 n ▸ ih.2.2⟩
    cases i with
    | zero => exact hv
    | succ i => exact Nat.add_right_comm _ 1 i ▸ ih.1 i (Nat.lt_of_succ_lt_succ hi)

end MahfModel.Config
