/- C11 (selection operators): what holds over ANY carrier of objective values — only the operation classes of the model's
signature, so `Float` included: `pick`, evaluated populations (`objectives`, keyed lists and their first minimum), what
`objective_bounds`, `reverse_rank` and `maxNat` give without any law, and `proportional_weights` inside its contract as
one equation.  Neither this module nor those that import only it (`C11Select`, `C11Sus`, `C11Range`) sees an
ordered field. -/
import MahfModel.Model.Selection
import MahfModel.Proofs.ListIndex
import Mathlib.Data.List.Nodup
import Mathlib.Data.List.Perm.Subperm
namespace MahfModel.Selection

theorem eq_nil_iff_of_length_eq {α β : Type} {l₁ : List α} {l₂ : List β} (h : l₁.length = l₂.length) :
    l₁ = [] ↔ l₂ = [] := by
  rw [← List.length_eq_zero_iff, h, List.length_eq_zero_iff]

/-! ### `pick` -/

theorem mem_of_mem_pick {α : Type} {l : List α} {is : List Nat} {x : α} (h : x ∈ pick l is) : x ∈ l := by
  simp only [pick, List.mem_filterMap] at h
  obtain ⟨i, _, hi⟩ := h
  exact List.mem_of_getElem? hi

theorem pick_nil {α : Type} (l : List α) : pick l [] = [] := rfl

/-- in range every position is read: `pick` is a `map` (seen through `some`) -/
theorem pick_map_some {α : Type} (l : List α) (is : List Nat) (h : inRange l.length is) :
    (pick l is).map some = is.map (l[·]?) := by
  obtain ⟨r, hr⟩ := mapM_getElem?_returns is l h
  rw [pick, filterMap_of_mapM _ is r hr, mapM_map_some _ is r hr]

theorem pick_length {α : Type} (l : List α) (is : List Nat) (h : inRange l.length is) :
    (pick l is).length = is.length := by
  simpa using congrArg List.length (pick_map_some l is h)

theorem pick_getElem? {α : Type} (l : List α) (is : List Nat) (h : inRange l.length is) (k : Nat) :
    (pick l is)[k]? = is[k]?.bind (l[·]?) := by
  have := congrArg (·[k]?) (pick_map_some l is h)
  simp only [List.getElem?_map] at this
  calc (pick l is)[k]? = ((pick l is)[k]?.map some).join := by cases (pick l is)[k]? <;> rfl
    _ = is[k]?.bind (l[·]?) := by rw [this]; cases is[k]? <;> rfl

theorem pick_nodup {α : Type} (l : List α) (is : List Nat) (hl : l.Nodup) (hn : is.Nodup)
    (h : inRange l.length is) : (pick l is).Nodup := by
  refine List.Nodup.of_map some ?_
  rw [pick_map_some l is h]
  refine hn.map_on fun i hi j hj e => ?_
  rw [List.getElem?_eq_getElem (h i hi), List.getElem?_eq_getElem (h j hj), Option.some.injEq] at e
  exact (List.Nodup.getElem_inj_iff hl).mp e

theorem pick_perm_of_full {α : Type} (l : List α) (s : List Nat) (hlen : s.length = l.length)
    (hn : s.Nodup) (hr : inRange l.length s) : (pick l s).Perm l :=
  perm_filterMap_getElem? ((List.subperm_of_subset hn fun i hi => List.mem_range.mpr (hr i hi)).perm_of_length_le
    (by simp [hlen]))

/-! ### evaluated populations: keys, objectives, first minimum -/

section keys
variable {F : Type}

theorem withKeys_spec {l : Pop F} {ks : List (Ind F × F)} (h : withKeys l = some ks) :
    ks.map (·.1) = l ∧ ∀ p ∈ ks, p.1.obj = some p.2 := by
  induction l generalizing ks with
  | nil => simp [withKeys] at h; subst h; exact ⟨rfl, nofun⟩
  | cons a l ih =>
    simp only [withKeys, List.mapM_cons] at h
    cases ha : a.obj with
    | none => simp [ha] at h
    | some o =>
      cases hl : List.mapM (fun i => Option.map (fun o => (i, o)) i.obj) l with
      | none => simp [ha, hl] at h
      | some ks' =>
        simp [ha, hl] at h
        subst h
        obtain ⟨h1, h2⟩ := ih (ks := ks') hl
        exact ⟨by rw [List.map_cons, h1], List.forall_mem_cons.mpr ⟨ha, h2⟩⟩

theorem withKeys_of_evaluated {l : Pop F} (h : ∀ x ∈ l, x.obj.isSome) : ∃ ks, withKeys l = some ks :=
  mapM_returns _ l fun x hx => by
    obtain ⟨o, ho⟩ := Option.isSome_iff_exists.mp (h x hx)
    exact ⟨(x, o), by rw [ho]; rfl⟩

theorem objectives_length {pop : Pop F} {objs : List F} (h : objectives pop = some objs) :
    objs.length = pop.length :=
  mapM_length _ _ _ h

theorem objectives_of_evaluated {pop : Pop F} (h : ∀ x ∈ pop, x.obj.isSome) :
    ∃ objs, objectives pop = some objs ∧ objs.length = pop.length ∧ pop.map (·.obj) = objs.map some := by
  obtain ⟨objs, ho⟩ := mapM_returns (·.obj) pop fun x hx => Option.isSome_iff_exists.mp (h x hx)
  exact ⟨objs, ho, objectives_length ho, (mapM_map_some _ _ _ ho).symm⟩

theorem firstMin_mem [LT F] [DecidableLT F] {ks : List (Ind F × F)} {m : Ind F × F} (h : firstMin ks = some m) : m ∈ ks := by
  induction ks generalizing m with
  | nil => simp [firstMin] at h
  | cons x rest ih =>
    simp only [firstMin] at h
    cases hr : firstMin rest with
    | none => simp [hr] at h; subst h; simp
    | some m' =>
      simp only [hr] at h
      split at h
      · cases h; exact List.mem_cons_of_mem _ (ih hr)
      · cases h; simp

theorem firstMin_eq_none [LT F] [DecidableLT F] {ks : List (Ind F × F)} : firstMin ks = none ↔ ks = [] := by
  cases ks with
  | nil => simp [firstMin]
  | cons x rest =>
    simp only [firstMin]
    cases firstMin rest with
    | none => simp
    | some m => simp; split <;> simp

end keys

/-! ### the numeric functions: what needs no law -/
section
variable {F : Type} [LT F] [DecidableLT F]

theorem objectiveBounds_eq_none {objs : List F} : objectiveBounds objs = none ↔ objs = [] := by
  cases objs <;> simp [objectiveBounds]

variable [LE F] [DecidableLE F]

theorem reverseRank_length (objs : List F) : (reverseRank objs).length = objs.length := by
  simp [reverseRank]

end

theorem le_maxNat (l : List Nat) : ∀ r ∈ l, r ≤ maxNat l := by
  intro r hr
  obtain ⟨m, hm⟩ := Option.isSome_iff_exists.mp (List.isSome_max?_of_mem hr)
  rw [maxNat, List.foldl_max, hm]
  exact Nat.le_trans ((List.max?_eq_some_iff.mp hm).2 r hr) (Nat.le_max_right _ _)

/-! ### `proportional_weights` inside its contract: `propW` of the bounds -/
section numeric
variable {F : Type} [Add F] [Sub F] [Div F] [LT F] [DecidableLT F] [OfNat F 0] [OfNat F 1]

def shiftW (mx mn offset : F) (o : F) : F := (mx - mn) - (o - mn) + offset

/-- the weights `proportional_weights` computes from the bounds `(max, min)` when the maximum is finite -/
def propW (O : Ops F) (objs : List F) (offset : F) (normalize : Bool) (mx mn : F) : List F :=
  if 0 < mn then objs.map fun o => mx - o + offset
  else if allEq objs then List.replicate objs.length (if normalize then 1 / O.ofNat objs.length else 1)
  else if normalize then (objs.map (shiftW mx mn offset)).map fun f => f / sum (objs.map (shiftW mx mn offset))
  else objs.map (shiftW mx mn offset)

theorem propW_of_pos (O : Ops F) (objs : List F) (offset : F) (normalize : Bool) {mx mn : F} (h : 0 < mn) :
    propW O objs offset normalize mx mn = objs.map fun o => mx - o + offset := if_pos h

theorem propW_of_allEq (O : Ops F) {objs : List F} (offset : F) (normalize : Bool) {mx mn : F} (h1 : ¬ 0 < mn)
    (h2 : allEq objs = true) : propW O objs offset normalize mx mn =
      List.replicate objs.length (if normalize then 1 / O.ofNat objs.length else 1) := by
  rw [propW, if_neg h1, if_pos h2]

theorem propW_of_not_allEq (O : Ops F) {objs : List F} (offset : F) (normalize : Bool) {mx mn : F} (h1 : ¬ 0 < mn)
    (h2 : ¬ allEq objs = true) : propW O objs offset normalize mx mn =
      if normalize then (objs.map (shiftW mx mn offset)).map fun f => f / sum (objs.map (shiftW mx mn offset))
      else objs.map (shiftW mx mn offset) := by
  rw [propW, if_neg h1, if_neg h2]

variable [LE F] [DecidableLE F]

/-- inside its contract `offset >= 0`, `proportional_weights` is `None` on an empty population and on a non-finite
maximum, and `propW` of the bounds otherwise -/
theorem proportionalWeights_eq (O : Ops F) (objs : List F) {offset : F} (normalize : Bool) (hoff : 0 ≤ offset) :
    proportionalWeights O objs offset normalize =
      .ok ((objectiveBounds objs).bind fun b =>
        if O.fin b.1 = false then none else some (propW O objs offset normalize b.1 b.2)) := by
  unfold proportionalWeights propW
  rw [if_neg (not_not.mpr hoff)]
  cases objectiveBounds objs with
  | none => rfl
  | some p =>
    obtain ⟨mx, mn⟩ := p
    dsimp only [Option.bind]
    cases O.fin mx
    · rfl
    · by_cases h1 : 0 < mn
      · simp only [h1, if_true]; rfl
      · by_cases h2 : allEq objs = true
        · simp only [h1, h2, if_true, if_false]; rfl
        · cases normalize <;> simp only [h1, h2, if_false] <;> rfl

theorem proportionalWeights_none_iff (O : Ops F) (objs : List F) (offset : F) (normalize : Bool)
    (hoff : 0 ≤ offset) :
    proportionalWeights O objs offset normalize = .ok none ↔
      objs = [] ∨ ∃ mx mn, objectiveBounds objs = some (mx, mn) ∧ O.fin mx = false := by
  rw [proportionalWeights_eq O objs normalize hoff, ← objectiveBounds_eq_none]
  cases objectiveBounds objs with
  | none => exact ⟨fun _ => .inl rfl, fun _ => rfl⟩
  | some p =>
    obtain ⟨mx, mn⟩ := p
    refine ⟨fun h => .inr ⟨mx, mn, rfl, ?_⟩, ?_⟩
    · by_contra hf
      rw [Option.bind, if_neg hf] at h; cases h
    · rintro (h | ⟨_, _, he, hf⟩)
      · cases h
      · cases he; rw [Option.bind, if_pos hf]

/-- the only panic of `proportional_weights` is its contract `offset >= 0` -/
theorem proportionalWeights_ne_error (O : Ops F) (objs : List F) {offset : F} (normalize : Bool)
    (hoff : 0 ≤ offset) (e : Err) : proportionalWeights O objs offset normalize ≠ .error e := by
  rw [proportionalWeights_eq O objs normalize hoff]; nofun

theorem proportionalWeights_some (O : Ops F) (objs : List F) (offset : F) (normalize : Bool) (ws : List F)
    (h : proportionalWeights O objs offset normalize = .ok (some ws)) :
    0 ≤ offset ∧ ∃ mx mn, objectiveBounds objs = some (mx, mn) ∧ O.fin mx = true ∧
      ws = propW O objs offset normalize mx mn := by
  by_cases hoff : 0 ≤ offset
  · rw [proportionalWeights_eq O objs normalize hoff] at h
    injection h with h
    obtain ⟨⟨mx, mn⟩, hb, h⟩ := Option.bind_eq_some_iff.mp h
    cases hf : O.fin mx <;> simp only [hf, if_true, Bool.true_eq_false, if_false] at h
    · cases h
    · exact ⟨hoff, mx, mn, hb, hf, (Option.some.inj h).symm⟩
  · unfold proportionalWeights at h; rw [if_pos hoff] at h; cases h

theorem proportionalWeights_length_any (O : Ops F) (objs : List F) (offset : F) (normalize : Bool) (ws : List F)
    (h : proportionalWeights O objs offset normalize = .ok (some ws)) : ws.length = objs.length := by
  obtain ⟨_, mx, mn, _, _, rfl⟩ := proportionalWeights_some O objs offset normalize ws h
  by_cases h1 : 0 < mn
  · rw [propW_of_pos O objs offset normalize h1, List.length_map]
  by_cases h2 : allEq objs = true
  · rw [propW_of_allEq O offset normalize h1 h2, List.length_replicate]
  · rw [propW_of_not_allEq O offset normalize h1 h2]; split_ifs <;> simp only [List.length_map]

end numeric

end MahfModel.Selection
