/- C02: the outcome of a borrow request through `parent()^d`: what the machine does with it (`mstep_par`,
`mstep_par_fst`) and, under `FlagInv`, that it is granted iff compatible with the live guards on the resolved cell
(`borrowAt_cases`, `granted_par_iff`, `refused_par`). -/
import MahfModel.Proofs.C02Basic
import MahfModel.Proofs.C02Flag
namespace MahfModel.Borrow
open MahfModel.Registry

theorem borrowAt_ok (r : Reg) (d : Nat) (k : Key) (e : Bool) (r' : Reg) (i : Nat)
    (hb : borrowAt r d k e = some (.ok (r', i))) :
    ∃ c j, cellAt r i k = some c ∧ c.writer = false ∧ (e = true → c.readers = 0) ∧
      r' = modifyAt r i (·.modify k (fun _ => grantedCell c e)) ∧ i = d + j ∧ find (r.drop d) k = some j := by
  simp only [borrowAt, parentN] at hb
  by_cases hd : d < r.length
  · simp only [hd, if_true] at hb
    cases ht : (if e then tryBorrowMut (r.drop d) k else tryBorrow (r.drop d) k) with
    | error x => simp [ht] at hb
    | ok y =>
      obtain ⟨p', i'⟩ := y
      obtain ⟨c, hf, hc, hw, hr, hp'⟩ := tryBorrow_ok _ p' k e i' ht
      simp only [ht, Option.some.injEq, Except.ok.injEq, Prod.mk.injEq] at hb
      obtain ⟨rfl, rfl⟩ := hb
      exact ⟨c, i', by rwa [cellAt_drop] at hc, hw, hr, by rw [hp', take_append_modifyAt_drop], rfl, hf⟩
  · simp [hd] at hb

/-- `parent()^d . try_borrow_mut` (`e = true`) / `parent()^d . try_borrow` (`e = false`) as one request. -/
theorem mstep_par (m : M) (d : Nat) (k : Key) (e : Bool) :
    mstep m (bif e then .parBorMut d k else .parBor d k) =
      match borrowAt m.reg d k e with
      | none => (m, [.noParent])
      | some (.error x) => (m, [.err x])
      | some (.ok (r', i)) => grant m r' i k e := by
  cases e <;> rfl

/-- On the current registry a request is the request through `parent()^0`; a panicking accessor differs from its
`try_` variant in the answer only. -/
theorem mstep_bor_eq_par (m : M) (hne : m.reg ≠ []) (k : Key) :
    mstep m (.bor k) = mstep m (.parBor 0 k) ∧ mstep m (.borMut k) = mstep m (.parBorMut 0 k) := by
  have hl := List.length_pos_iff.mpr hne
  constructor
  · simp only [mstep, borrowAt, parentN, hl, if_true, List.drop_zero, List.take_zero, List.nil_append,
      Nat.zero_add, Bool.false_eq_true, if_false]
    cases tryBorrow m.reg k <;> rfl
  · simp only [mstep, borrowAt, parentN, hl, if_true, List.drop_zero, List.take_zero, List.nil_append,
      Nat.zero_add]
    cases tryBorrowMut m.reg k <;> rfl

theorem mstep_bor_fst (m : M) (k : Key) :
    (mstep m (.bor k)).1 = (mstep m (.parBor 0 k)).1 ∧ (mstep m (.borMut k)).1 = (mstep m (.parBorMut 0 k)).1 := by
  cases hr : m.reg with
  | nil => simp [mstep, tryBorrow, tryBorrowMut, borrowAt, parentN, hr]
  | cons s p =>
    have := mstep_bor_eq_par m (hr ▸ List.cons_ne_nil s p) k
    exact ⟨congrArg Prod.fst this.1, congrArg Prod.fst this.2⟩

theorem mstep_borP_fst (m : M) (k : Key) :
    (mstep m (.borP k)).1 = (mstep m (.bor k)).1 ∧ (mstep m (.borMutP k)).1 = (mstep m (.borMut k)).1 := by
  constructor
  · simp only [mstep]; cases tryBorrow m.reg k <;> rfl
  · simp only [mstep]; cases tryBorrowMut m.reg k <;> rfl

theorem mstep_par_fst (m : M) (d : Nat) (k : Key) (e : Bool) :
    (mstep m (bif e then .parBorMut d k else .parBor d k)).1 = m ∨
    ∃ i c j, cellAt m.reg i k = some c ∧ c.writer = false ∧ (e = true → c.readers = 0) ∧
      (mstep m (bif e then .parBorMut d k else .parBor d k)).1 =
        { reg := modifyAt m.reg i (·.modify k (fun _ => grantedCell c e)),
          guards := ⟨m.next, i, k, e⟩ :: m.guards, next := m.next + 1 } ∧
      i = d + j ∧ find (m.reg.drop d) k = some j := by
  rw [mstep_par]
  cases hb : borrowAt m.reg d k e with
  | none => exact Or.inl rfl
  | some x =>
    cases x with
    | error _ => exact Or.inl rfl
    | ok y =>
      obtain ⟨r', i⟩ := y
      obtain ⟨c, j, hc, hw, hr, rfl, hj⟩ := borrowAt_ok m.reg d k e r' i hb
      exact Or.inr ⟨i, c, j, hc, hw, hr, rfl, hj⟩

theorem par_eff (m : M) (d : Nat) (k : Key) (e : Bool) :
    Eff m false (mstep m (bif e then .parBorMut d k else .parBor d k)).1 := by
  rcases mstep_par_fst m d k e with h1 | ⟨i, c, _, hc, hw, hr, h1, _⟩ <;> rw [h1]
  · exact .same _
  · exact .grant _ i k c e hc hw hr

/-- An outcome list that is a grant. -/
def granted (outs : List Out) : Prop := ∃ id, outs = [.guard id]

/-- A request (`e`: exclusive) is compatible with the live guards `gs` on the cell `(i, k)`: many readers xor one
writer. -/
abbrev compatible (gs : List Guard) (i : Nat) (k : Key) (e : Bool) : Prop :=
  bif e then exclOn gs i k = 0 ∧ sharedOn gs i k = 0 else exclOn gs i k = 0

theorem FlagInv.refuses_iff (m : M) (h : FlagInv m) (i : Nat) (k : Key) (c : Cell) (hc : cellAt m.reg i k = some c)
    (e : Bool) : (c.writer || (e && c.readers != 0)) = true ↔ ¬ compatible m.guards i k e := by
  obtain ⟨w1, w2, _⟩ := h.flag m i k c hc
  unfold compatible
  rw [← w2]
  cases hw : c.writer with
  | true => cases e <;> simp [w1.mp hw]
  | false =>
    have : exclOn m.guards i k = 0 := Decidable.byContradiction fun hx => by simp [w1.mpr hx] at hw
    cases e <;> simp [this]

theorem borrowAt_cases (m : M) (h : FlagInv m) (d : Nat) (k : Key) (e : Bool) :
    (¬ d < m.reg.length ∧ borrowAt m.reg d k e = none) ∨
    (d < m.reg.length ∧ find (m.reg.drop d) k = none ∧ borrowAt m.reg d k e = some (.error .notFound)) ∨
    ∃ i, d < m.reg.length ∧ find (m.reg.drop d) k = some i ∧ exclOn m.guards (d + i) k ≤ 1 ∧
      ((compatible m.guards (d + i) k e ∧ ∃ r', borrowAt m.reg d k e = some (.ok (r', d + i))) ∨
       (¬ compatible m.guards (d + i) k e ∧
          borrowAt m.reg d k e = some (.error (if e then .conflictMut else .conflictImm)))) := by
  by_cases hd : d < m.reg.length
  · refine Or.inr ?_
    simp only [borrowAt, parentN, hd, if_true, tryBorrow_eq]
    cases hf : find (m.reg.drop d) k with
    | none => exact Or.inl ⟨trivial, rfl, rfl⟩
    | some i =>
      obtain ⟨c, hc⟩ := find_cell _ k i hf
      have hc' := hc; rw [cellAt_drop] at hc'
      have hr := h.refuses_iff m (d + i) k c hc' e
      refine Or.inr ⟨i, trivial, rfl, (h.flag m _ k c hc').2.2, ?_⟩
      simp only [hc]
      by_cases hb : (c.writer || (e && c.readers != 0)) = true
      · exact Or.inr ⟨hr.mp hb, by simp only [hb, if_true]⟩
      · exact Or.inl ⟨Classical.byContradiction (fun hn => hb (hr.mpr hn)),
          m.reg.take d ++ modifyAt (m.reg.drop d) i (·.modify k fun _ => grantedCell c e),
          by simp only [hb, Bool.false_eq_true, if_false]⟩
  · exact Or.inl ⟨hd, by simp only [borrowAt, parentN, hd, if_false]⟩

theorem not_granted_err (e : Err) : ¬ granted [Out.err e] := by rintro ⟨id, h⟩; cases h

theorem not_granted_noParent : ¬ granted [Out.noParent] := by rintro ⟨id, h⟩; cases h

/-- The two kinds of request side by side (`compatible … e` unfolds to the wording of `Props/C02` for each kind). -/
theorem granted_par_iff (m : M) (h : FlagInv m) (d : Nat) (k : Key) (e : Bool) :
    granted (mstep m (bif e then .parBorMut d k else .parBor d k)).2 ↔
      d < m.reg.length ∧ ∃ i, find (m.reg.drop d) k = some i ∧ compatible m.guards (d + i) k e := by
  rw [mstep_par]
  rcases borrowAt_cases m h d k e with ⟨hd, hb⟩ | ⟨hd, hf, hb⟩ | ⟨i, hd, hf, _, ⟨hx, r', hb⟩ | ⟨hx, hb⟩⟩ <;> rw [hb]
  · exact ⟨fun g => absurd g not_granted_noParent, fun g => absurd g.1 hd⟩
  · exact ⟨fun g => absurd g (not_granted_err _), fun ⟨_, i, hi, _⟩ => by rw [hf] at hi; cases hi⟩
  · exact ⟨fun _ => ⟨hd, i, hf, hx⟩, fun _ => ⟨_, rfl⟩⟩
  · exact ⟨fun g => absurd g (not_granted_err _),
      fun ⟨_, i', hi', hx'⟩ => by rw [hf] at hi'; cases hi'; exact absurd hx' hx⟩

theorem refused_par (m : M) (h : FlagInv m) (d : Nat) (k : Key) (e : Bool)
    (hg : ¬ granted (mstep m (bif e then .parBorMut d k else .parBor d k)).2) :
    (mstep m (bif e then .parBorMut d k else .parBor d k)).1 = m ∧
    (((mstep m (bif e then .parBorMut d k else .parBor d k)).2 = [.noParent] ∧ ¬ d < m.reg.length) ∨
     ((mstep m (bif e then .parBorMut d k else .parBor d k)).2 = [.err .notFound] ∧ find (m.reg.drop d) k = none) ∨
     ((mstep m (bif e then .parBorMut d k else .parBor d k)).2 = [.err (bif e then .conflictMut else .conflictImm)] ∧
        ∃ i, find (m.reg.drop d) k = some i ∧
          bif e then 0 < exclOn m.guards (d + i) k + sharedOn m.guards (d + i) k
          else exclOn m.guards (d + i) k = 1)) := by
  rw [mstep_par] at hg ⊢
  rcases borrowAt_cases m h d k e with ⟨hd, hb⟩ | ⟨hd, hf, hb⟩ | ⟨i, hd, hf, h1, ⟨hx, r', hb⟩ | ⟨hx, hb⟩⟩ <;>
    rw [hb] at hg ⊢
  · exact ⟨rfl, Or.inl ⟨rfl, hd⟩⟩
  · exact ⟨rfl, Or.inr (Or.inl ⟨rfl, hf⟩)⟩
  · exact absurd ⟨_, rfl⟩ hg
  · -- an incompatible shared request meets the one exclusive guard, an incompatible exclusive one some guard
    refine ⟨rfl, Or.inr (Or.inr ⟨by cases e <;> rfl, i, hf, ?_⟩)⟩
    cases e
    · exact Nat.le_antisymm h1 (Nat.pos_of_ne_zero hx)
    · exact Nat.pos_of_ne_zero fun h0 => hx (Nat.add_eq_zero_iff.mp h0)

end MahfModel.Borrow
