/- The abstract domain of the population-size analysis (`Model/TemplatesSize.lean`) before any concretisation: the order `⊑` and
the hull on intervals and on stacks with their laws, and the loop check that `sizeOf`, `safeOf` and `toB` share, with what an
accepted invariant gives and the two ways in which a loop of a template passes (`sizeOf` at a loop is that check). -/
import MahfModel.Model.TemplatesSize
namespace MahfModel.Tpl

namespace Itv

theorem le_refl (a : Itv) : a.le a = true := by
  rcases a with ⟨lo, _ | h⟩ <;> simp [Itv.le, Itv.hiLe]

theorem hiLe_hiMax : ∀ a b : Option Nat, hiLe a (hiMax a b) = true ∧ hiLe b (hiMax a b) = true
  | some _, some _ => ⟨decide_eq_true (Nat.le_max_left ..), decide_eq_true (Nat.le_max_right ..)⟩
  | none, _ => ⟨rfl, rfl⟩
  | some _, none => ⟨rfl, rfl⟩

theorem le_join (a b : Itv) : a.le (a.join b) = true ∧ b.le (a.join b) = true := by
  simp only [le, join, hiLe_hiMax, Nat.min_le_left, Nat.min_le_right, decide_true, Bool.and_self, and_self]

theorem join_self (a : Itv) : a.join a = a := by
  rcases a with ⟨lo, _ | h⟩ <;> simp [Itv.join, Itv.hiMax]

end Itv

theorem stackLe_refl (a : AbsStack) : stackLe a a = true := by
  induction a with
  | nil => rfl
  | cons x a ih => simp only [stackLe, Itv.le_refl, ih, Bool.and_self]

theorem stackLe_join : ∀ {a b c : AbsStack}, stackJoin a b = some c → stackLe a c = true ∧ stackLe b c = true
  | [], [], _, h => by cases h; exact ⟨rfl, rfl⟩
  | [], _ :: _, _, h => by cases h
  | _ :: _, [], _, h => by cases h
  | x :: a, y :: b, c, h => by
    simp only [stackJoin, Option.map_eq_some_iff] at h
    obtain ⟨r, hj, rfl⟩ := h
    simp only [stackLe, Itv.le_join, stackLe_join hj, Bool.and_self, and_self]

theorem stackJoin_self (a : AbsStack) : stackJoin a a = some a := by
  induction a with
  | nil => rfl
  | cons x a ih => simp only [stackJoin, ih, Itv.join_self, Option.map_some]

/-- The loop check of `sizeOf`, `safeOf` and `toB`, for a body with transformer `f`. -/
def loopCheck (f : AbsStack → Option AbsStack) (ok : AbsStack → Bool) (st : AbsStack) : Option AbsStack :=
  let inv := findInv f 8 3 st
  match f inv with
  | none => none
  | some out => if stackLe st inv && stackLe out inv && ok out then some inv else none

theorem loopCheck_eq_some {f : AbsStack → Option AbsStack} {ok : AbsStack → Bool} {st inv : AbsStack}
    (h : loopCheck f ok st = some inv) :
    findInv f 8 3 st = inv ∧
      ∃ out, f inv = some out ∧ stackLe st inv = true ∧ stackLe out inv = true ∧ ok out = true := by
  simp only [loopCheck] at h
  split at h
  · cases h
  · next out hb =>
    simp only [Option.ite_none_right_eq_some, Bool.and_eq_true, Option.some.injEq] at h
    obtain ⟨⟨⟨h1, h2⟩, h3⟩, rfl⟩ := h
    exact ⟨rfl, out, hb, h1, h2, h3⟩

theorem findInv_self (f : AbsStack → Option AbsStack) (n p : Nat) (cur : AbsStack) (hf : f cur = some cur) :
    findInv f n p cur = cur := by
  cases n with
  | zero => rfl
  | succ n => simp [findInv, hf, stackJoin_self]

/-- A body whose output `c` does not depend on the stack it starts from: the search ends at the hull of the entry and `c`. -/
theorem findInv_const (f : AbsStack → Option AbsStack) (n p : Nat) {st c j : AbsStack}
    (h1 : f st = some c) (hj : stackJoin st c = some j) (h2 : f j = some c) (hj2 : stackJoin j c = some j) :
    findInv f (n + 2) (p + 1) st = j := by
  by_cases hne : j = st
  · subst hne; simp [findInv, h1, hj]
  · simp [findInv, h1, hj, hne, h2, hj2]

/-- A stack the body maps to itself is its own invariant. -/
theorem loopCheck_self {f : AbsStack → Option AbsStack} {ok : AbsStack → Bool} {st : AbsStack}
    (hb : f st = some st) (hok : ok st = true) : loopCheck f ok st = some st := by
  simp only [loopCheck, findInv_self f 8 3 st hb, hb, stackLe_refl, hok, Bool.and_self, if_true]

theorem loopCheck_const {f : AbsStack → Option AbsStack} {ok : AbsStack → Bool} {st c j : AbsStack}
    (h1 : f st = some c) (hj : stackJoin st c = some j) (h2 : f j = some c) (hj2 : stackJoin j c = some j)
    (hok : ok c = true) : loopCheck f ok st = some j := by
  simp only [loopCheck, findInv_const f 6 2 h1 hj h2 hj2, h2, stackLe_join hj, hok, Bool.and_self, if_true]

/-- Ant colony: the loop is entered on the EMPTY population `Empty` pushed; the generation replaces whatever is
there by `ants + 1` routes (`hbody`).  The invariant is the hull `[0, ants + 1]`. -/
theorem loopCheck_aco {f : AbsStack → Option AbsStack} {ok : AbsStack → Bool} (ants : Nat)
    (hbody : ∀ x : Itv, f [x] = some [⟨ants + 1, some (ants + 1)⟩]) (hok : ok [⟨ants + 1, some (ants + 1)⟩] = true) :
    loopCheck f ok [⟨0, some 0⟩] = some [⟨0, some (ants + 1)⟩] :=
  loopCheck_const (hbody _) (by simp [stackJoin, Itv.join, Itv.hiMax]) (hbody _)
    (by simp [stackJoin, Itv.join, Itv.hiMax]) hok

theorem sizeOf_loop (B : Itv) (d : Nat) (body : SComp) (st : AbsStack) : sizeOf B d (.loop body) st =
    loopCheck (sizeOf B (d + 1) body) (fun out => d != 0 || topWithin B out) st := rfl

/-- A component the analysis does not know has no size operation (so every analysis refuses its tree).  It stands in this
module so that the equation lemmas of `opOf` (84 alternatives) are generated once, below every module that evaluates `opOf`. -/
theorem opOf_opaque (a b : Nat) : opOf .opaque a b = none := by simp [opOf]

end MahfModel.Tpl
