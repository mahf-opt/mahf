/- The registry chain is a lens onto the population stack (`find` / `put`), and a scoped program on the chain is the same
program on the plain stack, written back into the registry that owns the stack (`execItems_refines`). Core only. -/
import MahfModel.Proofs.C04
import MahfModel.Model.PopStackScope
namespace MahfModel.PopStack

theorem find_put (c : Chain) (s s' : Stk) (h : find c = some s) : find (put c s') = some s' := by
  fun_induction find c <;> simp_all [put, find]

theorem put_put (c : Chain) (a b : Stk) : put (put c a) b = put c b := by
  fun_induction put c a <;> simp_all [put]

theorem put_find (c : Chain) (s : Stk) (h : find c = some s) : put c s = c := by
  fun_induction find c <;> simp_all [put]

theorem put_length (c : Chain) (s : Stk) : (put c s).length = c.length := by
  fun_induction put c s <;> simp_all

theorem restore_child_put (c : Chain) (s s' : Stk) (h : find c = some s) :
    restore (none :: put c s') = some (put c s') := by
  cases c with
  | nil => cases h
  | cons r c => cases r <;> rfl

theorem stepC_refines (c : Chain) (s : Stk) (op : Op) (h : find c = some s) :
    stepC c op = (put c (abs (specStep (abs s) op).1), (specStep (abs s) op).2) := by
  simp only [stepC, h, step_eq]

theorem result_ne_sPanic (b : Bool) : (if b then SOut.sOk else SOut.sErr) ≠ SOut.sPanic := by
  cases b <;> nofun

mutual
theorem execItem_refines (i : Item) (c : Chain) (s : Stk) (h : find c = some s) :
    execItem c i = (put c (abs (specItem (abs s) i).1), (specItem (abs s) i).2) := by
  cases i with
  | op o | failing o =>
    dsimp only [execItem, specItem]
    rw [stepC_refines c s o h]
  | fail => dsimp only [execItem, specItem]; rw [abs_abs, put_find c s h]
  | try_ i => dsimp only [execItem, specItem]; rw [execItem_refines i c s h]
  | scope k body =>
    have hb : (if k.runsBody then execItems (none :: c) body else (none :: c, body.skips, false)) =
        (none :: put c (abs (if k.runsBody then specItems (abs s) body else (abs s, body.skips, false)).1),
          (if k.runsBody then specItems (abs s) body else (abs s, body.skips, false)).2) := by
      cases k.runsBody
      · show (none :: c, body.skips, false) = (none :: put c (abs (abs s)), body.skips, false)
        rw [abs_abs, put_find c s h]
      · exact execItems_refines body (none :: c) s h
    dsimp only [execItem, specItem]
    rw [hb, restore_child_put c s _ h]
  | hold ok ops =>
    dsimp only [execItem, specItem]
    rw [h]; dsimp only; rw [run_refines]
theorem execItems_refines (is : Items) (c : Chain) (s : Stk) (h : find c = some s) :
    execItems c is = (put c (abs (specItems (abs s) is).1), (specItems (abs s) is).2) := by
  cases is with
  | nil => dsimp only [execItems, specItems]; rw [abs_abs, put_find c s h]
  | cons i is =>
    dsimp only [execItems, specItems]
    rw [execItem_refines i c s h]
    dsimp only
    rw [execItems_refines is _ _ (find_put c s _ h), abs_abs, put_put]
    split <;> rfl
end

end MahfModel.PopStack
