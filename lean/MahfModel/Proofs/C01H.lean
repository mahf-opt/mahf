/- C01 — `State::holding` inside registry histories (`Model/RegistryH.lean`): the frame of an extended operation on the
stack, statements keep the invariant, and what it means for a program to avoid a type. -/
import MahfModel.Proofs.C01X
import MahfModel.Proofs.C01Run
import MahfModel.Proofs.C01Hold
namespace MahfModel.RegistryH
open MahfModel.Registry MahfModel.Borrow MahfModel.RegistryX

/-- The types an extended operation names. -/
def XOp.keys : XOp → List Key
  | .base o => ROp.keys o
  | .bor k | .tryBor k | .borMut k _ | .tryBorMut k _ | .bval k | .tryBval k | .bvalMut k _ | .tryBvalMut k _
  | .entOrInsW k _ _ | .entOrDefW k _ => [k]

/-- Not a raw scope push/pop. -/
def XOp.flat : XOp → Bool
  | .base o => ROp.flat o
  | _ => true

theorem xspecStep_frame (sp : Spec) (o : XOp) (q : Key) (hq : q ∉ XOp.keys o) (hflat : XOp.flat o = true)
    (hne : sp ≠ []) : col (xspecStep sp o).1 q = col sp q := by
  have hk : ∀ k, q ∉ [k] → k ≠ q := fun k h e => h (List.mem_singleton.mpr e.symm)
  cases o with
  | base o => rw [xspecStep_base]; exact (specStep_flat sp o hflat hne).2 q hq
  | borMut k v | tryBorMut k v | bvalMut k v | tryBvalMut k v =>
    simp only [xspecStep]; split
    · exact col_updFirst sp k q _ (hk k hq)
    · rfl
  | entOrInsW k v w | entOrDefW k w =>
    simp only [xspecStep]; split
    · exact col_updFirst sp k q _ (hk k hq)
    · exact col_setTop sp k q _ (hk k hq) hne
  | _ => rfl

mutual
  theorem execHStmt_inv (s : HStmt) (r : Reg) (h : Inv r) : Inv (execHStmt r s).1 := by
    cases s with
    | op o =>
      simp only [execHStmt]
      exact (xstep_refines r o h).1
    | hold k d ok body =>
      rw [execHStmt_hold]
      exact holdingWith_keeps Inv _ r k d ok h (fun i => execHProg_inv body _ (inv_heldOut r i k h))
        (fun r' j v => inv_putBack r' j k v)
    | inner ok body =>
      simp only [execHStmt]
      have i1 := execHProg_inv body _ (inv_intoChild r h)
      rcases intoParent_cases _ i1 with ⟨c, s, p, hr, hip, hI⟩ | ⟨c, hr, hip⟩ <;> rw [hip]
      · exact hI
      · exact inv_new
  theorem execHProg_inv (p : HProg) (r : Reg) (h : Inv r) : Inv (execHProg r p).1 := by
    cases p with
    | nil => exact h
    | cons s rest =>
      simp only [execHProg]
      exact execHProg_inv rest _ (execHStmt_inv s r h)
end

mutual
  /-- The program never names the type `q`: no operation on it, no raw push/pop, no nested `holding` of it
  or of the type whose marker it is. -/
  def HStmt.avoids (q : Key) : HStmt → Prop
    | .op o => q ∉ XOp.keys o ∧ XOp.flat o = true
    | .hold k _ _ body => k ≠ q ∧ markerOf k ≠ q ∧ HProg.avoids q body
    | .inner _ body => HProg.avoids q body
  def HProg.avoids (q : Key) : HProg → Prop
    | .nil => True
    | .cons s rest => HStmt.avoids q s ∧ HProg.avoids q rest
end

end MahfModel.RegistryH
