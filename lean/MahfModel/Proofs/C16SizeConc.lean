/- The concretisation of the size domain (`Proofs/C16SizeDomain`): a size under an upper end, a size inside an interval, a stack
of sizes inside a stack of intervals.  `⊑`, every interval operation and, through these, every size operation (`astep_sound`,
`sizeStep_sound`) are sound for it. -/
import MahfModel.Proofs.C16SizeDomain
namespace MahfModel.Tpl

namespace Itv

/-- `n` respects the upper end `h` (`none`: unbounded). -/
def under (n : Nat) (h : Option Nat) : Prop := ∀ x, h = some x → n ≤ x

theorem under_none (n : Nat) : under n none := fun _ h => nomatch h

theorem under_some {n h : Nat} : under n (some h) ↔ n ≤ h :=
  ⟨fun u => u h rfl, fun le x hx => by cases hx; exact le⟩

theorem under_hiLe : ∀ {a b : Option Nat} {n : Nat}, hiLe a b = true → under n a → under n b
  | _, none, n, _, _ => under_none n
  | none, some _, _, h, _ => by cases h
  | some _, some _, _, h, ha => under_some.2 (Nat.le_trans (under_some.1 ha) (of_decide_eq_true h))

theorem under_hiMin : ∀ {a b : Option Nat} {n : Nat}, under n a → under n b → under n (hiMin a b)
  | some _, some _, _, ha, hb => under_some.2 (Nat.le_min.2 ⟨under_some.1 ha, under_some.1 hb⟩)
  | some _, none, _, ha, _ => ha
  | none, _, _, _, hb => hb

theorem under_hiAdd : ∀ {a b : Option Nat} {n m : Nat}, under n a → under m b → under (n + m) (hiAdd a b)
  | some _, some _, _, _, ha, hb => under_some.2 (Nat.add_le_add (under_some.1 ha) (under_some.1 hb))
  | none, _, _, _, _, _ => under_none _
  | some _, none, _, _, _, _ => under_none _

theorem under_map {a : Option Nat} {n m : Nat} (f : Nat → Nat) (hf : ∀ x, n ≤ x → m ≤ f x) (ha : under n a) :
    under m (a.map f) := by
  cases a with
  | none => exact under_none m
  | some h => exact under_some.2 (hf h (under_some.1 ha))

theorem memb_iff (i : Itv) (n : Nat) : i.memb n = true ↔ i.mem n := by
  rcases i with ⟨lo, hi⟩
  cases hi <;> simp [memb, mem]

theorem mem_exact (n : Nat) : (exact n).mem n := by simp [exact, mem]

theorem le_sound {a b : Itv} {n : Nat} (h : a.le b = true) (hm : a.mem n) : b.mem n := by
  simp only [le, Bool.and_eq_true, decide_eq_true_eq] at h
  exact ⟨Nat.le_trans h.1 hm.1, under_hiLe h.2 hm.2⟩

theorem meet_sound {a b m : Itv} {n : Nat} (h : a.meet b = some m) (ha : a.mem n) (hb : b.mem n) :
    m.mem n := by
  simp only [meet, Option.ite_none_right_eq_some, Option.some.injEq] at h
  obtain ⟨_, rfl⟩ := h
  exact ⟨Nat.max_le.2 ⟨ha.1, hb.1⟩, under_hiMin ha.2 hb.2⟩

theorem add_sound {a b : Itv} {n m : Nat} (ha : a.mem n) (hb : b.mem m) : (a.add b).mem (n + m) :=
  ⟨Nat.add_le_add ha.1 hb.1, under_hiAdd ha.2 hb.2⟩

theorem mulC_sound {a : Itv} {n : Nat} (d : Nat) (ha : a.mem n) : (a.mulC d).mem (n * d) :=
  ⟨Nat.mul_le_mul_right d ha.1, under_map _ (fun _ h => Nat.mul_le_mul_right d h) ha.2⟩

theorem divC_sound {a : Itv} {n : Nat} (d : Nat) (ha : a.mem n) : (a.divC d).mem (n / d) :=
  ⟨Nat.div_le_div_right ha.1, under_map _ (fun _ h => Nat.div_le_div_right h) ha.2⟩

theorem capC_sound {a : Itv} {n : Nat} (mu : Nat) (ha : a.mem n) : (a.capC mu).mem (min mu n) := by
  have mono : ∀ {x y : Nat}, x ≤ y → min mu x ≤ min mu y := fun h =>
    Nat.le_min.2 ⟨Nat.min_le_left .., Nat.le_trans (Nat.min_le_right ..) h⟩
  refine ⟨mono ha.1, fun x hx => ?_⟩
  cases hx
  cases h : a.hi with
  | none => exact Nat.min_le_left ..
  | some u => exact mono (ha.2 u h)

theorem half_sound {a : Itv} {n c : Nat} (ha : a.mem n) (h1 : (n + 1) / 2 ≤ c) (h2 : c ≤ n) :
    a.half.mem c :=
  ⟨Nat.le_trans (Nat.div_le_div_right (Nat.add_le_add_right ha.1 1)) h1, fun x hx => Nat.le_trans h2 (ha.2 x hx)⟩

end Itv

theorem conc_length : ∀ {s : List Nat} {a : AbsStack}, Conc s a → s.length = a.length
  | [], [], _ => rfl
  | [], _ :: _, h => h.elim
  | _ :: _, [], h => h.elim
  | _ :: _, _ :: _, h => congrArg (· + 1) (conc_length h.2)

theorem conc_cons {s : List Nat} {x : Itv} {a : AbsStack} (h : Conc s (x :: a)) :
    ∃ n r, s = n :: r ∧ x.mem n ∧ Conc r a := by
  cases s with
  | nil => exact h.elim
  | cons n r => exact ⟨n, r, rfl, h.1, h.2⟩

theorem stackLe_sound : ∀ {a b : AbsStack} {s : List Nat}, stackLe a b = true → Conc s a → Conc s b
  | [], [], _, _, hc => hc
  | [], _ :: _, _, h, _ => by cases h
  | _ :: _, [], _, h, _ => by cases h
  | x :: a, y :: b, s, h, hc => by
    obtain ⟨n, r, rfl, hn, hr⟩ := conc_cons hc
    simp only [stackLe, Bool.and_eq_true] at h
    exact ⟨Itv.le_sound h.1 hn, stackLe_sound h.2 hr⟩

theorem topWithin_sound {B : Itv} {a : AbsStack} {s : List Nat} (h : topWithin B a = true)
    (hc : Conc s a) : topIn B s = true := by
  cases a with
  | nil => cases h
  | cons x a =>
    obtain ⟨n, r, rfl, hn, _⟩ := conc_cons hc
    exact (Itv.memb_iff B n).2 (Itv.le_sound h hn)

theorem astep_sound (op : Op) (c : Nat) (a a' : AbsStack) (s s' : List Nat)
    (ha : astep op a = some a') (hc : Conc s a) (hs : cstep op c s = some s') : Conc s' a' := by
  unfold astep at ha
  split at ha
  next =>  -- push
    simp only [cstep, Option.ite_none_right_eq_some, Option.some.injEq] at ha hs
    obtain ⟨_, rfl⟩ := ha; obtain ⟨_, rfl⟩ := hs
    exact ⟨Itv.mem_exact _, hc⟩
  next =>  -- keep
    simp only [cstep, Option.ite_none_right_eq_some, Option.some.injEq] at ha hs
    obtain ⟨_, rfl⟩ := ha; obtain ⟨_, rfl⟩ := hs
    exact hc
  next d _ _ =>  -- selMul
    obtain ⟨n, r, rfl, hn, hr⟩ := conc_cons hc
    cases ha; cases hs
    exact ⟨Itv.mulC_sound d hn, hn, hr⟩
  next mn mx x _ =>  -- selRange
    obtain ⟨n, r, rfl, hn, hr⟩ := conc_cons hc
    simp only [cstep, Option.ite_none_right_eq_some, Option.some.injEq] at hs
    obtain ⟨⟨h1, h2⟩, rfl⟩ := hs
    cases ha
    exact ⟨⟨Nat.le_trans (Nat.mul_le_mul_right mn hn.1) h1,
      Itv.under_map _ (fun _ h => Nat.le_trans h2 (Nat.mul_le_mul_right mx h)) hn.2⟩, hn, hr⟩
  next =>  -- dup
    obtain ⟨n, r, rfl, hn, hr⟩ := conc_cons hc
    cases ha; cases hs
    exact ⟨Itv.mulC_sound 2 hn, hr⟩
  next =>  -- halve
    obtain ⟨n, r, rfl, hn, hr⟩ := conc_cons hc
    simp only [cstep, Option.ite_none_right_eq_some, Option.some.injEq] at hs
    obtain ⟨⟨h1, h2⟩, rfl⟩ := hs
    cases ha
    exact ⟨Itv.half_sound hn h1 h2, hr⟩
  next =>  -- setTop
    obtain ⟨n, r, rfl, hn, hr⟩ := conc_cons hc
    cases ha; cases hs
    exact ⟨Itv.mem_exact _, hr⟩
  next =>  -- replOffspring
    obtain ⟨n, r, rfl, hn, hr⟩ := conc_cons hc
    obtain ⟨m, t, rfl, hm, ht⟩ := conc_cons hr
    cases ha; cases hs
    exact ⟨hn, ht⟩
  next =>  -- replParents
    obtain ⟨n, r, rfl, hn, hr⟩ := conc_cons hc
    obtain ⟨m, t, rfl, hm, ht⟩ := conc_cons hr
    cases ha; cases hs
    exact ⟨hm, ht⟩
  next =>  -- replMerge
    obtain ⟨n, r, rfl, hn, hr⟩ := conc_cons hc
    obtain ⟨m, t, rfl, hm, ht⟩ := conc_cons hr
    cases ha; cases hs
    exact ⟨Itv.add_sound hn hm, ht⟩
  next mu _ _ _ =>  -- replTrunc
    obtain ⟨n, r, rfl, hn, hr⟩ := conc_cons hc
    obtain ⟨m, t, rfl, hm, ht⟩ := conc_cons hr
    cases ha; cases hs
    exact ⟨Itv.capC_sound mu (Itv.add_sound hn hm), ht⟩
  next x y _ =>  -- replEqual
    obtain ⟨n, r, rfl, hn, hr⟩ := conc_cons hc
    obtain ⟨m, t, rfl, hm, ht⟩ := conc_cons hr
    simp only [cstep, Option.ite_none_right_eq_some, Option.some.injEq] at hs
    obtain ⟨rfl, rfl⟩ := hs
    obtain ⟨z, hxy, rfl⟩ := Option.map_eq_some_iff.1 ha
    exact ⟨Itv.meet_sound hxy hn hm, ht⟩
  next =>  -- replEither
    obtain ⟨n, r, rfl, hn, hr⟩ := conc_cons hc
    obtain ⟨m, t, rfl, hm, ht⟩ := conc_cons hr
    cases ha; cases hs
    refine ⟨?_, ht⟩
    split
    · exact Itv.le_sound (Itv.le_join _ _).1 hn
    · exact Itv.le_sound (Itv.le_join _ _).2 hm
  next d _ _ =>  -- divide
    obtain ⟨n, r, rfl, hn, hr⟩ := conc_cons hc
    simp only [cstep, Option.ite_none_right_eq_some, Option.some.injEq] at hs
    obtain ⟨_, rfl⟩ := hs
    split at ha
    · cases ha
    · cases ha
      exact ⟨Itv.divC_sound d hn, hr⟩
  next p r up down x y z _ =>  -- cro
    obtain ⟨n, r, rfl, hn, hr⟩ := conc_cons hc
    obtain ⟨m, t, rfl, hm, ht⟩ := conc_cons hr
    obtain ⟨k, u, rfl, hk, hu⟩ := conc_cons ht
    simp only [cstep, Option.ite_none_right_eq_some, Option.some.injEq] at ha hs
    obtain ⟨_, rfl⟩ := ha
    obtain ⟨⟨rfl, rfl, h1, h2, h3⟩, rfl⟩ := hs
    refine ⟨⟨?_, Itv.under_map _ (fun _ h => by omega) hk.2⟩, hu⟩
    have := hk.1
    show max z.lo m - down ≤ c
    omega
  next => cases ha

theorem sizeStep_sound (k : LeafKind) (p q c : Nat) (a a' : AbsStack) (s s' : List Nat)
    (ha : sizeStep k p q a = some a') (hc : Conc s a) (hs : leafStep k p q c s = some s') :
    Conc s' a' := by
  simp only [sizeStep] at ha; simp only [leafStep] at hs
  cases ho : opOf k p q with
  | none => simp [ho] at ha
  | some op =>
    simp only [ho] at ha hs
    exact astep_sound op c a a' s s' ha hc hs

end MahfModel.Tpl
