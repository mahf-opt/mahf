/- C09 — doubles as exact values: the class (NaN, ±inf, finite) of the result of each derived operator, and the bit
decoder `ofNatBits` read on its three fields as variables (sign is negation, the magnitude is monotone in the pattern,
which patterns are legal).
Needs the model only; imports no Mathlib. -/
import MahfModel.Model.Objective
namespace MahfModel.Objective

/-! ### arithmetic classes -/

theorem ovf_pos : 0 < ovf := by decide +kernel

theorem scale_pos : 0 < scale := by decide +kernel

theorem sgnInf_legal (n : Bool) : (sgnInf n).legal = !n := by cases n <;> rfl

theorem infMul_fin_legal (n : Bool) (k : Int) :
    (infMul n (.fin k)).legal = true ↔ (if n then k < 0 else 0 < k) := by
  unfold infMul
  by_cases h : k = 0
  · subst h; cases n <;> simp [Cls.legal]
  · cases n <;> simp [h, sgnInf_legal] <;> omega

theorem roundCls_legal_iff (n : Int) (d : Nat) (hd : 0 < d) :
    (roundCls n d).legal = true ↔ -((ovf * d : Nat) : Int) < n := by
  have hp : 0 < ovf * d := Nat.mul_pos ovf_pos hd
  unfold roundCls
  split
  · split
    · simp [Cls.legal]; omega -- overflow to −inf
    · simp [Cls.legal]; omega -- overflow to +inf
  · simp [Cls.legal]; omega -- finite

theorem roundCls_ne_nan (n : Int) (d : Nat) : roundCls n d ≠ .nan := by
  unfold roundCls; split <;> (try split) <;> simp

theorem divC_pinf_fin_legal (y : Int) (s : Bool) :
    (divC .pinf (.fin y) s).legal = true ↔ (0 < y ∨ (y = 0 ∧ s = false)) := by
  simp only [divC, sgnInf_legal]
  by_cases h : y = 0
  · subst h; simp
  · simp [h]; omega

theorem divC_fin_legal (x y : Int) (s : Bool) :
    (divC (.fin x) (.fin y) s).legal = true ↔
      (y = 0 → (0 < x ∧ s = false) ∨ (x < 0 ∧ s = true)) ∧
      (y ≠ 0 → -((ovf * y.natAbs : Nat) : Int) < (if y < 0 then -x else x) * scale) := by
  simp only [divC]
  by_cases h : y = 0
  · subst h
    by_cases hx : x = 0
    · subst hx; simp [Cls.legal]
    · cases s <;> simp [hx, sgnInf_legal] <;> omega
  · have hp : 0 < y.natAbs := Int.natAbs_pos.mpr h
    simp [h, roundCls_legal_iff _ _ hp]

/-! ### the decoder -/

/-- Magnitude (in units of 2^-1074) encoded by exponent field `e < 2047` and fraction `f`. -/
def mag (e f : Nat) : Nat := if e = 0 then f else (2 ^ 52 + f) * 2 ^ (e - 1)

/-- `ofNatBits` on the three fields of a pattern (`ofNatBits_eq_dec`). -/
def dec (neg : Bool) (e f : Nat) : F64 :=
  if e = 2047 then (if f = 0 then (if neg then .ninf else .pinf) else .nan)
  else .fin (if neg then -(mag e f : Int) else mag e f)

theorem ofNatBits_eq_dec (n : Nat) :
    ofNatBits n = dec (n / 2 ^ 63 % 2 == 1) (n / 2 ^ 52 % 2048) (n % 2 ^ 52) := by
  simp only [ofNatBits, dec, mag, beq_iff_eq]

theorem legal_dec (neg : Bool) (e f : Nat) :
    legal (dec neg e f) = false ↔ (e = 2047 ∧ (f ≠ 0 ∨ neg = true)) := by
  unfold dec
  split
  · split
    · cases neg <;> simp [legal, *] -- an infinity
    · simp [legal, *] -- a NaN
  · simp [legal, *] -- finite

theorem dec_true (e f : Nat) : dec true e f = negF (dec false e f) := by
  simp only [dec, if_true, Bool.false_eq_true, if_false]
  split
  · split <;> rfl -- exponent 2047
  · rfl -- finite

theorem dec_false (e f : Nat) (he : e < 2047) : dec false e f = .fin (mag e f) := by
  simp [dec, Nat.ne_of_lt he]

theorem fields_add_sign (n : Nat) :
    (n + 2 ^ 63) / 2 ^ 52 % 2048 = n / 2 ^ 52 % 2048 ∧ (n + 2 ^ 63) % 2 ^ 52 = n % 2 ^ 52 := by
  rw [show (2 : Nat) ^ 63 = 2 ^ 52 * 2048 from rfl, Nat.add_mul_div_left _ _ (Nat.two_pow_pos 52), Nat.add_mod_right,
    Nat.add_mul_mod_self_left]
  exact ⟨rfl, rfl⟩

theorem ofNatBits_sign (n : Nat) (h : n < 2 ^ 63) : ofNatBits (n + 2 ^ 63) = negF (ofNatBits n) := by
  have h1 : (n + 2 ^ 63) / 2 ^ 63 % 2 = 1 := by
    rw [Nat.add_div_right _ (Nat.two_pow_pos 63), Nat.div_eq_of_lt h]
  rw [ofNatBits_eq_dec, ofNatBits_eq_dec n, (fields_add_sign n).1, (fields_add_sign n).2, h1,
    Nat.div_eq_of_lt h]
  exact dec_true _ _

/-- The value (in units of 2^-1074) of a pattern without sign bit below `+inf`. -/
def posVal (n : Nat) : Nat := mag (n / 2 ^ 52) (n % 2 ^ 52)

theorem ofNatBits_nonneg (n : Nat) (h : n < 0x7ff0000000000000) : ofNatBits n = .fin (posVal n) := by
  have he : n / 2 ^ 52 < 2047 := Nat.div_lt_of_lt_mul (by exact h)
  have hs : n / 2 ^ 63 = 0 := Nat.div_eq_of_lt (Nat.lt_trans h (by decide))
  rw [ofNatBits_eq_dec, hs, Nat.mod_eq_of_lt (Nat.lt_succ_of_lt he)]
  exact dec_false _ _ he

theorem ofNatBits_pinf : ofNatBits 0x7ff0000000000000 = .pinf := by decide +kernel

theorem ofNatBits_nan (n : Nat) (h1 : 0x7ff0000000000000 < n) (h2 : n < 2 ^ 63) :
    ofNatBits n = .nan := by
  have hp := Nat.two_pow_pos 52
  have he : n / 2 ^ 52 = 2047 :=
    Nat.le_antisymm (Nat.lt_succ_iff.mp (Nat.div_lt_of_lt_mul h2))
      ((Nat.le_div_iff_mul_le hp).mpr (Nat.le_of_lt h1))
  have hf : n % 2 ^ 52 ≠ 0 := by
    intro h0
    have := Nat.div_add_mod n (2 ^ 52)
    rw [he, h0] at this
    exact absurd (this ▸ h1) (by decide)
  rw [ofNatBits_eq_dec, he, dec]
  simp [hf]

/-- Legal patterns: without sign bit up to `+inf`, with sign bit strictly below `−inf`. -/
theorem legal_bits_cases (n : Nat) (hn : n < 2 ^ 64) (hl : legal (ofNatBits n) = true) :
    n ≤ 0x7ff0000000000000 ∨ ∃ n', n = n' + 2 ^ 63 ∧ n' < 0x7ff0000000000000 := by
  by_cases h : n < 2 ^ 63
  · refine .inl (Nat.le_of_not_lt fun hgt => ?_)
    rw [ofNatBits_nan n hgt h] at hl; cases hl
  · have hn' := (Nat.sub_add_cancel (Nat.le_of_not_lt h)).symm
    refine .inr ⟨n - 2 ^ 63, hn', Nat.lt_of_not_le fun hge => ?_⟩
    have h63 : n - 2 ^ 63 < 2 ^ 63 := Nat.sub_lt_left_of_lt_add (Nat.le_of_not_lt h) hn
    rw [hn', ofNatBits_sign _ h63] at hl
    rcases Nat.eq_or_lt_of_le hge with he | hgt
    · rw [← he, ofNatBits_pinf] at hl; cases hl
    · rw [ofNatBits_nan _ hgt h63] at hl; cases hl

/-- The magnitude is strictly monotone in (exponent, fraction) ordered lexicographically: a larger
exponent wins whatever the fractions, the fraction decides within a binade. -/
theorem mag_lt (e f e' f' : Nat) (hf : f < 2 ^ 52) (h : e < e' ∨ (e = e' ∧ f < f')) : mag e f < mag e' f' := by
  rcases h with h | ⟨rfl, h⟩
  · -- below the start of the next binade, which is at most any magnitude with a larger exponent
    have h1 : mag e f < 2 ^ 52 * 2 ^ e := by
      unfold mag; split
      · subst e; simpa using hf -- subnormal
      · obtain ⟨k, rfl⟩ := Nat.exists_eq_succ_of_ne_zero ‹_›
        rw [Nat.succ_sub_one, Nat.pow_succ (m := k), ← Nat.mul_assoc, Nat.mul_right_comm, Nat.mul_two]
        exact Nat.mul_lt_mul_of_pos_right (Nat.add_lt_add_left hf _) (Nat.two_pow_pos k)
    have h2 : 2 ^ 52 * 2 ^ e ≤ mag e' f' := by
      rw [mag, if_neg (Nat.ne_of_gt (Nat.lt_of_le_of_lt (Nat.zero_le e) h))]
      exact Nat.mul_le_mul (Nat.le_add_right _ _) (Nat.pow_le_pow_right (by decide) (Nat.le_sub_one_of_lt h))
    exact Nat.lt_of_lt_of_le h1 h2
  · unfold mag; split
    · exact h -- subnormal
    · exact Nat.mul_lt_mul_of_pos_right (Nat.add_lt_add_left h _) (Nat.two_pow_pos _)

theorem posVal_lt (m n : Nat) (hmn : m < n) : posVal m < posVal n :=
  -- `m < n` orders the pairs (quotient, remainder) by `2^52` lexicographically
  mag_lt _ _ _ _ (Nat.mod_lt _ (Nat.two_pow_pos 52)) (by omega)

theorem ofNatBits_mono (m n : Nat) (hmn : m < n) (hn : n < 0x7ff0000000000000) :
    lt (ofNatBits m) (ofNatBits n) = true := by
  rw [ofNatBits_nonneg n hn, ofNatBits_nonneg m (Nat.lt_trans hmn hn)]
  simp only [lt, decide_eq_true_eq]
  exact_mod_cast posVal_lt m n hmn

theorem ofNatBits_mono_le (m n : Nat) (hmn : m < n) (hn : n ≤ 0x7ff0000000000000) :
    lt (ofNatBits m) (ofNatBits n) = true := by
  rcases Nat.eq_or_lt_of_le hn with rfl | h
  · rw [ofNatBits_nonneg m hmn, ofNatBits_pinf]; rfl
  · exact ofNatBits_mono m n hmn h

end MahfModel.Objective
