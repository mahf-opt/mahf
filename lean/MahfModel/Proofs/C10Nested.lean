/- C10 — conditions on nested states (registry chains, innermost first, with shadowing): the lookup `nLook` and the write
`nWrite` against core (`findSome?`, `set`) and against the specification (`Innermost`, `visible`); the slot list `fs.map sel`
of one state type along the chain, on which a write is `updFirst`; and the nested search: one pass on the slots
(`turn_slots`), the pass count of its loop (`nsGo_least`, the only lemma of that part used outside), the slots of the
chain of scopes it starts from (`map_best_nsScopes`, `findSome?_slots`). -/
import MahfModel.Model.ConditionsNested
namespace MahfModel.Conditions

section chain
variable {F α β : Type}

/-- The code's parent walk is the library's `findSome?`; what it finds, when it finds nothing and
how it looks through inner registries are the library's lemmas. -/
theorem nLook_eq_findSome? (sel : NFrame F → Option α) (fs : List (NFrame F)) : nLook sel fs = fs.findSome? sel := by
  induction fs with
  | nil => rfl
  | cons f fs ih => rw [nLook, List.findSome?_cons, ih]; cases sel f <;> rfl

theorem nLook_eq_visible (sel : NFrame F → Option α) (fs : List (NFrame F)) : nLook sel fs = visible sel fs := by
  rw [nLook_eq_findSome?, visible, declared, List.head?_filterMap]

theorem nLook_some_iff (sel : NFrame F → Option α) (fs : List (NFrame F)) (a : α) :
    nLook sel fs = some a ↔ ∃ i, Innermost sel fs i a := by
  rw [nLook_eq_findSome?, List.findSome?_eq_some_iff]
  constructor
  · rintro ⟨l₁, fr, l₂, rfl, hs, hn⟩
    refine ⟨l₁.length, fr, by simp, hs, fun j hj g hg => hn g ?_⟩
    rw [List.getElem?_append_left hj] at hg
    exact List.mem_of_getElem? hg
  · rintro ⟨i, fr, hi, hs, hn⟩
    obtain ⟨hlt, rfl⟩ := List.getElem?_eq_some_iff.mp hi
    refine ⟨fs.take i, fs[i], fs.drop (i + 1), by simp, hs, fun g hg => ?_⟩
    obtain ⟨j, hj, rfl⟩ := List.mem_take_iff_getElem.mp hg
    exact hn j (Nat.lt_of_lt_of_le hj (Nat.min_le_left _ _)) _ (List.getElem?_eq_getElem _)

theorem exists_innermost_iff {F α : Type} (sel : NFrame F → Option α) (fs : List (NFrame F)) (P : α → Prop) :
    (∃ i v, Innermost sel fs i v ∧ P v) ↔ ∃ v, nLook sel fs = some v ∧ P v := by
  rw [exists_comm]; simp only [nLook_some_iff, exists_and_right]

theorem nLook_none_iff (sel : NFrame F → Option α) (fs : List (NFrame F)) :
    nLook sel fs = none ↔ ∀ g ∈ fs, sel g = none := by
  rw [nLook_eq_findSome?, List.findSome?_eq_none_iff]

/-- Inner registries that do not hold the state type are looked through; the first that does decides. -/
theorem nLook_append_holder (sel : NFrame F → Option α) (inner : List (NFrame F)) (fr : NFrame F) (outer : List (NFrame F))
    (a : α) (h1 : ∀ g ∈ inner, sel g = none) (h2 : sel fr = some a) :
    nLook sel (inner ++ fr :: outer) = some a := by
  rw [nLook_eq_findSome?, List.findSome?_append, List.findSome?_eq_none_iff.mpr h1, List.findSome?_cons, h2]; rfl

/-- A write changes exactly the innermost holder. -/
theorem nWrite_eq_set (sel : NFrame F → Option α) (wr : NFrame F → NFrame F) (fs : List (NFrame F)) (i : Nat) (fr : NFrame F) (a : α)
    (hi : fs[i]? = some fr) (hs : sel fr = some a) (hn : ∀ j, j < i → ∀ g, fs[j]? = some g → sel g = none) :
    nWrite sel wr fs = fs.set i (wr fr) := by
  induction fs generalizing i with
  | nil => simp at hi
  | cons f fs ih =>
    cases i with
    | zero =>
      obtain rfl : f = fr := by simpa using hi
      simp [nWrite, hs]
    | succ i =>
      simp [nWrite, hn 0 (Nat.succ_pos i) f rfl,
        ih i (by simpa using hi) fun j hj g hg => hn (j + 1) (Nat.succ_lt_succ hj) g (by simpa using hg)]

theorem nWrite_none (sel : NFrame F → Option α) (wr : NFrame F → NFrame F) (fs : List (NFrame F))
    (h : nLook sel fs = none) : nWrite sel wr fs = fs := by
  induction fs with
  | nil => rfl
  | cons f fs ih =>
    cases hf : sel f with
    | some b => simp [nLook, hf] at h
    | none => simp only [nLook, hf] at h; simp [nWrite, hf, ih h]

/-! The slots `fs.map sel` of one state type along the chain: a lookup is their first `some`
(`List.findSome? id`), a write updates that first `some`. -/

def updFirst {α : Type} (g : α → α) : List (Option α) → List (Option α)
  | [] => []
  | some a :: xs => some (g a) :: xs
  | none :: xs => none :: updFirst g xs

theorem nLook_eq_findSome?_map (sel : NFrame F → Option α) (fs : List (NFrame F)) :
    nLook sel fs = (fs.map sel).findSome? id := by
  rw [nLook_eq_findSome?, List.findSome?_map]; rfl

theorem map_nWrite_same (sel : NFrame F → Option α) (wr : NFrame F → NFrame F) (g : α → α)
    (hw : ∀ f a, sel f = some a → sel (wr f) = some (g a)) (fs : List (NFrame F)) :
    (nWrite sel wr fs).map sel = updFirst g (fs.map sel) := by
  induction fs with
  | nil => rfl
  | cons f fs ih =>
    cases h : sel f with
    | some b => simp [nWrite, h, updFirst, hw f b h]
    | none => simp [nWrite, h, updFirst, ih]

theorem map_nWrite_other (sel : NFrame F → Option α) (sel' : NFrame F → Option β) (wr : NFrame F → NFrame F)
    (hw : ∀ f, sel (wr f) = sel f) (fs : List (NFrame F)) : (nWrite sel' wr fs).map sel = fs.map sel := by
  induction fs with
  | nil => rfl
  | cons f fs ih => cases h : sel' f <;> simp [nWrite, h, hw, ih]

theorem findSome?_updFirst {α : Type} (g : α → α) (xs : List (Option α)) :
    (updFirst g xs).findSome? id = (xs.findSome? id).map g := by
  induction xs with
  | nil => rfl
  | cons x xs ih => cases x <;> simp [updFirst, ih]

theorem updFirst_id {α : Type} (xs : List (Option α)) : updFirst (fun c => c) xs = xs := by
  induction xs with
  | nil => rfl
  | cons x xs ih => cases x <;> simp [updFirst, ih]

theorem updFirst_comp {α : Type} (g h : α → α) (xs : List (Option α)) :
    updFirst g (updFirst h xs) = updFirst (fun c => g (h c)) xs := by
  induction xs with
  | nil => rfl
  | cons x xs ih => cases x <;> simp [updFirst, ih]

/-- What an update of the first holder leaves behind a prefix `xs`: untouched if `xs` holds one, updated otherwise. -/
theorem drop_updFirst_append {α : Type} (g : α → α) (xs ys : List (Option α)) :
    (updFirst g (xs ++ ys)).drop xs.length = if (xs.findSome? id).isSome then ys else updFirst g ys := by
  induction xs with
  | nil => rfl
  | cons x xs ih =>
    cases x with
    | some a => simp [updFirst]
    | none => simp only [List.cons_append, updFirst, List.length_cons, List.drop_succ_cons, List.findSome?_cons, id]; exact ih

theorem nLook_nWrite_other (sel : NFrame F → Option α) (sel' : NFrame F → Option β) (wr : NFrame F → NFrame F)
    (hw : ∀ f, sel (wr f) = sel f) (fs : List (NFrame F)) : nLook sel (nWrite sel' wr fs) = nLook sel fs := by
  rw [nLook_eq_findSome?_map, map_nWrite_other sel sel' wr hw, nLook_eq_findSome?_map]

theorem nLook_nWrite_same (sel : NFrame F → Option α) (wr : NFrame F → NFrame F) (g : α → α)
    (hw : ∀ f a, sel f = some a → sel (wr f) = some (g a)) (fs : List (NFrame F)) :
    nLook sel (nWrite sel wr fs) = (nLook sel fs).map g := by
  rw [nLook_eq_findSome?_map, map_nWrite_same sel wr g hw, findSome?_updFirst, nLook_eq_findSome?_map]

end chain

/-! ### The nested search -/
section search
variable {F : Type}

/-- An empty nearest `BestIndividual` and none at all both mean: no best value. -/
theorem nBest_eq_join (fs : List (NFrame F)) : nBest fs = (nLook (fun f => f.best) fs).join := by
  unfold nBest
  cases nLook (fun f => f.best) fs with
  | none => rfl
  | some o => cases o <;> rfl

theorem nBest_eq_some_iff {F : Type} (fs : List (NFrame F)) (b : F) :
    nBest fs = some b ↔ nLook (fun f => f.best) fs = some (some b) := by
  rw [nBest_eq_join, Option.join_eq_some_iff]

theorem runningBest_zero [LT F] [DecidableLT F] (start : Option F) (sc : List F) : runningBest start sc 0 = start := by
  cases sc <;> rfl

theorem runningBest_nil [LT F] [DecidableLT F] (start : Option F) (j : Nat) : runningBest start [] j = start := by
  cases j <;> rfl

/-- The running best after one pass, continued on the rest of the script. -/
theorem runningBest_step [LT F] [DecidableLT F] (sc : List F) (c : Option F) (q : Nat) :
    runningBest (runningBest c sc 1) sc.tail q = runningBest c sc (q + 1) := by
  cases sc with
  | nil => simp [runningBest_nil]
  | cons s rest => simp [runningBest, runningBest_zero]

/-- The three writes of one loop pass. -/
def wProg (p : F) (fs : List (NFrame F)) : List (NFrame F) :=
  nWrite (fun f => f.prog 0) (fun f => { f with prog := upd f.prog 0 (some p) }) fs

def wBest [LT F] [DecidableLT F] (sc : List F) (fs : List (NFrame F)) : List (NFrame F) :=
  match sc with
  | s :: _ => nWrite (fun f => f.best) (fun f => { f with best := bestUpdate s f.best }) fs
  | [] => fs

def wIter (v : Nat) (fs : List (NFrame F)) : List (NFrame F) :=
  nWrite (fun f => f.obs 0) (fun f => { f with obs := upd f.obs 0 (some v) }) fs

/-- One pass of the search acts on the slots of the counter and of `BestIndividual` only:
the counter seen becomes `v`, the nearest best individual takes the next scripted value. -/
theorem turn_slots [LT F] [DecidableLT F] (p : F) (sc : List F) (v : Nat) (fs : List (NFrame F)) :
    (wIter v (wBest sc (wProg p fs))).map (fun f => f.obs 0) = updFirst (fun _ => v) (fs.map (fun f => f.obs 0)) ∧
    (wIter v (wBest sc (wProg p fs))).map (fun f => f.best) = updFirst (fun c => runningBest c sc 1) (fs.map (fun f => f.best)) := by
  have hO : (wBest sc (wProg p fs)).map (fun f => f.obs 0) = fs.map (fun f => f.obs 0) ∧
      (wBest sc (wProg p fs)).map (fun f => f.best) = updFirst (fun c => runningBest c sc 1) (fs.map (fun f => f.best)) := by
    have h1 : (wProg p fs).map (fun f => f.obs 0) = fs.map (fun f => f.obs 0) := map_nWrite_other _ _ _ (by intro _; rfl) fs
    have h2 : (wProg p fs).map (fun f => f.best) = fs.map (fun f => f.best) := map_nWrite_other _ _ _ (by intro _; rfl) fs
    cases sc with
    | nil => exact ⟨h1, h2.trans (updFirst_id _).symm⟩
    | cons s rest =>
      exact ⟨(map_nWrite_other _ _ _ (by intro _; rfl) _).trans h1,
        (map_nWrite_same _ _ (upd1 s) (by intro f a h; simp [h, bestUpdate]) _).trans (by simp [h2, runningBest, runningBest_zero])⟩
  exact ⟨(map_nWrite_same _ _ (fun _ => v) (by intro f a _; simp [upd]) _).trans (by rw [hO.1]),
    (map_nWrite_other _ _ _ (by intro _; rfl) _).trans hO.2⟩

section loop
variable [Add F] [Sub F] [Div F] [LT F] [LE F] [DecidableLT F] [DecidableLE F] [BEq F]
  (toF : Nat → F) (optimum eps : F) (k : Nat)

/-- One turn of `nsGo`, spelled with the three writes. -/
theorem nsGo_unfold (fuel : Nat) (fs : List (NFrame F)) (sc : List F) (it : Nat) (cur : Option F)
    (passes : Nat) (log : List (SEvent F))
    (hit : nLook (fun f => f.obs 0) fs = some it) (hcur : nLook (fun f => f.best) fs = some cur) :
    nsGo toF optimum eps k (fuel + 1) fs sc passes log =
      if (!(optimumReached eps cur optimum) && decide (it < k)) = true then
        nsGo toF optimum eps k fuel (wIter (it + 1) (wBest sc (wProg (toF it / toF k) fs))) sc.tail (passes + 1)
          (log ++ [{ verdict := true, iters := it, best := cur }])
      else some (wProg (toF it / toF k) fs, passes, log ++ [{ verdict := false, iters := it, best := cur }]) := by
  have hv : allB [!optimumReached eps cur optimum, decide (it < k)] = (!(optimumReached eps cur optimum) && decide (it < k)) := by
    simp [allB]
  simp only [nsGo, nEval, hit, lessThanN, nBest_eq_join, hcur, Option.join_some, hv]
  by_cases h : (!(optimumReached eps cur optimum) && decide (it < k)) = true
  · simp only [h, if_true]
    cases sc <;> rfl
  · simp only [h]
    simp [wProg]

/-- The loop of the nested search stops at the first pass count at which `!reached(best seen) & counter < k`
is false; the log has one entry per test; the `BestIndividual` slots afterwards are the initial ones
with the nearest holder advanced to the best of the consumed script. -/
theorem nsGo_least (d : Nat) :
    ∀ (fs : List (NFrame F)) (sc : List F) (it : Nat) (cur : Option F) (passes : Nat) (log : List (SEvent F)) (fuel : Nat),
      nLook (fun f => f.obs 0) fs = some it → nLook (fun f => f.best) fs = some cur →
      (!(optimumReached eps (runningBest cur sc d) optimum) && decide (it + d < k)) = false →
      (∀ q, q < d → (!(optimumReached eps (runningBest cur sc q) optimum) && decide (it + q < k)) = true) →
      d + 1 ≤ fuel →
      ∃ fs', nsGo toF optimum eps k fuel fs sc passes log =
          some (fs', passes + d, log ++ (List.range' 0 (d + 1)).map fun q =>
            { verdict := !(optimumReached eps (runningBest cur sc q) optimum) && decide (it + q < k),
              iters := it + q, best := runningBest cur sc q }) ∧
        fs'.map (fun f => f.best) = updFirst (fun c => runningBest c sc d) (fs.map (fun f => f.best)) := by
  induction d with
  | zero =>
    intro fs sc it cur passes log fuel hit hcur hstop _ hf
    cases fuel with
    | zero => exact absurd hf (Nat.not_succ_le_zero _)
    | succ fuel =>
      simp only [runningBest_zero, Nat.add_zero] at hstop
      refine ⟨wProg (toF it / toF k) fs, ?_, by
        simp only [runningBest_zero, updFirst_id]
        exact map_nWrite_other _ _ _ (by intro _; rfl) fs⟩
      rw [nsGo_unfold toF optimum eps k fuel fs sc it cur passes log hit hcur]
      simp [hstop, runningBest_zero]
  | succ d ih =>
    intro fs sc it cur passes log fuel hit hcur hstop hgo hf
    cases fuel with
    | zero => exact absurd hf (Nat.not_succ_le_zero _)
    | succ fuel =>
      have h0 := hgo 0 (Nat.succ_pos d)
      simp only [runningBest_zero, Nat.add_zero] at h0
      have hT := turn_slots (toF it / toF k) sc (it + 1) fs
      have harith : ∀ q, it + 1 + q = it + (q + 1) := fun q => Nat.succ_add_eq_add_succ it q
      obtain ⟨fs', e, hBs⟩ := ih _ sc.tail (it + 1) (runningBest cur sc 1) (passes + 1)
        (log ++ [{ verdict := true, iters := it, best := cur }]) fuel
        (by rw [nLook_eq_findSome?_map, hT.1, findSome?_updFirst, ← nLook_eq_findSome?_map, hit]; rfl)
        (by rw [nLook_eq_findSome?_map, hT.2, findSome?_updFirst, ← nLook_eq_findSome?_map, hcur]; rfl)
        (by rw [runningBest_step, harith]; exact hstop)
        (fun q hq => by rw [runningBest_step, harith]; exact hgo (q + 1) (Nat.succ_lt_succ hq))
        (Nat.le_of_succ_le_succ hf)
      refine ⟨fs', ?_, by simp only [hBs, hT.2, updFirst_comp, runningBest_step]⟩
      rw [nsGo_unfold toF optimum eps k fuel fs sc it cur passes log hit hcur]
      simp only [h0, if_true]
      rw [e]
      simp only [Option.some.injEq, Prod.mk.injEq, true_and]
      refine ⟨Nat.succ_add_eq_add_succ passes d, ?_⟩
      rw [List.append_assoc]
      congr 1
      conv => rhs; rw [List.range'_succ, List.map_cons, List.range'_succ_left, List.map_map]
      simp only [List.singleton_append, runningBest_zero, Nat.add_zero, h0]
      congr 1
      apply List.map_congr_left
      intro q _
      simp only [runningBest_step, harith, Function.comp_apply]

end loop

/-! The `BestIndividual` slots of the chain the search runs on: one per scope (innermost first), then the root. -/

def slotOf {F : Type} (sh : Bool) : Option (Option F) := if sh then some none else none

theorem nsScopes_ne_nil (shadow : List Bool) (fs : List (NFrame F)) (h : fs ≠ []) : nsScopes shadow fs ≠ [] := by
  induction shadow generalizing fs with
  | nil => exact h
  | cons sh rest ih => exact ih _ (List.cons_ne_nil _ _)

theorem map_best_nsScopes (shadow : List Bool) (fs : List (NFrame F)) :
    (nsScopes shadow fs).map (fun f => f.best) = shadow.reverse.map slotOf ++ fs.map (fun f => f.best) := by
  induction shadow generalizing fs with
  | nil => rfl
  | cons sh rest ih =>
    rw [nsScopes, ih]
    simp [slotOf, NFrame.empty]

theorem findSome?_slots (xs : List Bool) (ys : List (Option (Option F))) :
    (xs.map slotOf ++ ys).findSome? id = if xs.any id then some none else ys.findSome? id := by
  induction xs with
  | nil => rfl
  | cons x xs ih => cases x <;> simp [slotOf, ih]

end search

end MahfModel.Conditions
