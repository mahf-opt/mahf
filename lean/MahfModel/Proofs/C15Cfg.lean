/- C15 — the configuration export at its leaves: a rendered type name is uniquely readable (`ty_prefix`; a path is the
longest delimiter-free prefix of what is left, `takeWhile_seg`), so the serialisation with full type names is injective
(`serFull_injective`) and `sameConfig` decides equality; the pair predicate holds of the code-shaped prediction exactly when
`serCode` tells the pair apart (`pairHolds_pairModel`); erasing `PhantomData` parameters changes nothing on a tree that
has none (`erasePh_of_noPh`), on which `serCode` is therefore injective (`serCode_injective`). -/
import MahfModel.Model.LogC15Cfg
import MahfModel.Proofs.C15Ser
namespace MahfModel.Log

/-- What can follow a path: nothing, or a delimiter. -/
def Follow (r : List Char) : Prop := r = [] ∨ ∃ c rest, r = c :: rest ∧ isDelim c = true
/-- What can follow a complete type name: nothing, `,` or `>`. -/
def Follow2 (r : List Char) : Prop := r = [] ∨ ∃ rest, r = ',' :: rest ∨ r = '>' :: rest

theorem Follow2.follow {r : List Char} (h : Follow2 r) : Follow r := by
  rcases h with h | ⟨rest, h | h⟩
  · exact Or.inl h
  · exact Or.inr ⟨',', rest, h, by decide⟩
  · exact Or.inr ⟨'>', rest, h, by decide⟩

theorem Follow2.ne_langle_cons {r : List Char} (h : Follow2 r) (x : List Char) : r ≠ '<' :: x := by
  rcases h with h | ⟨rest, h | h⟩ <;> subst h <;> simp

theorem follow_langle_cons (x : List Char) : Follow ('<' :: x) := Or.inr ⟨'<', x, rfl, by decide⟩

theorem Seg.ext {a b : Seg} (h : a.chars = b.chars) : a = b := by
  cases a; cases b; simp_all

/-- A path followed by nothing or a delimiter is the longest delimiter-free prefix of the text. -/
theorem takeWhile_seg (p : Seg) (s : List Char) (hs : Follow s) :
    (p.chars ++ s).takeWhile (fun c => !isDelim c) = p.chars := by
  rw [List.takeWhile_append_of_pos (fun a ha => List.all_eq_true.1 p.ok a ha)]
  rcases hs with rfl | ⟨d, rest, rfl, hd⟩
  · simp
  · simp [hd]

theorem path_prefix (p p' : Seg) (s s' : List Char) (hs : Follow s) (hs' : Follow s')
    (h : p.chars ++ s = p'.chars ++ s') : p = p' ∧ s = s' := by
  have hp := congrArg (List.takeWhile fun c => !isDelim c) h
  rw [takeWhile_seg p s hs, takeWhile_seg p' s' hs'] at hp
  rw [hp] at h
  exact ⟨Seg.ext hp, List.append_cancel_left h⟩

theorem renderRest_follow2 (ts : Tys) (r : List Char) : Follow2 (ts.renderRest ++ r) := by
  cases ts with
  | nil => exact Or.inr ⟨r, Or.inr (by simp [Tys.renderRest])⟩
  | cons t ts => exact Or.inr ⟨_, Or.inl (by simp only [Tys.renderRest, List.cons_append]; rfl)⟩

mutual
  /-- Type names are uniquely readable: a rendered name followed by nothing, `,` or `>` determines
  the type and the rest. -/
  theorem ty_prefix : ∀ (t t' : Ty) (r r' : List Char), Follow2 r → Follow2 r' →
      t.render ++ r = t'.render ++ r' → t = t' ∧ r = r'
    | .mk p .nil, .mk p' .nil, r, r', hr, hr', h => by
      obtain ⟨rfl, h2⟩ := path_prefix p p' r r' hr.follow hr'.follow h
      exact ⟨rfl, h2⟩
    | .mk p .nil, .mk p' (.cons t' ts'), r, r', hr, hr', h => by
      simp only [Ty.render, List.append_assoc, List.cons_append] at h
      exact (hr.ne_langle_cons _ (path_prefix p p' _ _ hr.follow (follow_langle_cons _) h).2).elim
    | .mk p (.cons t ts), .mk p' .nil, r, r', hr, hr', h => by
      simp only [Ty.render, List.append_assoc, List.cons_append] at h
      exact (hr'.ne_langle_cons _ (path_prefix p p' _ _ (follow_langle_cons _) hr'.follow h).2.symm).elim
    | .mk p (.cons t ts), .mk p' (.cons t' ts'), r, r', hr, hr', h => by
      simp only [Ty.render, List.append_assoc, List.cons_append] at h
      obtain ⟨rfl, h2⟩ := path_prefix p p' _ _ (follow_langle_cons _) (follow_langle_cons _) h
      obtain ⟨rfl, hrest⟩ := ty_prefix t t' _ _ (renderRest_follow2 ts r) (renderRest_follow2 ts' r') (List.cons.inj h2).2
      obtain ⟨rfl, hr2⟩ := tys_prefix ts ts' r r' hrest
      exact ⟨rfl, hr2⟩
  theorem tys_prefix : ∀ (ts ts' : Tys) (r r' : List Char),
      ts.renderRest ++ r = ts'.renderRest ++ r' → ts = ts' ∧ r = r'
    | .nil, .nil, r, r', h => ⟨rfl, (List.cons.inj h).2⟩
    | .nil, .cons t' ts', r, r', h => nomatch (List.cons.inj h).1
    | .cons t ts, .nil, r, r', h => nomatch (List.cons.inj h).1
    | .cons t ts, .cons t' ts', r, r', h => by
      simp only [Tys.renderRest, List.cons_append, List.append_assoc] at h
      obtain ⟨rfl, hrest⟩ := ty_prefix t t' _ _ (renderRest_follow2 ts r) (renderRest_follow2 ts' r') (List.cons.inj h).2
      obtain ⟨rfl, hr2⟩ := tys_prefix ts ts' r r' hrest
      exact ⟨rfl, hr2⟩
end

theorem Ty.render_injective (t t' : Ty) (h : t.render = t'.render) : t = t' :=
  (ty_prefix t t' [] [] (Or.inl rfl) (Or.inl rfl) (by simpa using h)).1

theorem encFull_injective (x y : Param) (h : encFull x = encFull y) : x = y := by
  cases x <;> cases y <;> simp only [encFull, PTok.val.injEq, PTok.name.injEq, PTok.hidden.injEq, reduceCtorEq] at h
  · rw [h]
  · rw [Ty.render_injective _ _ h]
  · rw [Ty.render_injective _ _ h]

theorem serFull_injective (a b : CTree String Param) (h : serFull a = serFull b) : a = b :=
  ser_inj id encFull (fun _ _ h => h) encFull_injective h

theorem sameConfig_iff (a b : CTree String Param) : sameConfig a b = true ↔ a = b := by
  simp only [sameConfig, decide_eq_true_eq]
  exact ⟨serFull_injective a b, fun h => by rw [h]⟩

theorem sameConfig_eq_false_iff (a b : CTree String Param) : sameConfig a b = false ↔ a ≠ b := by
  rw [Ne, ← sameConfig_iff, Bool.not_eq_true]

/-- The code-shaped prediction of a pair case satisfies the property's predicate exactly when the
code's serialisation tells the two configurations apart. -/
theorem pairHolds_pairModel (jr : Bool) (a b : CTree String Param) :
    pairHolds a b (pairModel jr a b) = true ↔ (serCode a = serCode b → a = b) := by
  simp only [pairHolds, pairModel]
  cases hs : sameConfig a b
  · have hne : a ≠ b := (sameConfig_eq_false_iff a b).1 hs
    by_cases hc : serCode a = serCode b <;> cases jr <;> simp [hc, hne]
  · have he := (sameConfig_iff a b).1 hs
    cases jr <;> simp [he]

theorem pairHolds_pairModel_of_collision (jr : Bool) {a b : CTree String Param} (hs : serCode a = serCode b)
    (hne : a ≠ b) : pairHolds a b (pairModel jr a b) = false := by
  rw [Bool.eq_false_iff, Ne, pairHolds_pairModel]
  exact fun h => hne (h hs)

mutual
  theorem erasePh_of_noPh : ∀ t : CTree String Param, noPh t = true → erasePh t = t
    | .node a ps kids, h => by
      simp only [noPh, Bool.and_eq_true] at h
      simp only [erasePh, erasePhF_of_noPhF kids h.2]
      congr 1
      exact List.filter_eq_self.2 (by simpa using h.1)
  theorem erasePhF_of_noPhF : ∀ f : CForest String Param, noPhF f = true → erasePhF f = f
    | .nil, _ => rfl
    | .cons t ts, h => by
      simp only [noPhF, Bool.and_eq_true] at h
      simp only [erasePhF, erasePh_of_noPh t h.1, erasePhF_of_noPhF ts h.2]
end

theorem serCode_injective {a b : CTree String Param} (ha : noPh a = true) (hb : noPh b = true)
    (h : serCode a = serCode b) : a = b := by
  have := serFull_injective _ _ h
  rwa [erasePh_of_noPh a ha, erasePh_of_noPh b hb] at this

end MahfModel.Log
