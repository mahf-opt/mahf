/- C20: `Reaction rx st st'` says what an update that returned `Ok` did: one constructor per `Ok` branch, and the inversions
`*_reaction` are the only place where the four update functions are unfolded.  The stack frame, alignment and non-negativity
are each proved once, about `Reaction`, on the model's own classes; `runSteps_induct` carries a clause along a history. -/
import MahfModel.Proofs.C20Locate
namespace MahfModel.Cro

theorem updateBest_ke {F : Type} [LT F] [DecidableLT F] (m : Mol F) (p : Ind F) : (m.updateBest p).ke = m.ke := by
  unfold Mol.updateBest; split <;> rfl

section relation
variable {F : Type} [BEq F] [Add F] [Sub F] [Mul F] [LT F] [LE F] [DecidableLT F] [OfNat F 0] [OfNat F 1]

/-- The update `rx` returns `Ok` on `st` and leaves `st'`: one constructor per `Ok` branch. -/
inductive Reaction : Rx F → St F → St F → Prop
  | wallHit {lr a : F} {i : Nat} {p r x : Ind F} {pop : Pop F} {rest : List (Pop F)} {mols : List (Mol F)} {b : F}
      {m : Mol F} (hi : ReactantAt pop mols i r x m)
      (hc : p.obj ≤ r.obj + m.ke) :
      Reaction (.onWall lr a i) ⟨[p] :: [r] :: pop :: rest, mols, b⟩
        ⟨pop.set i p :: rest, mols.set i { m.hit.updateBest p with ke := (r.obj + m.ke - p.obj) * a },
          b + (r.obj + m.ke - p.obj) * (1 - a)⟩
  | wallMiss {lr a : F} {i : Nat} {p r x : Ind F} {pop : Pop F} {rest : List (Pop F)} {mols : List (Mol F)} {b : F}
      {m : Mol F} (hi : ReactantAt pop mols i r x m)
      (hc : ¬ p.obj ≤ r.obj + m.ke) :
      Reaction (.onWall lr a i) ⟨[p] :: [r] :: pop :: rest, mols, b⟩ ⟨pop :: rest, mols.set i m.hit, b⟩
  | decompHit {dA δ1 δ2 dB : F} {i : Nat} {p1 p2 r x : Ind F} {pop : Pop F} {rest : List (Pop F)}
      {mols : List (Mol F)} {b : F} {m : Mol F} (hi : ReactantAt pop mols i r x m)
      (hc : p1.obj + p2.obj ≤ r.obj + m.ke) :
      Reaction (.decomp dA δ1 δ2 dB i) ⟨[p1, p2] :: [r] :: pop :: rest, mols, b⟩
        ⟨(pop.set i p1 ++ [p2]) :: rest,
          mols.set i (Mol.new ((r.obj + m.ke - (p1.obj + p2.obj)) * dA) p1) ++
            [Mol.new ((r.obj + m.ke - (p1.obj + p2.obj)) * (1 - dA)) p2], b⟩
  | decompMiss {dA δ1 δ2 dB : F} {i : Nat} {p1 p2 r x : Ind F} {pop : Pop F} {rest : List (Pop F)}
      {mols : List (Mol F)} {b : F} {m : Mol F} (hi : ReactantAt pop mols i r x m)
      (hc : ¬ p1.obj + p2.obj ≤ r.obj + m.ke)
      (hd : r.obj + m.ke + δ1 * δ2 * b - (p1.obj + p2.obj) < 0) :
      Reaction (.decomp dA δ1 δ2 dB i) ⟨[p1, p2] :: [r] :: pop :: rest, mols, b⟩
        ⟨pop :: rest, mols.set i m.hit, b⟩
  | decompBuffer {dA δ1 δ2 dB : F} {i : Nat} {p1 p2 r x : Ind F} {pop : Pop F} {rest : List (Pop F)}
      {mols : List (Mol F)} {b : F} {m : Mol F} (hi : ReactantAt pop mols i r x m)
      (hc : ¬ p1.obj + p2.obj ≤ r.obj + m.ke)
      (hd : ¬ r.obj + m.ke + δ1 * δ2 * b - (p1.obj + p2.obj) < 0) :
      Reaction (.decomp dA δ1 δ2 dB i) ⟨[p1, p2] :: [r] :: pop :: rest, mols, b⟩
        ⟨(pop.set i p1 ++ [p2]) :: rest,
          mols.set i (Mol.new ((r.obj + m.ke + δ1 * δ2 * b - (p1.obj + p2.obj)) * dB) p1) ++
            [Mol.new ((r.obj + m.ke + δ1 * δ2 * b - (p1.obj + p2.obj)) * (1 - dB)) p2],
          b * (1 - δ1 * δ2)⟩
  | interHit {d4 : F} {i j : Nat} {p1 p2 r1 r2 x y : Ind F} {pop : Pop F} {rest : List (Pop F)}
      {mols : List (Mol F)} {b : F} {mi mj : Mol F} (hi : ReactantAt pop mols i r1 x mi)
      (hj : ReactantAt pop mols j r2 y mj) (hij : i ≠ j)
      (hc : 0 ≤ (r1.obj + mi.ke) + (r2.obj + mj.ke) - (p1.obj + p2.obj)) :
      Reaction (.inter d4 i j) ⟨[p1, p2] :: [r1, r2] :: pop :: rest, mols, b⟩
        ⟨(pop.set i p1).set j p2 :: rest,
          (mols.set i (({ mi.hit with ke := ((r1.obj + mi.ke) + (r2.obj + mj.ke) - (p1.obj + p2.obj)) * d4 } :
              Mol F).updateBest p1)).set j
            (({ mj.hit with ke := ((r1.obj + mi.ke) + (r2.obj + mj.ke) - (p1.obj + p2.obj)) * (1 - d4) } :
              Mol F).updateBest p2), b⟩
  | interMiss {d4 : F} {i j : Nat} {p1 p2 r1 r2 x y : Ind F} {pop : Pop F} {rest : List (Pop F)}
      {mols : List (Mol F)} {b : F} {mi mj : Mol F} (hi : ReactantAt pop mols i r1 x mi)
      (hj : ReactantAt pop mols j r2 y mj) (hij : i ≠ j)
      (hc : ¬ 0 ≤ (r1.obj + mi.ke) + (r2.obj + mj.ke) - (p1.obj + p2.obj)) :
      Reaction (.inter d4 i j) ⟨[p1, p2] :: [r1, r2] :: pop :: rest, mols, b⟩
        ⟨pop :: rest, (mols.set i mi.hit).set j mj.hit, b⟩
  | synthHit {i j : Nat} {p r1 r2 x y : Ind F} {pop : Pop F} {rest : List (Pop F)}
      {mols : List (Mol F)} {b : F} {mi mj : Mol F} (hi : ReactantAt pop mols i r1 x mi)
      (hj : ReactantAt pop mols j r2 y mj) (hij : i ≠ j)
      (hc : p.obj ≤ (r1.obj + mi.ke) + (r2.obj + mj.ke)) :
      Reaction (.synth i j) ⟨[p] :: [r1, r2] :: pop :: rest, mols, b⟩
        ⟨(pop.set i p).eraseIdx j :: rest,
          (mols.set i (Mol.new ((r1.obj + mi.ke) + (r2.obj + mj.ke) - p.obj) p)).eraseIdx j, b⟩
  | synthMiss {i j : Nat} {p r1 r2 : Ind F} {pop : Pop F} {rest : List (Pop F)} {mols : List (Mol F)} {b : F} :
      Reaction (.synth i j) ⟨[p] :: [r1, r2] :: pop :: rest, mols, b⟩ ⟨pop :: rest, mols, b⟩

section updates
variable [DecidableLE F]

/-- The definition is split along its matches; `cases h` removes the `Err` / panic leaves, the `Ok` leaves follow
in the order of the definition (likewise below). -/
theorem onWallAt_reaction {lr a : F} {i : Nat} {st : St F} (hl : legal1 i st = true)
    (h : (onWallAt lr a i st).status = .ok) : Reaction (.onWall lr a i) st (onWallAt lr a i st).st := by
  obtain ⟨stack, mols, b⟩ := st
  revert h
  fun_cases onWallAt lr a i ⟨stack, mols, b⟩ <;> intro h <;> cases h <;> obtain rfl : stack = _ := ‹_› <;>
    obtain ⟨x, hx, hr⟩ := legal1_reactant ‹position _ _ = some _› hl
  · exact .wallHit ⟨hx, hr, ‹mols[i]? = some _›⟩ ‹_ ≤ _›
  · exact .wallMiss ⟨hx, hr, ‹mols[i]? = some _›⟩ ‹¬ _ ≤ _›

theorem decompositionAt_reaction {dA δ1 δ2 dB : F} {i : Nat} {st : St F} (hl : legal1 i st = true)
    (h : (decompositionAt dA δ1 δ2 dB i st).status = .ok) :
    Reaction (.decomp dA δ1 δ2 dB i) st (decompositionAt dA δ1 δ2 dB i st).st := by
  obtain ⟨stack, mols, b⟩ := st
  revert h
  fun_cases decompositionAt dA δ1 δ2 dB i ⟨stack, mols, b⟩ <;> intro h <;> cases h <;>
    obtain rfl : stack = _ := ‹_› <;> obtain ⟨x, hx, hr⟩ := legal1_reactant ‹position _ _ = some _› hl
  · exact .decompHit ⟨hx, hr, ‹mols[i]? = some _›⟩ ‹_ ≤ _›
  · exact .decompMiss ⟨hx, hr, ‹mols[i]? = some _›⟩ ‹¬ _ ≤ _› ‹_ < (0 : F)›
  · exact .decompBuffer ⟨hx, hr, ‹mols[i]? = some _›⟩ ‹¬ _ ≤ _› ‹¬ _ < (0 : F)›

theorem intermolecularAt_reaction {d4 : F} {i j : Nat} {st : St F} (hl : legal2 i j st = true)
    (h : (intermolecularAt d4 i j st).status = .ok) :
    Reaction (.inter d4 i j) st (intermolecularAt d4 i j st).st := by
  obtain ⟨stack, mols, b⟩ := st
  revert h
  fun_cases intermolecularAt d4 i j ⟨stack, mols, b⟩ <;> intro h <;> cases h <;>
    obtain rfl : stack = _ := ‹_› <;>
    obtain ⟨⟨x, hx, hrx⟩, ⟨y, hy, hry⟩, hij⟩ :=
      legal2_reactants ‹position _ _ = some _› ‹positionOther _ _ _ = some _› hl
  · exact .interHit ⟨hx, hrx, ‹mols[i]? = some _›⟩ ⟨hy, hry, ‹mols[j]? = some _›⟩ hij ‹(0 : F) ≤ _›
  · exact .interMiss ⟨hx, hrx, ‹mols[i]? = some _›⟩ ⟨hy, hry, ‹mols[j]? = some _›⟩ hij ‹¬ (0 : F) ≤ _›

theorem synthesisAt_reaction {i j : Nat} {st : St F} (hl : legal2 i j st = true)
    (h : (synthesisAt i j st).status = .ok) : Reaction (.synth i j) st (synthesisAt i j st).st := by
  obtain ⟨stack, mols, b⟩ := st
  revert h
  fun_cases synthesisAt i j ⟨stack, mols, b⟩ <;> intro h <;> cases h <;> obtain rfl : stack = _ := ‹_›
  · obtain ⟨⟨x, hx, hrx⟩, ⟨y, hy, hry⟩, hij⟩ :=
      legal2_reactants ‹position _ _ = some _› ‹positionOther _ _ _ = some _› hl
    exact .synthHit ⟨hx, hrx, ‹mols[i]? = some _›⟩ ⟨hy, hry, ‹mols[j]? = some _›⟩ hij ‹_ ≤ _›
  · exact .synthMiss

theorem Rx.apply_reaction {rx : Rx F} {st : St F} (hl : rx.legalIdx st = true)
    (h : (rx.apply st).status = .ok) : Reaction rx st (rx.apply st).st := by
  cases rx with
  | onWall lr a i => exact onWallAt_reaction hl h
  | decomp dA δ1 δ2 dB i => exact decompositionAt_reaction hl h
  | inter d4 i j => exact intermolecularAt_reaction hl h
  | synth i j => exact synthesisAt_reaction hl h

end updates

theorem Reaction.frame {rx : Rx F} {st st' : St F} (h : Reaction rx st st') :
    3 ≤ st.stack.length ∧ st'.stack.drop 1 = st.stack.drop 3 ∧ st'.stack.length + 2 = st.stack.length := by
  induction h <;> exact ⟨Nat.le_add_left _ _, rfl, rfl⟩

/-- How the zipped (individual, molecule) list changes under an update: only at the witness indices. -/
def ZipChange : Rx F → List (Ind F × Mol F) → List (Ind F × Mol F) → Prop
  | .onWall _ _ i, z, z' => ∃ x, z' = z.set i x
  | .decomp _ _ _ _ i, z, z' => ∃ x, z' = z.set i x ∨ ∃ y, z' = z.set i x ++ [y]
  | .inter _ i j, z, z' => ∃ x y, j ≠ i ∧ z' = (z.set i x).set j y
  | .synth i j, z, z' => z' = z ∨ ∃ x, j ≠ i ∧ z' = (z.set i x).eraseIdx j

theorem Reaction.aligned {rx : Rx F} {st st' : St F} (h : Reaction rx st st')
    (hal : (st.stack.getD 2 []).length = st.mols.length) :
    (st'.stack.getD 0 []).length = st'.mols.length ∧
    ZipChange rx ((st.stack.getD 2 []).zip st.mols) ((st'.stack.getD 0 []).zip st'.mols) := by
  induction h <;> simp only [List.getD_cons_zero, List.getD_cons_succ, ZipChange] at hal ⊢
  case wallHit => exact ⟨by rw [List.length_set, List.length_set, hal], _, zip_set _ _ _ _ _⟩
  case wallMiss hi _ => exact ⟨by rw [List.length_set, hal], _, zip_set_right _ _ _ _ _ hi.ind⟩
  case decompHit | decompBuffer =>
    exact ⟨by simp only [List.length_append, List.length_set, hal]; rfl, _,
      .inr ⟨_, by rw [List.zip_append (by rw [List.length_set, List.length_set, hal]), zip_set]; rfl⟩⟩
  case decompMiss hi _ _ => exact ⟨by rw [List.length_set, hal], _, .inl (zip_set_right _ _ _ _ _ hi.ind)⟩
  case interHit _ _ hij _ =>
    exact ⟨by simp only [List.length_set, hal], _, _, hij.symm, by rw [zip_set, zip_set]⟩
  case interMiss hi hj hij _ =>
    exact ⟨by simp only [List.length_set, hal], _, _, hij.symm,
      by rw [zip_set_right _ _ _ _ _ hj.ind, zip_set_right _ _ _ _ _ hi.ind]⟩
  case synthHit _ _ hij _ =>
    exact ⟨length_eraseIdx_congr (by rw [List.length_set, List.length_set, hal]) _,
      .inr ⟨_, hij.symm, by rw [zip_eraseIdx, zip_set]⟩⟩
  case synthMiss => exact ⟨hal, .inl trivial⟩

/-! ### Non-negativity under rounding

The non-negativity clause does not need exact arithmetic.  It only needs what a correctly rounded
arithmetic on a totally ordered carrier without NaN gives (IEEE-754 doubles in round-to-nearest as
long as no NaN arises, and every ordered field): rounding is monotone and `0`, `1` are exact, so
`b ≤ a ⇒ 0 ≤ a ⊖ b`, `0 ≤ a, b ⇒ 0 ≤ a ⊕ b, 0 ≤ a ⊗ b`, and `a, b ∈ [0,1] ⇒ a ⊗ b ≤ 1`. -/

/-- Legal draws: the loss-rate draw lies in `[lr, 1]` with `0 ≤ lr`, every other draw in `[0, 1]`. -/
def Rx.legalDraws : Rx F → Prop
  | .onWall lr a _ => 0 ≤ lr ∧ lr ≤ a ∧ a ≤ 1
  | .decomp dA δ1 δ2 dB _ => (0 ≤ dA ∧ dA ≤ 1) ∧ (0 ≤ δ1 ∧ δ1 ≤ 1) ∧ (0 ≤ δ2 ∧ δ2 ≤ 1) ∧ (0 ≤ dB ∧ dB ≤ 1)
  | .inter d4 _ _ => 0 ≤ d4 ∧ d4 ≤ 1
  | .synth _ _ => True

/-- The facts about the carrier's (possibly rounded) arithmetic the non-negativity clause rests on. -/
structure MonoArith (F : Type) [Add F] [Sub F] [Mul F] [LT F] [LE F] [OfNat F 0] [OfNat F 1] : Prop where
  le_trans : ∀ a b c : F, a ≤ b → b ≤ c → a ≤ c
  le_of_not_lt : ∀ a b : F, ¬ a < b → b ≤ a
  add_nonneg : ∀ a b : F, 0 ≤ a → 0 ≤ b → 0 ≤ a + b
  sub_nonneg : ∀ a b : F, b ≤ a → 0 ≤ a - b
  mul_nonneg : ∀ a b : F, 0 ≤ a → 0 ≤ b → 0 ≤ a * b
  mul_le_one : ∀ a b : F, 0 ≤ a → a ≤ 1 → 0 ≤ b → b ≤ 1 → a * b ≤ 1

/-- No kinetic energy and not the buffer is negative. -/
def NonNeg (st : St F) : Prop := (∀ m ∈ st.mols, 0 ≤ m.ke) ∧ 0 ≤ st.buffer

/-- A rejected collision only counts a hit at the reactant's index. -/
theorem nonneg_hit {F : Type} [LE F] [OfNat F 0] {mols : List (Mol F)} (hk : ∀ m ∈ mols, 0 ≤ m.ke) {i : Nat} {m : Mol F}
    (hm : mols[i]? = some m) : ∀ m' ∈ mols.set i m.hit, 0 ≤ m'.ke :=
  forall_mem_set hk (hk m (List.mem_of_getElem? hm))

theorem Reaction.nonneg (A : MonoArith F) {rx : Rx F} {st st' : St F} (h : Reaction rx st st')
    (hd : rx.legalDraws) (hN : NonNeg st) : NonNeg st' := by
  obtain ⟨hk, hb⟩ := hN
  induction h with
  | wallHit hi hc =>
    obtain ⟨h0, hla, ha1⟩ := hd
    have hde := A.sub_nonneg _ _ hc
    exact ⟨forall_mem_set hk (A.mul_nonneg _ _ hde (A.le_trans _ _ _ h0 hla)),
      A.add_nonneg _ _ hb (A.mul_nonneg _ _ hde (A.sub_nonneg _ _ ha1))⟩
  | wallMiss hi hc | decompMiss hi hc hd' => exact ⟨nonneg_hit hk hi.mol, hb⟩
  | decompHit hi hc =>
    obtain ⟨hA, -⟩ := hd
    have hde := A.sub_nonneg _ _ hc
    exact ⟨List.forall_mem_append.mpr ⟨forall_mem_set hk (A.mul_nonneg _ _ hde hA.1),
      List.forall_mem_singleton.mpr (A.mul_nonneg _ _ hde (A.sub_nonneg _ _ hA.2))⟩, hb⟩
  | decompBuffer hi hc hd' =>
    obtain ⟨-, h1, h2, hB⟩ := hd
    have hde := A.le_of_not_lt _ _ hd'
    exact ⟨List.forall_mem_append.mpr ⟨forall_mem_set hk (A.mul_nonneg _ _ hde hB.1),
      List.forall_mem_singleton.mpr (A.mul_nonneg _ _ hde (A.sub_nonneg _ _ hB.2))⟩,
      A.mul_nonneg _ _ hb (A.sub_nonneg _ _ (A.mul_le_one _ _ h1.1 h1.2 h2.1 h2.2))⟩
  | interHit hi hj hij hc =>
    refine ⟨forall_mem_set (forall_mem_set hk ?_) ?_, hb⟩
    · rw [updateBest_ke]; exact A.mul_nonneg _ _ hc hd.1
    · rw [updateBest_ke]; exact A.mul_nonneg _ _ hc (A.sub_nonneg _ _ hd.2)
  | interMiss hi hj hij hc =>
    exact ⟨nonneg_hit (nonneg_hit hk hi.mol) (hj.mols_set_ne hij _).mol, hb⟩
  | synthHit hi hj hij hc =>
    exact ⟨fun m hin => forall_mem_set hk (A.sub_nonneg _ _ hc) m (List.mem_of_mem_eraseIdx hin), hb⟩
  | synthMiss => exact ⟨hk, hb⟩

variable [DecidableLE F]

theorem runSteps_induct {P : St F → Prop} {steps : List (Step F)} {st st' : St F}
    (hstep : ∀ s ∈ steps, ∀ st st', Reaction s.rx (s.pushed st) st' → P st → P st')
    (hl : runLegalIdx steps st = true) (h : runSteps steps st = some st') (h0 : P st) : P st' := by
  induction steps generalizing st with
  | nil => cases h; exact h0
  | cons s ss ih =>
    simp only [runLegalIdx, Bool.and_eq_true] at hl
    simp only [runSteps] at h
    split at h
    · rename_i hok
      exact ih (fun t ht => hstep t (List.mem_cons_of_mem _ ht)) hl.2 h
        (hstep s List.mem_cons_self st _ (Rx.apply_reaction hl.1 hok) h0)
    · cases h

end relation

end MahfModel.Cro
