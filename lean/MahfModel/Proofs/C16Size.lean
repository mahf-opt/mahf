/- Soundness of the population-size analysis (`Model/TemplatesSize.lean`) for every execution of the
concrete size interpreter. -/
import MahfModel.Proofs.C16SizeConc
namespace MahfModel.Tpl

/-- What the analysis promises about one terminating execution. -/
def SGood (a' : AbsStack) (s s' : SSt) : Prop :=
  Conc s'.stack a' ∧ (s.ok = true → s'.ok = true)

theorem mark_stack (B : Itv) (d : Nat) (s : SSt) : (mark B d s).stack = s.stack := by
  cases d <;> rfl

theorem mark_ok (B : Itv) (d : Nat) (s : SSt) : (mark B d s).ok = (s.ok && (d != 0 || topIn B s.stack)) := by
  cases d with
  | zero => rfl
  | succ d => exact (Bool.and_true _).symm

/-- The one walk over `sexec`: an execution only ever clears the ghost flag, and under the analysis it ends inside the
predicted intervals without clearing it. -/
theorem sexec_sound_all (B : Itv) (o : SOracle) (fuel : Nat) :
    (∀ d c s s', sexec B o fuel d c s = some s' → (s'.ok = true → s.ok = true) ∧
      ∀ a a', sizeOf B d c a = some a' → Conc s.stack a → SGood a' s s') ∧
    (∀ d cs s s', sexecs B o fuel d cs s = some s' → (s'.ok = true → s.ok = true) ∧
      ∀ a a', sizesOf B d cs a = some a' → Conc s.stack a → SGood a' s s') ∧
    (∀ d body s s', sloop B o fuel d body s = some s' → (s'.ok = true → s.ok = true) ∧
      ∀ inv out, sizeOf B (d + 1) body inv = some out → stackLe out inv = true →
        (d != 0 || topWithin B out) = true → Conc s.stack inv → SGood inv s s') := by
  induction fuel with
  | zero => exact ⟨fun _ _ _ _ h => (nomatch h), fun _ _ _ _ h => (nomatch h), fun _ _ _ _ h => (nomatch h)⟩
  | succ fuel ih =>
    obtain ⟨ih1, ih2, ih3⟩ := ih
    refine ⟨fun d c s s' h => ?_, fun d cs s s' h => ?_, fun d body s s' h => ?_⟩
    · cases c with
      | leaf k p q =>
        simp only [sexec] at h
        split at h
        · cases h
        · split at h
          · cases h
          · next st hl => cases h; exact ⟨id, fun a a' ha hc => ⟨sizeStep_sound k p q _ a a' s.stack st ha hc hl, id⟩⟩
      | seq cs => exact ih2 d cs s s' h
      | loop body =>
        refine ⟨(ih3 d body s s' h).1, fun a a' ha hc => ?_⟩
        obtain ⟨_, out, hb, h1, h2, h3⟩ := loopCheck_eq_some (sizeOf_loop .. ▸ ha)
        exact (ih3 d body s s' h).2 a' out hb h2 h3 (stackLe_sound h1 hc)
      | branch t e =>
        simp only [sexec] at h
        refine ⟨?_, fun a a' ha hc => ?_⟩
        · split at h
          · exact (ih1 d t _ s' h).1
          · exact (ih1 d e _ s' h).1
        · simp only [sizeOf] at ha
          split at ha
          · next x y hx hy =>
            split at h
            · have g := (ih1 d t _ s' h).2 a x hx hc
              exact ⟨stackLe_sound (stackLe_join ha).1 g.1, g.2⟩
            · have g := (ih1 d e _ s' h).2 a y hy hc
              exact ⟨stackLe_sound (stackLe_join ha).2 g.1, g.2⟩
          · cases ha
      | scope body => exact ih1 d body s s' h
    · cases cs with
      | nil => cases h; exact ⟨id, fun a a' ha hc => by cases ha; exact ⟨hc, id⟩⟩
      | cons c rest =>
        simp only [sexecs] at h
        split at h
        · cases h
        · next s1 h1 =>
          obtain ⟨m1, g1⟩ := ih1 d c s s1 h1
          obtain ⟨m2, g2⟩ := ih2 d rest s1 s' h
          refine ⟨m1 ∘ m2, fun a a' ha hc => ?_⟩
          simp only [sizesOf] at ha
          split at ha
          · cases ha
          · next x hx =>
            have k1 := g1 a x hx hc
            have k2 := g2 x a' ha k1.1
            exact ⟨k2.1, k2.2 ∘ k1.2⟩
    · simp only [sloop] at h
      split at h
      · split at h
        · cases h
        · next s1 h1 =>
          obtain ⟨m1, g1⟩ := ih1 (d + 1) body _ s1 h1
          obtain ⟨m2, g2⟩ := ih3 d body (mark B d s1) s' h
          refine ⟨fun hk => m1 (Bool.and_eq_true_iff.1 (mark_ok B d s1 ▸ m2 hk)).1, fun inv out hb hle hB hc => ?_⟩
          have k1 := g1 inv out hb hc
          have k2 := g2 inv out hb hle hB (mark_stack B d s1 ▸ stackLe_sound hle k1.1)
          refine ⟨k2.1, fun hp => k2.2 ?_⟩
          rw [mark_ok, k1.2 hp, Bool.true_and]
          cases hd : d != 0
          · rw [hd] at hB; exact topWithin_sound hB k1.1
          · rfl
      · cases h; exact ⟨id, fun _ _ _ _ _ hc => ⟨hc, id⟩⟩

theorem sexec_sound (B : Itv) (o : SOracle) (fuel d : Nat) (c : SComp) (a a' : AbsStack) (s s' : SSt)
    (ha : sizeOf B d c a = some a') (hc : Conc s.stack a) (h : sexec B o fuel d c s = some s') : SGood a' s s' :=
  ((sexec_sound_all B o fuel).1 d c s s' h).2 a a' ha hc

theorem sexecs_sound (B : Itv) (o : SOracle) : ∀ (fuel d : Nat) (cs : SComps) (a a' : AbsStack) (s s' : SSt),
    sizesOf B d cs a = some a' → Conc s.stack a → sexecs B o fuel d cs s = some s' → SGood a' s s' :=
  fun fuel d cs a a' s s' ha hc h => ((sexec_sound_all B o fuel).2.1 d cs s s' h).2 a a' ha hc

theorem sloop_sound (B : Itv) (o : SOracle) : ∀ (fuel d : Nat) (body : SComp) (inv out : AbsStack) (s s' : SSt),
    sizeOf B (d + 1) body inv = some out → stackLe out inv = true →
    (d != 0 || topWithin B out) = true → Conc s.stack inv →
    sloop B o fuel d body s = some s' → SGood inv s s' :=
  fun fuel d body inv out s s' hb hle hB hc h => ((sexec_sound_all B o fuel).2.2 d body s s' h).2 inv out hb hle hB hc

theorem sizeWithin_sound (o : SOracle) (fuel : Nat) (t : SComp) (lo : Nat) (hi : Option Nat) (s' : SSt)
    (hw : sizeWithin t lo hi = true)
    (h : sexec ⟨lo, hi⟩ o fuel 0 t { stack := [], tick := 0, ok := true } = some s') : s'.ok = true := by
  obtain ⟨a', ha⟩ := Option.isSome_iff_exists.1 hw
  exact (sexec_sound ⟨lo, hi⟩ o fuel 0 t [] a' ⟨[], 0, true⟩ s' ha trivial h).2 rfl

theorem sexec_ok_mono (B : Itv) (o : SOracle) (fuel d : Nat) (c : SComp) (s s' : SSt) :
    sexec B o fuel d c s = some s' → s'.ok = true → s.ok = true :=
  fun h => ((sexec_sound_all B o fuel).1 d c s s' h).1

theorem sexecs_ok_mono (B : Itv) (o : SOracle) : ∀ (fuel d : Nat) (cs : SComps) (s s' : SSt),
    sexecs B o fuel d cs s = some s' → s'.ok = true → s.ok = true :=
  fun fuel d cs s s' h => ((sexec_sound_all B o fuel).2.1 d cs s s' h).1

theorem sloop_ok_mono (B : Itv) (o : SOracle) : ∀ (fuel d : Nat) (body : SComp) (s s' : SSt),
    sloop B o fuel d body s = some s' → s'.ok = true → s.ok = true :=
  fun fuel d body s s' h => ((sexec_sound_all B o fuel).2.2 d body s s' h).1

end MahfModel.Tpl
