/- C06 on configuration trees (`Model/EvalTreeC06.lean`). One induction over the interpreter `execT`/`execsT`/`loopT` (`Walk.all`):
it respects every preorder on states that the recording steps, the evaluation leaf and the scope bracket respect, whatever the
outcome of the execution. `Applies` (only registered evaluators are applied) and `Tracks` (call log and visible counter move
together, for trees without evaluation steps in scopes) are the two instances. Imports no Mathlib. -/
import MahfModel.Model.EvalTreeC06
namespace MahfModel.EvalTree
open MahfModel MahfModel.PopMachine

variable {O : Type}

theorem bump_zero (l : List (Option Nat)) : bump 0 l = l := by
  induction l with
  | nil => rfl
  | cons c cs ih =>
    cases c with
    | none => exact congrArg (none :: ·) ih
    | some v => rfl

theorem bump_bump (a b : Nat) (l : List (Option Nat)) : bump a (bump b l) = bump (b + a) l := by
  induction l with
  | nil => rfl
  | cons c cs ih =>
    cases c with
    | none => exact congrArg (none :: ·) ih
    | some v => exact congrArg (fun n => some n :: cs) (Nat.add_assoc v b a)

theorem bump_none_cons (k : Nat) (l : List (Option Nat)) : bump k (none :: l) = none :: bump k l := rfl

theorem visible_bump (k : Nat) (l : List (Option Nat)) : visible (bump k l) = (visible l).map (· + k) := by
  induction l with
  | nil => rfl
  | cons c cs ih =>
    cases c with
    | none => exact ih
    | some v => rfl

theorem bump_of_visible_none (k : Nat) (l : List (Option Nat)) (h : visible l = none) : bump k l = l := by
  induction l with
  | nil => rfl
  | cons c cs ih =>
    cases c with
    | none => exact congrArg (none :: ·) (ih h)
    | some v => cases h

theorem evalHere_of_allIds_nil (c : TStep O) : allIds c = [] → evalHere c = false ∧ noScopedEval c = true := by
  refine TStep.rec (motive_1 := fun c => allIds c = [] → evalHere c = false ∧ noScopedEval c = true)
    (motive_2 := fun cs => allIdss cs = [] → evalHeres cs = false ∧ noScopedEvals cs = true)
    ?_ ?_ ?_ ?_ ?_ ?_ ?_ ?_ ?_ c
  · exact fun _ _ => ⟨rfl, rfl⟩
  · exact fun _ => ⟨rfl, rfl⟩
  · exact fun _ h => nomatch h
  · exact fun b _ h => ⟨rfl, List.isEmpty_iff.mpr h⟩
  · exact fun _ _ ih => ih
  · exact fun _ _ ih => ih
  · intro _ t he e iht ihe h
    obtain ⟨h1, h2⟩ := List.append_eq_nil_iff.mp h
    obtain ⟨t1, t2⟩ := iht h1
    cases he with
    | false => exact ⟨by rw [evalHere, t1]; rfl, by rw [noScopedEval, t2]; rfl⟩
    | true =>
      obtain ⟨e1, e2⟩ := ihe h2
      exact ⟨by rw [evalHere, t1, e1]; rfl, by rw [noScopedEval, t2, e2]; rfl⟩
  · exact fun _ => ⟨rfl, rfl⟩
  · intro c r ihc ihr h
    obtain ⟨h1, h2⟩ := List.append_eq_nil_iff.mp h
    obtain ⟨c1, c2⟩ := ihc h1
    obtain ⟨r1, r2⟩ := ihr h2
    exact ⟨by rw [evalHeres, c1, r1]; rfl, by rw [noScopedEvals, c2, r2]; rfl⟩

theorem evalHeres_of_allIdss_nil (cs : TSteps O) : allIdss cs = [] → evalHeres cs = false ∧ noScopedEvals cs = true :=
  evalHere_of_allIds_nil (.loopIter 0 cs)

/-! ### Control flow of the interpreter: go on after `Ok`, stop with anything else -/

/-- the rest runs only after `Ok` -/
def bindOk (p : TSt O × Res) (k : TSt O → TSt O × Res) : TSt O × Res :=
  match p with
  | (s1, .ok) => k s1
  | (s1, r) => (s1, r)

/-- what a scope or a branch does with the outcome of its body -/
def onOk (p : TSt O × Res) (a b : TSt O → TSt O) : TSt O × Res :=
  match p with
  | (s2, .ok) => (a s2, .ok)
  | (s2, r) => (b s2, r)

theorem bindOk_eq_ok {p : TSt O × Res} {k : TSt O → TSt O × Res} {s' : TSt O} (h : bindOk p k = (s', .ok)) :
    ∃ s1, p = (s1, .ok) ∧ k s1 = (s', .ok) := by
  obtain ⟨s1, r⟩ := p
  cases r
  case ok => exact ⟨s1, rfl, h⟩
  all_goals cases h

theorem allRegistered_false {reg ids : List String} {id : String} (hid : id ∈ ids) (hreg : reg.contains id = false) :
    allRegistered reg ids = false :=
  List.all_eq_false.mpr ⟨id, hid, by rw [hreg]; exact Bool.false_ne_true⟩

section
variable (f : Nat → O) (reg : List String) (fuel : Nat) (s : TSt O)

theorem execT_scope (body : TSteps O) : execT f reg (fuel + 1) (.scope body) s =
    if !allRegistered reg (reqIdss body) then (s, .required)
    else onOk (execsT f reg fuel body
        { s with counters := initLevel (evalHeres body) none :: s.counters,
                 iters := initLevel (loopHeres body) none :: s.iters, recs := s.recs ++ [.enter] })
      (fun s2 => addRec (dropLevel s2) .leave) dropLevel := rfl

theorem execT_branch (n : Nat) (thn : TSteps O) (hasElse : Bool) (els : TSteps O) :
    execT f reg (fuel + 1) (.branch n thn hasElse els) s =
    match visible s.counters with
    | none => (s, .exec)
    | some v =>
      if v < n then onOk (execsT f reg fuel thn (addRec s .thn)) (addRec · .join) id
      else if hasElse then onOk (execsT f reg fuel els (addRec s .els)) (addRec · .join) id
      else (addRec s .join, .ok) := rfl

theorem execsT_cons (c : TStep O) (rest : TSteps O) :
    execsT f reg (fuel + 1) (.cons c rest) s = bindOk (execT f reg fuel c s) (execsT f reg fuel rest) := rfl

theorem loopT_succ (kind : LoopKind) (bound : Nat) (body : TSteps O) :
    loopT f reg (fuel + 1) kind bound body s =
    match condValue kind s with
    | none => (s, .exec)
    | some v =>
      if v < bound then
        bindOk (execsT f reg fuel body (addRec s (.pass (visible s.counters)))) fun s2 =>
          match visible s2.iters with
          | none => (s2, .exec)
          | some _ => loopT f reg fuel kind bound body { s2 with iters := bump 1 s2.iters }
      else (addRec s (.exit (visible s.counters)), .ok) := rfl

end

/-! ### Two relations between the state before an execution and the state it leaves behind -/

/-- what an execution did to the ghost call log and to the counters -/
def Tracks (s s' : TSt O) : Prop := ∃ l : List Nat, s'.calls = s.calls ++ l ∧ s'.counters = bump l.length s.counters

theorem Tracks.of_eq {s s' : TSt O} (hc : s'.calls = s.calls) (hk : s'.counters = s.counters) : Tracks s s' :=
  ⟨[], by rw [hc, List.append_nil], hk.trans (bump_zero _).symm⟩

theorem Tracks.refl (s : TSt O) : Tracks s s := Tracks.of_eq rfl rfl

theorem Tracks.trans {s1 s2 s3 : TSt O} (h1 : Tracks s1 s2) (h2 : Tracks s2 s3) : Tracks s1 s3 := by
  obtain ⟨l1, c1, k1⟩ := h1
  obtain ⟨l2, c2, k2⟩ := h2
  exact ⟨l1 ++ l2, by rw [c2, c1, List.append_assoc], by rw [k2, k1, bump_bump, List.length_append]⟩

/-- the evaluator applications an execution added all name registered identifiers -/
def Applies (reg : List String) (s s' : TSt O) : Prop :=
  ∃ l : List String, s'.evalLog = s.evalLog ++ l ∧ ∀ id ∈ l, reg.contains id = true

theorem Applies.of_eq {reg : List String} {s s' : TSt O} (h : s'.evalLog = s.evalLog) : Applies reg s s' :=
  ⟨[], by rw [h, List.append_nil], fun _ h => nomatch h⟩

theorem Applies.refl (reg : List String) (s : TSt O) : Applies reg s s := Applies.of_eq rfl

theorem Applies.trans {reg : List String} {s1 s2 s3 : TSt O} (h1 : Applies reg s1 s2) (h2 : Applies reg s2 s3) :
    Applies reg s1 s3 := by
  obtain ⟨l1, c1, k1⟩ := h1
  obtain ⟨l2, c2, k2⟩ := h2
  exact ⟨l1 ++ l2, by rw [c2, c1, List.append_assoc], List.forall_mem_append.mpr ⟨k1, k2⟩⟩

/-- One walk of the evaluation step, whatever its outcome: a step whose evaluator is missing touches neither logs nor
counter, and where no counter is in sight (the panic) `bump` does nothing. -/
theorem evalT_spec (f : Nat → O) (reg : List String) (id : String) (s : TSt O) :
    Tracks s (evalT f reg id s).1 ∧ Applies reg s (evalT f reg id s).1 := by
  unfold evalT
  split
  · exact ⟨Tracks.of_eq rfl rfl, Applies.of_eq rfl⟩
  · rename_i p rest _
    split
    · exact ⟨Tracks.of_eq rfl rfl, Applies.of_eq rfl⟩
    · rename_i hreg
      have hreg : ∀ i ∈ [id], reg.contains i = true := by simpa using hreg
      split
      · exact ⟨⟨p.map (·.sol), rfl, (bump_of_visible_none _ _ ‹_›).symm⟩, [id], rfl, hreg⟩
      · exact ⟨⟨p.map (·.sol), rfl, by rw [List.length_map]⟩, [id], rfl, hreg⟩

/-- A relation between the state before and the state an execution leaves behind (whatever its result) that
is a preorder, is respected by the recording steps, and that the leaves and the scope bracket respect. -/
structure Walk (f : Nat → O) (reg : List String) (Q : TStep O → Bool) (Qs : TSteps O → Bool)
    (R : TSt O → TSt O → Prop) : Prop where
  refl : ∀ s, R s s
  trans : ∀ {s1 s2 s3}, R s1 s2 → R s2 s3 → R s1 s3
  /-- steps that touch neither what `R` looks at: records, `Iterations`, the population stack -/
  quiet : ∀ (s : TSt O) (st : List (List (Ind O))) (it : List (Option Nat)) (rc : List (TRec O)),
    R s { s with stack := st, iters := it, recs := rc }
  eval : ∀ id s, R s (evalT f reg id s).1
  /-- the body of a scope ran from the child registry `s1` to `s2`; the child is dropped -/
  scope : ∀ (body : TSteps O) (s s2 : TSt O), Q (.scope body) = true →
    R { s with counters := initLevel (evalHeres body) none :: s.counters,
               iters := initLevel (loopHeres body) none :: s.iters, recs := s.recs ++ [.enter] } s2 →
    R s (dropLevel s2)
  scopeQ : ∀ body, Q (.scope body) = true → Qs body = true
  loopIterQ : ∀ k body, Q (.loopIter k body) = true → Qs body = true
  loopEvalsQ : ∀ n body, Q (.loopEvals n body) = true → Qs body = true
  branchQ : ∀ n t he e, Q (.branch n t he e) = true → Qs t = true ∧ (he = true → Qs e = true)
  consQ : ∀ c r, Qs (.cons c r) = true → Q c = true ∧ Qs r = true

namespace Walk
variable {f : Nat → O} {reg : List String} {Q : TStep O → Bool} {Qs : TSteps O → Bool} {R : TSt O → TSt O → Prop}

theorem addRec (w : Walk f reg Q Qs R) (s : TSt O) (r : TRec O) : R s (addRec s r) := w.quiet s _ _ _

theorem bindOk (w : Walk f reg Q Qs R) {s : TSt O} {p : TSt O × Res} {k : TSt O → TSt O × Res}
    (h1 : R s p.1) (h2 : ∀ s1, R s1 (k s1).1) : R s (bindOk p k).1 := by
  obtain ⟨s1, r⟩ := p
  cases r
  case ok => exact w.trans h1 (h2 s1)
  all_goals exact h1

theorem onOk (w : Walk f reg Q Qs R) {s s1 : TSt O} {p : TSt O × Res} {a b : TSt O → TSt O}
    (h1 : R s1 p.1) (hb : ∀ s2, R s1 s2 → R s (b s2)) (ha : ∀ s2, R (b s2) (a s2)) : R s (onOk p a b).1 := by
  obtain ⟨s2, r⟩ := p
  cases r
  case ok => exact w.trans (hb s2 h1) (ha s2)
  all_goals exact hb s2 h1

/-- The interpreter respects every such relation. -/
theorem all (w : Walk f reg Q Qs R) (fuel : Nat) :
    (∀ (c : TStep O) (s : TSt O), Q c = true → R s (execT f reg fuel c s).1) ∧
    (∀ (cs : TSteps O) (s : TSt O), Qs cs = true → R s (execsT f reg fuel cs s).1) ∧
    (∀ (kind : LoopKind) (bound : Nat) (body : TSteps O) (s : TSt O), Qs body = true →
      R s (loopT f reg fuel kind bound body s).1) := by
  induction fuel with
  | zero => exact ⟨fun _ s _ => w.refl s, fun _ s _ => w.refl s, fun _ _ _ s _ => w.refl s⟩
  | succ fuel ih =>
    obtain ⟨ihC, ihS, ihL⟩ := ih
    refine ⟨fun c s hq => ?_, fun cs s hq => ?_, fun kind bound body s hq => ?_⟩
    · cases c with
      | push p => exact w.quiet s _ _ _
      | pop =>
        change R s (match s.stack with | [] => (_ : TSt O × Res) | _ :: _ => _).1
        split
        · exact w.refl s
        · exact w.quiet s _ _ _
      | eval id => exact w.eval id s
      | scope body =>
        rw [execT_scope]
        split
        · exact w.refl s
        · exact w.onOk (ihS body _ (w.scopeQ body hq)) (fun s2 h => w.scope body s s2 hq h) (fun _ => w.addRec _ _)
      | loopIter k body => exact ihL .iter k body s (w.loopIterQ k body hq)
      | loopEvals n body => exact ihL .evals n body s (w.loopEvalsQ n body hq)
      | branch n thn he els =>
        obtain ⟨qt, qe⟩ := w.branchQ n thn he els hq
        rw [execT_branch]
        split
        · exact w.refl s
        · split
          · exact w.onOk (w.trans (w.addRec s _) (ihS thn _ qt)) (fun _ h => h) (fun _ => w.addRec _ _)
          · split
            · exact w.onOk (w.trans (w.addRec s _) (ihS els _ (qe ‹_›))) (fun _ h => h) (fun _ => w.addRec _ _)
            · exact w.addRec s _
    · cases cs with
      | nil => exact w.refl s
      | cons c rest =>
        obtain ⟨qc, qr⟩ := w.consQ c rest hq
        rw [execsT_cons]
        exact w.bindOk (ihC c s qc) fun s1 => ihS rest s1 qr
    · rw [loopT_succ]
      split
      · exact w.refl s
      · split
        · refine w.bindOk (w.trans (w.addRec s _) (ihS body _ hq)) fun s2 => ?_
          split
          · exact w.refl s2
          · exact w.trans (w.quiet s2 _ _ _) (ihL kind bound body _ hq)
        · exact w.addRec s _

/-- …and so does a run, from the initialised state on (a run that `require` refuses executes nothing). -/
theorem run (w : Walk f reg Q Qs R) (fuel : Nat) {body : TSteps O} (s : TSt O) (hq : Qs body = true) :
    R (initT body s) (runT f reg fuel body s).1 := by
  unfold runT
  split
  · exact w.refl _
  · exact (w.all fuel).2.1 body _ hq

end Walk

/-! ### Only registered evaluators are ever applied -/

theorem applies_walk (f : Nat → O) (reg : List String) :
    Walk f reg (fun _ => true) (fun _ => true) (Applies reg) where
  refl := Applies.refl reg
  trans := Applies.trans
  quiet := fun _ _ _ _ => Applies.of_eq rfl
  eval := fun id s => (evalT_spec f reg id s).2
  scope := fun _ _ _ _ h => h.trans (Applies.of_eq rfl)
  scopeQ := fun _ _ => rfl
  loopIterQ := fun _ _ _ => rfl
  loopEvalsQ := fun _ _ _ => rfl
  branchQ := fun _ _ _ _ _ => ⟨rfl, fun _ => rfl⟩
  consQ := fun _ _ _ => ⟨rfl, rfl⟩

theorem execT_applies (f : Nat → O) (reg : List String) :
    ∀ (fuel : Nat) (c : TStep O) (s : TSt O), Applies reg s (execT f reg fuel c s).1 :=
  fun fuel c s => ((applies_walk f reg).all fuel).1 c s rfl

theorem loopT_applies (f : Nat → O) (reg : List String) :
    ∀ (fuel : Nat) (kind : LoopKind) (bound : Nat) (body : TSteps O) (s : TSt O),
      Applies reg s (loopT f reg fuel kind bound body s).1 :=
  fun fuel kind bound body s => ((applies_walk f reg).all fuel).2.2 kind bound body s rfl

/-! ### Counter and call log move together as long as no evaluation step sits in a scope -/

theorem tracks_walk (f : Nat → O) (reg : List String) :
    Walk f reg noScopedEval noScopedEvals (Tracks (O := O)) where
  refl := Tracks.refl
  trans := Tracks.trans
  quiet := fun _ _ _ _ => Tracks.of_eq rfl rfl
  eval := fun id s => (evalT_spec f reg id s).1
  scope := fun body s s2 hn ⟨l, c1, k1⟩ => by
    -- the scope got no counter of its own: the calls went to the caller's
    have hb := evalHeres_of_allIdss_nil body (List.isEmpty_iff.mp hn)
    refine ⟨l, c1, ?_⟩
    show s2.counters.tail = _
    rw [k1, hb.1]; rfl
  scopeQ := fun body hn => (evalHeres_of_allIdss_nil body (List.isEmpty_iff.mp hn)).2
  loopIterQ := fun _ _ h => h
  loopEvalsQ := fun _ _ h => h
  branchQ := fun _ _ he _ h => by
    rw [noScopedEval, Bool.and_eq_true] at h
    exact ⟨h.1, fun hhe => by simpa [hhe] using h.2⟩
  consQ := fun _ _ h => by rwa [noScopedEvals, Bool.and_eq_true] at h

theorem execT_tracks (f : Nat → O) (reg : List String) :
    ∀ (fuel : Nat) (c : TStep O) (s s' : TSt O), noScopedEval c = true → execT f reg fuel c s = (s', .ok) → Tracks s s' :=
  fun fuel c s s' hn h => by
    have := ((tracks_walk f reg).all fuel).1 c s hn
    rwa [h] at this

theorem loopT_tracks (f : Nat → O) (reg : List String) :
    ∀ (fuel : Nat) (kind : LoopKind) (bound : Nat) (body : TSteps O) (s s' : TSt O), noScopedEvals body = true →
      loopT f reg fuel kind bound body s = (s', .ok) → Tracks s s' :=
  fun fuel kind bound body s s' hn h => by
    have := ((tracks_walk f reg).all fuel).2.2 kind bound body s hn
    rwa [h] at this

theorem loopT_evals_exit (f : Nat → O) (reg : List String) (fuel : Nat) (n : Nat) (body : TSteps O) (s s' : TSt O)
    (h : loopT f reg fuel .evals n body s = (s', .ok)) : ∃ v, visible s'.counters = some v ∧ n ≤ v := by
  induction fuel generalizing s with
  | zero => cases h
  | succ fuel ih =>
    rw [loopT_succ] at h
    split at h
    · cases h
    · rename_i v hv
      split at h
      · obtain ⟨s2, _, h2⟩ := bindOk_eq_ok h
        split at h2
        · cases h2
        · exact ih _ h2
      · rename_i hlt
        cases h
        exact ⟨v, hv, Nat.le_of_not_lt hlt⟩

end MahfModel.EvalTree
