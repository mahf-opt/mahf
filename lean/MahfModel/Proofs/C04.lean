/- The `Vec` model of `Populations` is the plain stack under `abs = reverse`: a stack is `[]` or `r ++ [p]`, and one walk
through the operations (`step_spec`) compares the two. Core only. -/
import MahfModel.Model.PopStack
namespace MahfModel.PopStack

/-! Unfold `step` with `dsimp only [step]`; `simp only [step]` is slow to check. -/

@[elab_as_elim]
theorem concat_cases {motive : Stk → Prop} (nil : motive []) (concat : ∀ r p, motive (r ++ [p]))
    (s : Stk) : motive s := by
  rcases List.eq_nil_or_concat s with h | ⟨r, p, h⟩
  · exact h ▸ nil
  · rw [h, List.concat_eq_append]; exact concat r p

theorem vecPop_nil : vecPop [] = none := rfl

theorem vecPop_concat (r : Stk) (p : Pop) : vecPop (r ++ [p]) = some (p, r) := by
  simp [vecPop]

theorem vecPop_eq_none_iff (s : Stk) : vecPop s = none ↔ s = [] := by
  cases s using concat_cases with
  | nil => exact ⟨fun _ => rfl, fun _ => rfl⟩
  | concat r p => rw [vecPop_concat]; exact ⟨nofun, fun h => absurd h (by simp)⟩

theorem abs_concat (r : Stk) (p : Pop) : abs (r ++ [p]) = p :: abs r := by
  simp [abs]

theorem abs_nil : abs ([] : Stk) = [] := rfl

theorem abs_length (s : Stk) : (abs s).length = s.length := List.length_reverse

theorem abs_inj {s t : Stk} (h : abs s = abs t) : s = t := List.reverse_inj.mp h

theorem abs_abs (s : Stk) : abs (abs s) = s := List.reverse_reverse s

theorem abs_take_append (s x : Stk) (h : Nat) :
    abs (s.take h ++ x) = x.reverse ++ (abs s).drop (s.length - h) := by
  simp only [abs, List.reverse_append, List.reverse_take]

theorem tryPeek_eq (s : Stk) (d : Nat) : tryPeek s d = (abs s)[d]? := by
  unfold tryPeek abs
  by_cases h : d < s.length
  · rw [if_neg (by omega), if_neg (by omega), List.getElem?_reverse h]
  · rw [List.getElem?_eq_none (by rw [List.length_reverse]; omega)]
    dsimp only
    split
    · rfl
    · exact if_pos (by omega)

theorem tryPeek_eq_none_iff (s : Stk) (d : Nat) : tryPeek s d = none ↔ s.length ≤ d := by
  rw [tryPeek_eq, List.getElem?_eq_none_iff, abs_length]

/-- `k`-fold application. -/
def iter {α : Type} (f : α → α) : Nat → α → α
  | 0, a => a
  | k + 1, a => iter f k (f a)

/-- Rotating a head-is-top list left by one: the top goes to the bottom. -/
def rotL1 : List Pop → List Pop
  | [] => []
  | t :: r => r ++ [t]

theorem rotR1_concat (l : List Pop) (x : Pop) : rotR1 (l ++ [x]) = x :: l := by
  simp [rotR1]

theorem rotR1_nil : rotR1 [] = [] := rfl

theorem rotR1_reverse (l : List Pop) : (rotR1 l).reverse = rotL1 l.reverse := by
  cases l using concat_cases with
  | nil => rfl
  | concat l x => simp [rotR1_concat, rotL1]

theorem rotL1_length (l : List Pop) : (rotL1 l).length = l.length := by
  cases l <;> simp [rotL1]

theorem rotL1_iter (l : List Pop) (k : Nat) (h : k ≤ l.length) :
    iter rotL1 k l = l.drop k ++ l.take k := by
  induction k generalizing l with
  | zero => simp [iter]
  | succ k ih =>
    cases l with
    | nil => simp at h
    | cons t r =>
      have hk : k ≤ r.length := Nat.le_of_succ_le_succ h
      simp only [iter, rotL1]
      rw [ih _ (by rw [List.length_append]; exact Nat.le_add_right_of_le hk)]
      simp [List.drop_append, List.take_append, Nat.sub_eq_zero_of_le hk]

theorem specRot_eq (s : Spec) (n : Nat) : specRot s n = rotL1 (s.take n) ++ s.drop n := by
  unfold specRot
  cases h : s.take n with
  | nil => have := List.take_append_drop n s; rw [h] at this; exact this.symm
  | cons t r => rfl

theorem specRot_iter (s : Spec) (n k : Nat) (hn : n ≤ s.length) :
    iter (fun x => (specStep x (.rot n)).1) k s = iter rotL1 k (s.take n) ++ s.drop n := by
  induction k generalizing s with
  | zero => exact (List.take_append_drop n s).symm
  | succ k ih =>
    have h1 : (rotL1 (s.take n)).length = n := by
      rw [rotL1_length, List.length_take, Nat.min_eq_left hn]
    have hs : (specStep s (.rot n)).1 = rotL1 (s.take n) ++ s.drop n := by
      dsimp only [specStep]; rw [if_neg (Nat.not_lt.mpr hn), specRot_eq]
    simp only [iter]
    rw [hs, ih _ (by rw [List.length_append, h1]; exact Nat.le_add_right _ _), List.take_left' h1, List.drop_left' h1]

theorem rotate_none (s : Stk) (n : Nat) (h : s.length < n) : rotate s n = none := by
  simp [rotate, h]

theorem rotate_eq (s : Stk) (n : Nat) (h : n ≤ s.length) :
    ∃ s', rotate s n = some s' ∧ abs s' = rotL1 ((abs s).take n) ++ (abs s).drop n := by
  refine ⟨_, if_neg (Nat.not_lt.mpr h), ?_⟩
  rw [abs_take_append, rotR1_reverse, List.reverse_drop, Nat.sub_sub_self h]
  rfl

/-- Case analysis of a pop-process-push component, `Vec` model and plain stack at once: it keeps the lowest `h`
populations; on success `h = len - takes` and the `puts` new ones are on top, on failure nothing is. -/
@[elab_as_elim]
theorem cFrame_cases {motive : Stk × Out → Spec × Out → Prop} (s : Stk) (need takes puts : Nat) (w : Option FrameWit)
    (put : ∀ new : List Pop, need ≤ s.length → takes ≤ s.length → new.length = puts →
      motive (s.take (s.length - takes) ++ new.reverse, .put new) (new ++ (abs s).drop takes, .put new))
    (panic : ∀ h, s.length - takes ≤ h → h ≤ s.length →
      motive (s.take h, .panicH h) ((abs s).drop (s.length - h), .panicH h))
    (err : ∀ h, need ≤ s.length → s.length - takes ≤ h → h ≤ s.length →
      motive (s.take h, .errH h) ((abs s).drop (s.length - h), .errH h)) :
    motive (step s (.cFrame need takes puts w)) (specStep (abs s) (.cFrame need takes puts w)) := by
  have untouched : motive (s, .panicH s.length) (abs s, .panicH s.length) := by
    have := panic s.length (Nat.sub_le _ _) (Nat.le_refl _)
    rwa [List.take_length, Nat.sub_self, List.drop_zero] at this
  dsimp only [step, specStep]
  simp only [abs_length]
  by_cases hf : frameFits s.length need takes = true
  · obtain ⟨hn, ht⟩ : need ≤ s.length ∧ takes ≤ s.length := by simpa [frameFits] using hf
    have canon : motive (frameCanon s takes puts) (specFrameCanon (abs s) takes puts) := by
      have := put _ hn ht (List.length_replicate (n := puts) (a := ([] : Pop)))
      rwa [List.reverse_replicate] at this
    rw [if_pos hf, if_pos hf]
    cases w with
    | none => exact canon
    | some w =>
      cases w with
      | ok new =>
        dsimp only
        by_cases hl : new.length = puts
        · rw [if_pos hl, if_pos hl]; exact put new hn ht hl
        · rw [if_neg hl, if_neg hl]; exact canon
      | fail pn h =>
        dsimp only
        by_cases hh : s.length - takes ≤ h ∧ h ≤ s.length
        · rw [if_pos hh, if_pos hh]
          cases pn
          · exact err h hn hh.1 hh.2
          · exact panic h hh.1 hh.2
        · rw [if_neg hh, if_neg hh]; exact canon
  · rw [if_neg hf, if_neg hf]
    cases w with
    | none => exact untouched
    | some w =>
      cases w with
      | ok new => exact untouched
      | fail pn h =>
        cases pn with
        | false => exact untouched
        | true =>
          dsimp only
          by_cases hh : s.length - takes ≤ h ∧ h ≤ s.length
          · rw [if_pos hh, if_pos hh]; exact panic h hh.1 hh.2
          · rw [if_neg hh, if_neg hh]; exact untouched

/-- One walk through the operations: the step is the plain stack's, and a failed access changes nothing. -/
theorem step_spec (s : Stk) (op : Op) :
    abs (step s op).1 = (specStep (abs s) op).1 ∧ (step s op).2 = (specStep (abs s) op).2 ∧
    ((step s op).2 = .none ∨ (step s op).2 = .panic → (step s op).1 = s) := by
  cases op with
  | push p => exact ⟨abs_concat s p, rfl, fun h => h.elim nofun nofun⟩
  | reset => exact ⟨rfl, rfl, fun h => h.elim nofun nofun⟩
  | len => exact ⟨rfl, congrArg Out.nat (abs_length s).symm, fun _ => rfl⟩
  | empty => exact ⟨rfl, congrArg Out.bool List.isEmpty_reverse.symm, fun _ => rfl⟩
  | pop | tryPop | cur | getCur | cClear | cDup | cEval =>
    cases s using concat_cases with
    | nil => exact ⟨rfl, rfl, fun _ => rfl⟩
    | concat r p =>
      dsimp only [step, specStep]
      simp only [vecPop_concat, abs_concat, List.getLast?_concat, reduceCtorEq, or_self, false_imp_iff, and_self]
  | edit e | tryEdit e =>
    cases s using concat_cases with
    | nil => exact ⟨rfl, rfl, fun _ => rfl⟩
    | concat r p =>
      dsimp only [step, specStep]
      simp only [vecPop_concat, abs_concat]
      cases applyEdit e p <;> simp only [abs_concat, reduceCtorEq, or_self, false_imp_iff, implies_true, and_self]
  | peek d | tryPeek d =>
    dsimp only [step, specStep]
    rw [tryPeek_eq]
    cases (abs s)[d]? <;> exact ⟨rfl, rfl, fun _ => rfl⟩
  | rot n | cRot n =>
    dsimp only [step, specStep]
    rw [abs_length]
    by_cases h : s.length < n
    · simp only [rotate_none s n h, h, if_true, implies_true, and_self]
    · obtain ⟨s', h1, h2⟩ := rotate_eq s n (Nat.le_of_not_lt h)
      simp only [h1, h2, specRot_eq, h, if_false, reduceCtorEq, or_self, false_imp_iff, and_self]
  | cIleave w =>
    cases s using concat_cases with
    | nil => exact ⟨rfl, rfl, fun _ => rfl⟩
    | concat r p =>
      cases r using concat_cases with
      | nil =>
        dsimp only [step, specStep]
        simp only [vecPop_concat, vecPop_nil, abs_concat, abs_nil, List.length_append, List.length_nil,
          List.length_singleton]
        split <;> exact ⟨rfl, rfl, fun h => h.elim nofun nofun⟩
      | concat r q =>
        dsimp only [step, specStep]
        simp only [vecPop_concat, abs_concat, reduceCtorEq, or_self, false_imp_iff, and_self]
  | cSplit w ws =>
    cases s using concat_cases with
    | nil => exact ⟨rfl, rfl, fun _ => rfl⟩
    | concat r p =>
      dsimp only [step, specStep]
      simp only [vecPop_concat, abs_concat, List.length_append, List.length_cons, List.length_nil, abs_length]
      cases splitPop p ws with
      | none => dsimp only; split <;> simp only [abs_concat, reduceCtorEq, or_self, false_imp_iff, and_self]
      | some lu => simp only [abs_concat, reduceCtorEq, or_self, false_imp_iff, and_self]
  | cFrame need takes puts w =>
    refine cFrame_cases s need takes puts w ?_ ?_ ?_
    · exact fun new _ ht _ => ⟨by rw [abs_take_append, List.reverse_reverse, Nat.sub_sub_self ht], rfl,
        fun h => h.elim nofun nofun⟩
    · exact fun h _ _ => ⟨List.reverse_take, rfl, fun h => h.elim nofun nofun⟩
    · exact fun h _ _ _ => ⟨List.reverse_take, rfl, fun h => h.elim nofun nofun⟩

theorem step_refines (s : Stk) (op : Op) :
    abs (step s op).1 = (specStep (abs s) op).1 ∧ (step s op).2 = (specStep (abs s) op).2 :=
  ⟨(step_spec s op).1, (step_spec s op).2.1⟩

theorem step_eq (s : Stk) (op : Op) : step s op = (abs (specStep (abs s) op).1, (specStep (abs s) op).2) :=
  Prod.ext (by rw [← (step_refines s op).1, abs_abs]) (step_refines s op).2

theorem step_cRot_fst (s : Stk) (n : Nat) : (step s (.cRot n)).1 = (step s (.rot n)).1 := by
  dsimp only [step]
  split
  · next h => rw [rotate_none s n h]
  · cases rotate s n <;> rfl

theorem step_rot_snd (s : Stk) (n : Nat) : (step s (.rot n)).2 = if s.length < n then .panic else .ok := by
  rw [(step_refines s (.rot n)).2]; dsimp only [specStep]; rw [abs_length]; split <;> rfl

theorem step_cRot_snd (s : Stk) (n : Nat) : (step s (.cRot n)).2 = if s.length < n then .err else .ok := by
  rw [(step_refines s (.cRot n)).2]; dsimp only [specStep]; rw [abs_length]; split <;> rfl

theorem iter_refines (op : Op) (k : Nat) (s : Stk) :
    abs (iter (fun x => (step x op).1) k s) = iter (fun x => (specStep x op).1) k (abs s) := by
  induction k generalizing s with
  | zero => rfl
  | succ k ih => simp only [iter]; rw [ih, (step_refines s op).1]

theorem run_refines (s : Stk) (ops : List Op) :
    run s ops = (abs (specRun (abs s) ops).1, (specRun (abs s) ops).2) := by
  induction ops generalizing s with
  | nil => exact Prod.ext (abs_abs s).symm rfl
  | cons op ops ih => simp only [run, specRun]; rw [step_eq, ih, abs_abs]

end MahfModel.PopStack
