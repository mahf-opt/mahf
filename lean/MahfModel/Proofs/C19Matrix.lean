/- C19 (ant colony): the pheromone matrix. Reads inside a well-formed matrix, what `PM.new` builds, and the entrywise map
`PM.mapE` in which `Proofs/C19Update.lean` states the updates. Core only. -/
import MahfModel.Model.Aco
namespace MahfModel.Aco

variable {F : Type}

theorem wf_iff (pm : PM F) : pm.wf = true ↔ pm.inner.length = pm.dim * pm.dim := by
  simp [PM.wf]

theorem row_le {d i : Nat} (hi : i < d) : i * d + d ≤ d * d := by
  have : (i + 1) * d ≤ d * d := Nat.mul_le_mul_right d hi
  rw [Nat.add_mul] at this
  omega

theorem idx_lt {d i j : Nat} (hi : i < d) (hj : j < d) : i * d + j < d * d :=
  Nat.lt_of_lt_of_le (Nat.add_lt_add_left hj _) (row_le hi)

theorem idx_div {d i j : Nat} (hj : j < d) : (i * d + j) / d = i := by
  rw [Nat.mul_comm, Nat.mul_add_div (by omega), Nat.div_eq_of_lt hj, Nat.add_zero]

theorem get?_eq {pm : PM F} (hwf : pm.wf = true) {i j : Nat} (hi : i < pm.dim) (hj : j < pm.dim) :
    pm.get? i j = pm.inner[i * pm.dim + j]? := by
  have hrow : i * pm.dim + pm.dim ≤ pm.inner.length := (wf_iff pm).mp hwf ▸ row_le hi
  simp only [PM.get?, PM.row?, if_pos hi, if_pos hrow, List.getElem?_take, if_pos hj, List.getElem?_drop]

theorem get?_mem {pm : PM F} {i j : Nat} {x : F} (h : pm.get? i j = some x) : x ∈ pm.inner := by
  unfold PM.get? at h
  split at h
  · rename_i r hr  -- the row was read
    unfold PM.row? at hr
    split at hr
    · split at hr
      · cases hr
        exact List.mem_of_mem_drop (List.mem_of_mem_take (List.mem_of_getElem? h))
      · cases hr  -- slice beyond `inner`
    · cases hr  -- `assert!(index < dimension)` fails
  · cases h  -- no row

theorem getD_of_get? {pm : PM F} {i j : Nat} {x d : F} (h : pm.get? i j = some x) : pm.getD i j d = x := by
  simp [PM.getD, h]

theorem get?_getD {pm : PM F} (hwf : pm.wf = true) {i j : Nat} (hi : i < pm.dim) (hj : j < pm.dim) (d : F) :
    pm.get? i j = some (pm.getD i j d) := by
  rw [PM.getD, get?_eq hwf hi hj, List.getElem?_eq_getElem ((wf_iff pm).mp hwf ▸ idx_lt hi hj)]; rfl

theorem getD_mem {pm : PM F} (hwf : pm.wf = true) {i j : Nat} (hi : i < pm.dim) (hj : j < pm.dim) (d : F) :
    pm.getD i j d ∈ pm.inner :=
  get?_mem (get?_getD hwf hi hj d)

theorem new_wf (n : Nat) (v : F) : (PM.new n v).wf = true := by simp [PM.new, PM.wf]

theorem new_mem (n : Nat) (v : F) {x : F} (h : x ∈ (PM.new n v).inner) : x = v :=
  List.eq_of_mem_replicate h

/-- The matrix with `f i j` applied to entry `(i, j)`. Every stage of the pheromone updates is one of these; they
compose by `mapE_mapE`, and `mapE_spec` reads the result entry by entry. -/
def PM.mapE (pm : PM F) (f : Nat → Nat → F → F) : PM F :=
  { pm with inner := pm.inner.mapIdx fun k => f (k / pm.dim) (k % pm.dim) }

theorem mapE_wf (pm : PM F) (f : Nat → Nat → F → F) : (pm.mapE f).wf = pm.wf := by
  simp only [PM.wf, PM.mapE, List.length_mapIdx]

theorem mapE_mapE (pm : PM F) (f g : Nat → Nat → F → F) :
    (pm.mapE f).mapE g = pm.mapE fun i j x => g i j (f i j x) := by
  simp only [PM.mapE, List.mapIdx_mapIdx]; rfl

theorem mapE_id (pm : PM F) : pm.mapE (fun _ _ x => x) = pm :=
  congrArg (PM.mk pm.dim) (List.mapIdx_eq_iff.mpr fun _ => Option.map_id'.symm)

theorem get?_mapE {pm : PM F} (hwf : pm.wf = true) (f : Nat → Nat → F → F) {i j : Nat} (hi : i < pm.dim)
    (hj : j < pm.dim) : (pm.mapE f).get? i j = (pm.get? i j).map (f i j) := by
  rw [get?_eq ((mapE_wf pm f).trans hwf) (by exact hi) (by exact hj), get?_eq hwf hi hj]
  simp only [PM.mapE, List.getElem?_mapIdx, idx_div hj, Nat.mul_add_mod_of_lt hj]

theorem mapE_spec {pm : PM F} (hwf : pm.wf = true) (f : Nat → Nat → F → F) (d : F) :
    (pm.mapE f).dim = pm.dim ∧ (pm.mapE f).wf = true ∧
      ∀ i j, i < pm.dim → j < pm.dim → (pm.mapE f).get? i j = some (f i j (pm.getD i j d)) :=
  ⟨rfl, (mapE_wf pm f).trans hwf, fun i j hi hj => by
    rw [get?_mapE hwf f hi hj, get?_getD hwf hi hj d]; rfl⟩

/-- `MulAssign` and the clamp stage: the same function on every element of `inner`. -/
theorem map_eq_mapE (pm : PM F) (g : F → F) : { pm with inner := pm.inner.map g } = pm.mapE fun _ _ => g :=
  congrArg (PM.mk pm.dim) (List.mapIdx_eq_iff.mpr fun _ => List.getElem?_map).symm

theorem add?_eq_mapE [Add F] {pm : PM F} (hwf : pm.wf = true) {a b : Nat} (ha : a < pm.dim) (hb : b < pm.dim)
    (δ : F) : pm.add? a b δ = some (pm.mapE fun i j x => if a = i ∧ b = j then x + δ else x) := by
  have hx := get?_getD hwf ha hb δ
  rw [PM.add?, hx]
  rw [get?_eq hwf ha hb] at hx
  simp only [PM.mapE, Option.some.injEq, PM.mk.injEq, true_and]
  refine (List.mapIdx_eq_iff.mpr fun k => ?_).symm
  rw [List.getElem?_set]
  split
  · subst_vars  -- the entry written
    rw [if_pos (List.getElem?_eq_some_iff.mp hx).1, hx, Option.map_some, idx_div hb, Nat.mul_add_mod_of_lt hb,
      if_pos ⟨rfl, rfl⟩]
  · rename_i hk  -- any other position of `inner`
    cases pm.inner[k]? with
    | none => rfl
    | some y =>
      rw [Option.map_some, if_neg fun h => hk (by rw [h.1, h.2]; exact Nat.div_add_mod' k pm.dim)]

end MahfModel.Aco
