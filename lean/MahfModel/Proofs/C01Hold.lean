/- C01 / C02: `State::holding::<k>` around an arbitrary body. The `.hold` arms of `execStmt` (`Model/Borrow.lean`) and of
`execHStmt` (`Model/RegistryH.lean`) are one function `holdingWith` of the body's runner; what the two edits `heldOut` /
`putBack` keep, and what `holding` finds when a body that kept the column of `Marker<k>` is done, is said once for both. -/
import MahfModel.Model.RegistryH
import MahfModel.Proofs.C01Run
import MahfModel.Proofs.C01Nodup
namespace MahfModel.RegistryH
open MahfModel.Registry MahfModel.Borrow

theorem inv_heldOut (r : Reg) (i : Nat) (k : Key) (h : Inv r) : Inv (heldOut r i k) :=
  inv_erase_at _ i k (inv_put_at r i (markerOf k) 0 h)

theorem inv_putBack (r : Reg) (j : Nat) (k : Key) (v : Nat) (h : Inv r) : Inv (putBack r j k v) :=
  inv_erase_at _ j _ (inv_put_at r j k v h)

theorem nodupKeys_heldOut (r : Reg) (i : Nat) (k : Key) (h : nodupKeys r) : nodupKeys (heldOut r i k) :=
  nodupKeys_erase_at _ i k (nodupKeys_put_at r i _ _ h)

theorem nodupKeys_putBack (r : Reg) (j : Nat) (k : Key) (v : Nat) (h : nodupKeys r) : nodupKeys (putBack r j k v) :=
  nodupKeys_erase_at _ j _ (nodupKeys_put_at r j k _ h)

theorem vcol_heldOut (r : Reg) (i : Nat) (k q : Key) (hk : k ≠ q) (hmk : markerOf k ≠ q) :
    vcol (heldOut r i k) q = vcol r q := by
  simp only [heldOut]
  rw [vcol_erase_at _ i k q hk, vcol_put_at _ i _ q _ hmk]

theorem vcol_putBack (r : Reg) (j : Nat) (k q : Key) (v : Nat) (hk : k ≠ q) (hmk : markerOf k ≠ q) :
    vcol (putBack r j k v) q = vcol r q := by
  simp only [putBack]
  rw [vcol_erase_at _ j _ q hmk, vcol_put_at _ j k q _ hk]

theorem marker_ne (k : Key) : markerOf k ≠ k := by
  induction k with
  | ty n => intro h; cases h
  | marker k ih => intro h; simp only [markerOf] at *; exact ih (Key.marker.inj h)

theorem scopeAt_heldOut (r : Reg) (i : Nat) (k : Key) (hi : i < r.length) (j : Nat) :
    scopeAt (heldOut r i k) j =
      if j = i then ((scopeAt r i).put (markerOf k) (fresh 0)).erase k else scopeAt r j := by
  rw [heldOut, modifyAt_modifyAt, scopeAt_modifyAt r i j _ hi]

theorem scopeAt_putBack (r : Reg) (i : Nat) (k : Key) (v : Nat) (hi : i < r.length) (j : Nat) :
    scopeAt (putBack r i k v) j =
      if j = i then ((scopeAt r i).put k (fresh v)).erase (markerOf k) else scopeAt r j := by
  rw [putBack, modifyAt_modifyAt, scopeAt_modifyAt r i j _ hi]

/-- `State::holding::<k>` around an arbitrary body `run`. -/
def holdingWith (run : Reg → Reg × List Out) (r : Reg) (k : Key) (d : Nat) (ok : Bool) : Reg × List Out :=
  match find r k with
  | none => (r, [.err .notFound])
  | some i =>
    match cellAt r i k with
    | none => (r, [.err .notFound])
    | some c =>
      match find (run (heldOut r i k)).1 (markerOf k) with
      | none => ((run (heldOut r i k)).1, (run (heldOut r i k)).2 ++ [.err .notFound])
      | some j => (putBack (run (heldOut r i k)).1 j k (c.val + d), (run (heldOut r i k)).2 ++ [resOut ok])

theorem execHStmt_hold (r : Reg) (k : Key) (d : Nat) (ok : Bool) (body : HProg) :
    execHStmt r (.hold k d ok body) = holdingWith (execHProg · body) r k d ok := by
  rw [execHStmt]; rfl

theorem execStmt_hold (r : Reg) (k : Key) (d : Nat) (ok : Bool) (body : Prog) :
    execStmt r (.hold k d ok body) = holdingWith (execProg · body) r k d ok := by
  rw [execStmt]; rfl

/-- What `r` has, the body's result has and putting back keeps, the result of `holding::<k>` has. -/
theorem holdingWith_keeps (P : Reg → Prop) (run : Reg → Reg × List Out) (r : Reg) (k : Key) (d : Nat) (ok : Bool)
    (h : P r) (hrun : ∀ i, P (run (heldOut r i k)).1) (hback : ∀ r' j v, P r' → P (putBack r' j k v)) :
    P (holdingWith run r k d ok).1 := by
  unfold holdingWith
  split
  · exact h
  · split
    · exact h
    · split
      · exact hrun _
      · exact hback _ _ _ (hrun _)

/-- What `holding::<k>` leaves when its body is done, given only that the body kept the column of `Marker<k>`: the
marker is found in the scope the value was taken from, so the outcomes are the body's followed by the body's own
result, the chain has its old height, `k` is back in that scope with the value the body left, no `Marker<k>` is left
anywhere, and every other cell is as the body left it. -/
theorem holdingWith_putBack (run : Reg → Reg × List Out) (r : Reg) (k : Key) (d : Nat) (ok : Bool) (i : Nat) (c : Cell)
    (hf : find r k = some i) (hc : cellAt r i k = some c) (hnm : ∀ j, (scopeAt r j).has (markerOf k) = false)
    (hframe : vcol (run (heldOut r i k)).1 (markerOf k) = vcol (heldOut r i k) (markerOf k)) :
    (holdingWith run r k d ok).2 = (run (heldOut r i k)).2 ++ [resOut ok] ∧
    (holdingWith run r k d ok).1.length = r.length ∧
    cellAt (holdingWith run r k d ok).1 i k = some (fresh (c.val + d)) ∧
    (∀ j, (scopeAt (holdingWith run r k d ok).1 j).has (markerOf k) = false) ∧
    (∀ j q, ¬ (j = i ∧ (q = k ∨ q = markerOf k)) →
      cellAt (holdingWith run r k d ok).1 j q = cellAt (run (heldOut r i k)).1 j q) := by
  have hi := find_lt r k i hf
  have hmk := marker_ne k
  have hs2 := scopeAt_heldOut r i k hi
  have hlen : (heldOut r i k).length = r.length := by rw [heldOut, modifyAt_length, modifyAt_length]
  simp only [holdingWith, hf, hc]
  generalize run (heldOut r i k) = out at hframe ⊢
  obtain ⟨r3, outs⟩ := out
  have hfind : find r3 (markerOf k) = some i := by
    rw [find_of_vcol _ _ _ hframe]
    refine (find_eq_some_iff _ _ i).mpr ⟨hlen ▸ hi, ?_, fun j hj => ?_⟩
    · rw [hs2 i]; simp [Scope.has, Scope.get?_erase, Scope.get?_put, hmk]
    · rw [hs2 j]; simp [Nat.ne_of_lt hj, hnm j]
  have hi3 : i < r3.length := find_lt r3 _ i hfind
  have hlen3 : r3.length = r.length := by
    have := congrArg List.length hframe
    rwa [vcol_length, vcol_length, hlen] at this
  have hs3 := scopeAt_putBack r3 i k (c.val + d) hi3
  simp only [hfind]
  refine ⟨trivial, by rw [putBack, modifyAt_length, modifyAt_length, hlen3], ?_, fun j => ?_, fun j q hjq => ?_⟩
  · rw [cellAt, hs3 i]; simp [Scope.get?_erase, Scope.get?_put, Ne.symm hmk]
  · rw [hs3 j]
    split
    · simp [Scope.has, Scope.get?_erase]
    · rename_i hj
      rw [has_of_vcol, hframe, ← has_of_vcol, hs2 j]; simp [hj, hnm j]
  · rw [cellAt, hs3 j]
    split
    · rename_i hj
      have a1 : ¬ q = markerOf k := fun h => hjq ⟨hj, Or.inr h⟩
      have a2 : ¬ q = k := fun h => hjq ⟨hj, Or.inl h⟩
      simp [Scope.get?_erase, Scope.get?_put, a1, a2, hj, cellAt]
    · rfl

end MahfModel.RegistryH
