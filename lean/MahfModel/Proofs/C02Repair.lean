/- C02 — the PROPOSED repair of `State::holding` (`Model/BorrowRepair.lean`) refines the abstract machine for
every body, including nested holdings of the same type. -/
import MahfModel.Model.BorrowRepair
import MahfModel.Proofs.C01Run
namespace MahfModel.Borrow
open MahfModel.Registry

mutual
  /-- Scopes are opened by `with_inner_state` only (no raw `into_child` / `into_parent` on the state). -/
  def Stmt.flat : Stmt → Prop
    | .op o => ROp.flat o = true
    | .hold _ _ _ body => Prog.flat body
    | .inner _ body => Prog.flat body
  def Prog.flat : Prog → Prop
    | .nil => True
    | .cons s rest => Stmt.flat s ∧ Prog.flat rest
end

/-- The scope `i` levels in is the scope `n - 1 - i` levels up from the root, and back. -/
theorem level_index {n i : Nat} (hi : i < n) : n - 1 - i < n ∧ n - 1 - (n - 1 - i) = i :=
  ⟨Nat.sub_one_sub_lt_of_lt hi, Nat.sub_sub_self (Nat.le_sub_one_of_lt hi)⟩

theorem execStmtFix_hold (r : Reg) (k : Key) (d : Nat) (ok : Bool) (body : Prog) (i : Nat) (c : Cell)
    (hf : find r k = some i) (hc : cellAt r i k = some c)
    (hlen : (execProgFix (modifyAt r i (·.erase k)) body).1.length = r.length) :
    execStmtFix r (.hold k d ok body) =
      (modifyAt (execProgFix (modifyAt r i (·.erase k)) body).1 i (·.put k (fresh (c.val + d))),
        (execProgFix (modifyAt r i (·.erase k)) body).2 ++ [resOut ok]) := by
  obtain ⟨hlt, hidx⟩ := level_index (find_lt r k i hf)
  simp only [execStmtFix, hf, hc, hlen, hlt, if_true, hidx]

theorem specExecStmt_hold (sp : Spec) (k : Key) (d : Nat) (ok : Bool) (body : Prog) (i v : Nat)
    (hd : sp.depthOf k = some i) (hl : sp.lookup k = some v) (hi : i < sp.length)
    (hlen : (specExecProg (modifyAt sp i (fun m : PMap => m.set k none)) body).1.length = sp.length) :
    specExecStmt sp (.hold k d ok body) =
      (modifyAt (specExecProg (modifyAt sp i (fun m : PMap => m.set k none)) body).1 i
          (fun m : PMap => m.set k (some (v + d))),
        (specExecProg (modifyAt sp i (fun m : PMap => m.set k none)) body).2 ++ [resOut ok]) := by
  simp only [specExecStmt, hd, hl, hlen, (level_index hi).2]

mutual
  theorem execStmtFix_refines (s : Stmt) (r : Reg) (h : Inv r) (hf : Stmt.flat s) :
      Inv (execStmtFix r s).1 ∧ (execStmtFix r s).2 = (specExecStmt (abs r) s).2 ∧
        abs (execStmtFix r s).1 = (specExecStmt (abs r) s).1 ∧ (execStmtFix r s).1.length = r.length := by
    cases s with
    | op o =>
      simp only [Stmt.flat] at hf
      obtain ⟨h1, h2, h3⟩ := step_refines r o h
      simp only [execStmtFix, specExecStmt]
      exact ⟨h1, by rw [h2], h3, (step_flat r o h hf).1⟩
    | hold k d ok body =>
      simp only [Stmt.flat] at hf
      rcases resolve r k with ⟨hfind, _, hd, _⟩ | ⟨i, c, hfind, hi, hc, hl, hd, _⟩
      · simp only [execStmtFix, specExecStmt, hfind, hd]
        exact ⟨h, trivial, trivial, trivial⟩
      · obtain ⟨i1, i2, i3, i4⟩ := execProgFix_refines body (modifyAt r i (·.erase k)) (inv_erase_at r i k h) hf
        rw [abs_erase_at] at i2 i3
        rw [modifyAt_length] at i4
        rw [execStmtFix_hold r k d ok body i c hfind hc i4,
          specExecStmt_hold (abs r) k d ok body i c.val hd hl (by rw [abs_length]; exact hi)
            (by rw [← i3, abs_length, abs_length, i4])]
        exact ⟨inv_put_at _ i k _ i1, by rw [i2], by rw [abs_put_at, i3]; rfl, by rw [modifyAt_length, i4]⟩
    | inner ok body =>
      simp only [Stmt.flat] at hf
      obtain ⟨i1, i2, i3, i4⟩ := execProgFix_refines body (intoChild r) (inv_intoChild r h) hf
      rw [show abs (intoChild r) = PMap.empty :: abs r from rfl] at i2 i3
      simp only [execStmtFix, specExecStmt]
      rw [← i2, ← i3]
      rcases intoParent_cases _ i1 with ⟨c, s, p, hr, hip, hI⟩ | ⟨c, hr, hip⟩ <;> rw [hip, hr]
      · exact ⟨hI, rfl, rfl, Nat.succ.inj (by rw [hr] at i4; exact i4)⟩
      · rw [hr] at i4
        exact absurd (Nat.succ.inj i4).symm (fun h0 => h.1 (List.eq_nil_of_length_eq_zero h0))
  theorem execProgFix_refines (p : Prog) (r : Reg) (h : Inv r) (hf : Prog.flat p) :
      Inv (execProgFix r p).1 ∧ (execProgFix r p).2 = (specExecProg (abs r) p).2 ∧
        abs (execProgFix r p).1 = (specExecProg (abs r) p).1 ∧ (execProgFix r p).1.length = r.length := by
    cases p with
    | nil => exact ⟨h, rfl, rfl, rfl⟩
    | cons s rest =>
      simp only [Prog.flat] at hf
      obtain ⟨h1, h2, h3, h4⟩ := execStmtFix_refines s r h hf.1
      obtain ⟨i1, i2, i3, i4⟩ := execProgFix_refines rest _ h1 hf.2
      simp only [execProgFix, specExecProg]
      rw [← h3, ← h2]
      exact ⟨i1, by rw [i2], i3, by rw [i4, h4]⟩
end

end MahfModel.Borrow
