/-
C03 — a scope whose body inserts nothing is transparent (`srun_push`); a condition sees only the trace
(`condEval_setReg`). The relation `Sk` (an empty scope inserted below `d` scopes), which `srun_push` does not use, closes
the module with its two lemmas.
-/
import MahfModel.Proofs.C03Run
namespace MahfModel.Config

/-! ### A condition sees only the trace -/

theorem cbind_setReg {x x' : St × CRes} {k : Bool → St → St × CRes} {r : Reg}
    (hx : x' = ({ x.1 with reg := r }, x.2))
    (hk : ∀ b σ1, k b { σ1 with reg := r } = ({ (k b σ1).1 with reg := r }, (k b σ1).2)) :
    cbind x' k = ({ (cbind x k).1 with reg := r }, (cbind x k).2) := by
  subst hx
  obtain ⟨σ1, b | _⟩ := x
  · exact hk b σ1
  · rfl

theorem condEval_setReg (s : Script) (c : Cond) : ∀ (σ : St) (r : Reg),
    condEval s c { σ with reg := r } = ({ (condEval s c σ).1 with reg := r }, (condEval s c σ).2) := by
  induction c using Cond.ind with
  | leaf id => exact fun σ r => by simp only [condEval, evalLeaf]; split <;> rfl
  | not c ih =>
    intro σ r
    rw [condEval_not, condEval_not]; exact cbind_setReg (ih σ r) fun _ _ => rfl
  | all_nil | any_nil => exact fun _ _ => rfl
  | all_cons c cs ihc ihcs =>
    intro σ r
    rw [condEval_all_cons, condEval_all_cons]
    exact cbind_setReg (ihc σ r) fun _ σ1 => cbind_setReg (ihcs σ1 r) fun _ _ => rfl
  | any_cons c cs ihc ihcs =>
    intro σ r
    rw [condEval_any_cons, condEval_any_cons]
    exact cbind_setReg (ihc σ r) fun _ σ1 => cbind_setReg (ihcs σ1 r) fun _ _ => rfl

theorem evalAll_setReg (s : Script) : ∀ (cs : Conds) (σ : St) (r : Reg),
      evalAll s cs { σ with reg := r } = ({ (evalAll s cs σ).1 with reg := r }, (evalAll s cs σ).2) :=
  fun cs => condEval_setReg s (.all cs)

theorem evalAny_setReg (s : Script) : ∀ (cs : Conds) (σ : St) (r : Reg),
      evalAny s cs { σ with reg := r } = ({ (evalAny s cs σ).1 with reg := r }, (evalAny s cs σ).2) :=
  fun cs => condEval_setReg s (.any cs)

/-! ### A program that inserts nothing commutes with an empty scope on top of the registry -/

/-- An outcome with an empty scope on top of its registry. -/
def pushR (x : St × Res) : St × Res := (push x.1, x.2)

theorem andThen_push {x : St × Res} {k k' : St → St × Res} (hk : ∀ σ, k (push σ) = pushR (k' σ)) :
    andThen (pushR x) k = pushR (andThen x k') := by
  obtain ⟨σ, r⟩ := x
  cases r
  · exact hk σ
  all_goals rfl

theorem cthen_push {x : St × CRes} {k k' : Bool → St → St × Res} (hk : ∀ b σ, k b (push σ) = pushR (k' b σ)) :
    cthen (push x.1, x.2) k = pushR (cthen x k') := by
  obtain ⟨σ, b | _⟩ := x
  · exact hk b σ
  · rfl

theorem condEval_push (s : Script) (c : Cond) (σ : St) :
    condEval s c (push σ) = (push (condEval s c σ).1, (condEval s c σ).2) := by
  rw [push, condEval_setReg, push, condEval_reg]

theorem whileN_push {cond : St → St × CRes} {body : St → St × Res}
    (hc : ∀ σ, cond (push σ) = (push (cond σ).1, (cond σ).2)) (hb : ∀ σ, body (push σ) = pushR (body σ)) :
    ∀ (n : Nat) (σ : St), whileN cond body n (push σ) = pushR (whileN cond body n σ) := by
  intro n
  induction n with
  | zero => exact fun _ => rfl
  | succ n ih =>
    intro σ
    rw [whileN_succ, whileN_succ, hc]
    refine cthen_push fun b σ1 => ?_
    cases b
    · rfl
    · rw [hb]; exact andThen_push ih

theorem apply_push (ph : Phase) (a : Act) (ha : a.noIns = true) (r : Reg) : a.apply ph ([] :: r) = [] :: a.apply ph r := by
  cases a with
  | ins => cases ha
  | set | rem => simp only [Act.apply]; split <;> rfl
  | need => rfl

theorem applyActs_push (ph : Phase) (acts : List Act) (ha : acts.all Act.noIns = true) :
    ∀ r, applyActs ph acts ([] :: r) = [] :: applyActs ph acts r := by
  induction acts with
  | nil => exact fun _ => rfl
  | cons a acts ih =>
    have ha := Bool.and_eq_true_iff.mp (List.all_cons ▸ ha)
    exact fun r => (congrArg (applyActs ph acts) (apply_push ph a ha.1 r)).trans (ih ha.2 _)

theorem effOf_push (ph : Phase) (acts : List Act) (ha : acts.all Act.noIns = true) (r : Reg) :
    effOf ph acts ([] :: r) = (effOf ph acts r).map ([] :: ·) := by
  cases ph
  case init => exact congrArg some (applyActs_push _ acts ha r)
  case exec => exact congrArg some (applyActs_push _ acts ha r)
  case req =>
    have : acts.all (Act.needOk ([] :: r)) = acts.all (Act.needOk r) := rfl
    simp only [effOf, needEff, this]
    split <;> rfl
  all_goals rfl

theorem step_push (s : Script) (ev : Ev) {eff : Reg → Option Reg} (σ : St)
    (h : eff ([] :: σ.reg) = (eff σ.reg).map ([] :: ·)) : step s ev eff (push σ) = pushR (step s ev eff σ) := by
  simp only [step, push, h]
  split
  · rfl
  · cases eff σ.reg <;> rfl

theorem opRun_push (s : Script) (o : Op) (ho : Op.sat Act.noIns false o = true) (σ : St) :
    opRun s o (push σ) = pushR (opRun s o σ) := by
  cases o with
  | prim ev acts => exact step_push s ev σ (effOf_push ev.1 acts (Bool.and_eq_true_iff.mp ho).2 σ.reg)
  | counter0 => cases ho
  | bump => cases ho
  | merge id mg => exact step_push s _ σ (eff := mergeEff mg) (by rw [List.isEmpty_iff.mp ho, mergeEff_nil, mergeEff_nil]; rfl)

theorem srun_push (s : Script) (f : Nat) (p : Stmt) (hp : p.all (Op.sat Act.noIns false) (fun _ => true) = true) :
    ∀ σ, srun s f p (push σ) = pushR (srun s f p σ) := by
  induction p with
  | skip => exact fun _ => rfl
  | atom o => exact opRun_push s o hp
  | seq a b iha ihb =>
    have hp := Bool.and_eq_true_iff.mp hp
    exact fun σ => (congrArg (andThen · _) (iha hp.1 σ)).trans (andThen_push (ihb hp.2))
  | loop c b ih => exact whileN_push (condEval_push s c) (ih (Bool.and_eq_true_iff.mp hp).2) f
  | ite c t e iht ihe =>
    have hp := Bool.and_eq_true_iff.mp hp
    intro σ
    rw [srun_ite, srun_ite, condEval_push]
    refine cthen_push fun b σ1 => ?_
    cases b
    · exact ihe hp.2 σ1
    · exact iht (Bool.and_eq_true_iff.mp hp.1).2 σ1
  | inScope b ih =>
    -- the hypothesis twice, at `push σ` (the child scope of `{ b }` is opened above the empty one) and at `σ`
    intro σ
    show (pop (srun s f b (push (push σ))).1, _) = pushR (pop (srun s f b (push σ)).1, _)
    rw [ih hp (push σ), ih hp σ]; rfl

/-- `Sk d a b`: `a` is `b` with one extra empty scope inserted below the `d` innermost scopes. -/
inductive Sk : Nat → Reg → Reg → Prop where
  | here (r : Reg) : Sk 0 ([] :: r) r
  | cons {d : Nat} {a b : Reg} (m : Scope) : Sk d a b → Sk (d + 1) (m :: a) (m :: b)

theorem Sk.remove {d : Nat} {a b : Reg} (h : Sk d a b) (k : Nat) : Sk d (a.remove k) (b.remove k) := by
  induction h with
  | here r => exact Sk.here _
  | cons m _ ih => rw [Reg.remove, Reg.remove]; split <;> exact Sk.cons _ (by assumption)

theorem Sk.contains {d : Nat} {a b : Reg} (h : Sk d a b) (k : Nat) : a.contains k = b.contains k := by
  induction h with
  | here r => rfl
  | cons m _ ih => exact congrArg (m.has k || ·) ih

end MahfModel.Config
