/- C11: the operators that only COMPARE objective values (`Tournament`, `LinearRank`, `DEBest`,
`DECurrentToBest`, and `f::best`).  When they answer `Err` and that they do not panic needs no law of
the carrier at all; what they return needs a TOTAL PREORDER — no arithmetic law, no finiteness: the
carrier may have a greatest element (`+inf`), values of any magnitude (`±f64::MAX`), and distinct
elements that compare equal (`-0.0` / `+0.0`). -/
import MahfModel.Proofs.C11Select
import Mathlib.Order.Defs.PartialOrder
namespace MahfModel.Selection

/-! ### outcomes: `Err` exactly on the documented inputs, never a panic -/

section
variable {F : Type} [LT F] [DecidableLT F]

theorem tournamentRound_ok_of {pop : Pop F} {c : List Nat} (hev : ∀ x ∈ pop, x.obj.isSome) (hc : pick pop c ≠ []) :
    ∃ win, tournamentRound pop c = .ok win := by
  obtain ⟨r, hr, hnone⟩ := best_of_evaluated (pop := pick pop c) (fun x hx => hev x (mem_of_mem_pick hx))
  rw [tournamentRound_eq, hr]
  cases r with
  | none => exact absurd (hnone.mp rfl) hc
  | some w => exact ⟨w, rfl⟩

end

section generic
variable {F : Type} [Add F] [Sub F] [Mul F] [Div F] [LT F] [LE F] [DecidableLT F] [DecidableLE F]
  [OfNat F 0] [OfNat F 1]

theorem deBest_outcome (O : Ops F) (y bi : Nat) (ss : List (List Nat)) (pop : Pop F)
    (hev : ∀ x ∈ pop, x.obj.isSome) (hbi : BestIdx pop bi) :
    ErrIff (select O (.deBest y) (.setsBest bi ss) pop) (pop.length < 2 * y ∨ pop = []) := by
  rw [select_deBest, bestAt_of_evaluated hev]
  rcases hbi with rfl | ⟨b, _, hb, _⟩
  · split_ifs <;> exact .of_err (.inr rfl)
  · have hp : pop ≠ [] := by rintro rfl; cases hb
    rw [hb]
    exact (ErrIff.ensure _ _).congr (or_iff_left hp).symm

theorem deCurrentToBest_outcome (O : Ops F) (y bi : Nat) (ss : List (List Nat)) (pop : Pop F)
    (hev : ∀ x ∈ pop, x.obj.isSome) (hbi : BestIdx pop bi) :
    ErrIff (select O (.deCurrentToBest y) (.setsBest bi ss) pop)
      (pop = [] ∨ ∃ ind ∈ pop, (pop.filter (fun j => !sameInd j ind)).length < 2 * y - 1) := by
  rw [select_deCurrentToBest, bestAt_of_evaluated hev]
  rcases hbi with rfl | ⟨b, _, hb, _⟩
  · exact .of_err (.inl rfl)
  · have hp : pop ≠ [] := by rintro rfl; cases hb
    rw [hb]
    refine (ErrIff.ensure _ _).congr ?_
    rw [List.any_eq_true, or_iff_right hp]
    simp only [decide_eq_true_eq]

theorem tournament_outcome (O : Ops F) (n size : Nat) (ss : List (List Nat)) (pop : Pop F)
    (hev : ∀ x ∈ pop, x.obj.isSome) (hl : Legal (.tournament n size) pop (.sets ss)) :
    ErrIff (select O (.tournament n size) (.sets ss) pop) (pop.length < size ∨ (size = 0 ∧ n ≠ 0)) := by
  rw [select_tournament]
  by_cases hlt : pop.length < size
  · rw [if_pos hlt]; exact .of_err (.inl hlt)
  rw [if_neg hlt]
  by_cases hs : size = 0
  · subst hs
    cases ss with
    | nil => exact .of_ok [] fun h => h.elim hlt fun h => h.2 hl.1.symm
    | cons c cs =>
      have hc := hl.2 c (by simp)
      have : c = [] := List.eq_nil_of_length_eq_zero (by simpa using hc.1)
      subst this
      have hn : n ≠ 0 := by rw [← hl.1]; simp
      have herr : tournamentRound pop [] = .error .exec := by
        simp [tournamentRound, pick, withKeys, firstMin]
      rw [tournamentRounds, herr]
      exact .of_err (.inr ⟨rfl, hn⟩)
  · have : ∀ c ∈ ss, ∃ win, tournamentRound pop c = .ok win := by
      intro c hc
      obtain ⟨h1, _, h3⟩ := hl.2 c hc
      apply tournamentRound_ok_of hev
      intro hnil
      have := pick_length pop c h3
      rw [hnil, h1] at this
      simp at this; omega
    obtain ⟨sel, hsel⟩ := tournamentRounds_ok_of this
    rw [hsel]
    exact .of_ok sel fun h => h.elim hlt fun h => hs h.1

theorem linearRankWeights_ge_one (ranks : List Nat) : ∀ w ∈ linearRankWeights ranks, 1 ≤ w := by
  intro w hw
  obtain ⟨r, hr, rfl⟩ := List.mem_map.mp hw
  have := le_maxNat _ r hr
  omega

theorem linearRank_outcome (O : Ops F) (n : Nat) (is : List Nat) (pop : Pop F) (hev : ∀ x ∈ pop, x.obj.isSome) :
    ErrIff (select O (.linearRank n) (.idx is) pop) (pop = []) := by
  obtain ⟨objs, h1, h2, _⟩ := objectives_of_evaluated hev
  rw [select_linearRank, h1]
  dsimp only
  have hnil : linearRankWeights (reverseRank objs) = [] ↔ pop = [] := eq_nil_iff_of_length_eq (by
    rw [← h2, ← reverseRank_length objs]; exact List.length_map _)
  by_cases hp : pop = []
  · rw [if_pos (List.isEmpty_iff.mpr (hnil.mpr hp))]; exact .of_err hp
  · obtain ⟨w, hw⟩ := List.exists_mem_of_ne_nil _ (mt hnil.mp hp)
    rw [if_neg (mt List.isEmpty_iff.mp (mt hnil.mp hp)),
      if_neg (Nat.ne_of_gt (Nat.lt_of_lt_of_le (linearRankWeights_ge_one _ w hw) (le_maxNat _ w hw)))]
    exact .of_ok _ hp

end generic

/-! ### what is returned, over a total preorder -/

theorem le_of_forall_exists_le {G : Type} [LE G] {pop : Pop G} {a : G} (h : ∀ x ∈ pop, ∃ c, x.obj = some c ∧ a ≤ c) :
    ∀ x ∈ pop, ∀ c, x.obj = some c → a ≤ c := by
  intro x hx c hc
  obtain ⟨c', hc', hle⟩ := h x hx
  rw [hc] at hc'; cases hc'; exact hle

section range
variable {G : Type} [Preorder G] [Std.Total (α := G) (· ≤ ·)]

variable [DecidableLT G]

theorem firstMin_spec {ks : List (Ind G × G)} {m : Ind G × G} (h : firstMin ks = some m) :
    (∀ x ∈ ks, m.2 ≤ x.2) ∧ ∃ pre post, ks = pre ++ m :: post ∧ ∀ y ∈ pre, m.2 < y.2 := by
  induction ks generalizing m with
  | nil => simp [firstMin] at h
  | cons x rest ih =>
    simp only [firstMin] at h
    cases hr : firstMin rest with
    | none =>
      simp only [hr] at h
      cases h
      have : rest = [] := firstMin_eq_none.mp hr
      subst this
      exact ⟨by simp, [], [], rfl, by simp⟩
    | some m' =>
      simp only [hr] at h
      obtain ⟨ih1, pre, post, ih2, ih3⟩ := ih hr
      split at h
      · next hlt =>
        cases h
        exact ⟨List.forall_mem_cons.mpr ⟨le_of_lt hlt, ih1⟩, x :: pre, post, by simp [ih2],
          List.forall_mem_cons.mpr ⟨hlt, ih3⟩⟩
      · next hnlt =>
        cases h
        exact ⟨List.forall_mem_cons.mpr ⟨le_refl _, fun y hy => le_trans (Std.not_lt.mp hnlt) (ih1 y hy)⟩,
          [], rest, rfl, by simp⟩

/-- What `f::best` returns: a member whose objective no member undercuts, and the FIRST such member
in population order. -/
theorem best_spec {pop : Pop G} {b : Ind G} (h : best pop = .ok (some b)) :
    ∃ a, b.obj = some a ∧ (∀ x ∈ pop, ∃ c, x.obj = some c ∧ a ≤ c) ∧
      ∃ pre post, pop = pre ++ b :: post ∧ ∀ y ∈ pre, ∃ c, y.obj = some c ∧ a < c := by
  obtain ⟨ks, m, hk, hm, rfl⟩ := best_eq_some h
  obtain ⟨h1, pre, post, h2, h3⟩ := firstMin_spec hm
  obtain ⟨hfst, hobj⟩ := withKeys_spec hk
  refine ⟨m.2, hobj m (firstMin_mem hm), ?_, pre.map (·.1), post.map (·.1), ?_, ?_⟩
  · intro x hx
    rw [← hfst] at hx
    obtain ⟨p, hp, rfl⟩ := List.mem_map.mp hx
    exact ⟨p.2, hobj p hp, h1 p hp⟩
  · rw [← hfst, h2]; simp
  · intro y hy
    obtain ⟨p, hp, rfl⟩ := List.mem_map.mp hy
    exact ⟨p.2, hobj p (by rw [h2]; simp [hp]), h3 p hp⟩

variable [DecidableLE G] [Add G] [Sub G] [Mul G] [Div G] [OfNat G 0] [OfNat G 1]

theorem tournament_winners (O : Ops G) (n size : Nat) (ss : List (List Nat)) (pop sel : Pop G)
    (h : select O (.tournament n size) (.sets ss) pop = .ok sel) :
    List.Forall₂ (fun c win => ∃ a, win.obj = some a ∧
        (∀ x ∈ pick pop c, ∃ b, x.obj = some b ∧ a ≤ b) ∧
        ∃ pre post, pick pop c = pre ++ win :: post ∧ ∀ y ∈ pre, ∃ b, y.obj = some b ∧ a < b) ss sel := by
  rw [select_tournament] at h
  split_ifs at h
  exact (tournamentRounds_spec h).imp fun _ _ hc => best_spec (tournamentRound_ok_iff.mp hc)

end range
end MahfModel.Selection
