/- C02: equations of the machine interpreter `mstep`, in a module of their own below the modules that unfold `mstep`:
equation lemmas generated in an imported module cost their users nothing, those generated in the using module are
paid for again at every use. -/
import MahfModel.Model.Borrow
namespace MahfModel.Borrow
open MahfModel.Registry

theorem mstep_locks (m : M) : mstep m .locks = (m, [.locks (m.reg.map Scope.lockView)]) := by simp only [mstep]

/-- A `&self` method next to live guards is the registry step, lifted. -/
theorem mstep_sh (m : M) (o : ROp) (h : ROp.isShared o = true) :
    mstep m (.sh o) = ({ m with reg := (step m.reg o).1 }, [(step m.reg o).2]) := by
  simp only [mstep, h, if_true]

end MahfModel.Borrow
