/- C11: exact arithmetic (an ordered field) — the model's `sum` as `List.sum`, the weights of `proportional_weights` as an
antitone function of the objective, the exponential-rank weights, and the seed counts of IWO. -/
import MahfModel.Proofs.C11
import MahfModel.Proofs.C11Rank
import MahfModel.Proofs.ArithField
namespace MahfModel.Selection

/-! ### sums and weights in exact arithmetic -/
section field
variable {F : Type} [Field F]

/-- the model's left fold is `List.sum` -/
theorem sum_eq_sum (l : List F) : sum l = l.sum := List.sum_eq_foldl.symm

theorem sum_nil : sum ([] : List F) = 0 := rfl

theorem sum_cons (a : F) (l : List F) : sum (a :: l) = a + sum l := by
  rw [sum_eq_sum, sum_eq_sum, List.sum_cons]

theorem sum_append (a b : List F) : sum (a ++ b) = sum a + sum b := by
  rw [sum_eq_sum, sum_eq_sum, sum_eq_sum, List.sum_append]

theorem sum_map_div (l : List F) (c : F) : sum (l.map fun f => f / c) = sum l / c := by
  induction l with
  | nil => rw [List.map_nil, sum_nil, zero_div]
  | cons a l ih => rw [List.map_cons, sum_cons, sum_cons, ih, add_div]

theorem sum_replicate (n : Nat) (c : F) : sum (List.replicate n c) = n * c := by
  induction n with
  | zero => rw [List.replicate_zero, sum_nil, Nat.cast_zero, zero_mul]
  | succ n ih => rw [List.replicate_succ, sum_cons, ih, Nat.cast_succ, add_mul, one_mul, add_comm]

theorem shiftW_eq (mx mn offset o : F) : shiftW mx mn offset o = mx - o + offset := by
  unfold shiftW; rw [sub_sub_sub_cancel_right]

variable [LinearOrder F] [IsStrictOrderedRing F]

theorem sum_nonneg (l : List F) (h : ∀ x ∈ l, 0 ≤ x) : 0 ≤ sum l :=
  sum_eq_sum l ▸ Arith.sum_nonneg l h

theorem sum_pos_of_mem (l : List F) (h : ∀ x ∈ l, 0 ≤ x) (a : F) (ha : a ∈ l) (hpos : 0 < a) : 0 < sum l := by
  induction l with
  | nil => cases ha
  | cons b l ih =>
    have hl : ∀ x ∈ l, 0 ≤ x := fun x hx => h x (List.mem_cons_of_mem _ hx)
    rw [sum_cons]
    rcases List.mem_cons.mp ha with rfl | ha
    · exact add_pos_of_pos_of_nonneg hpos (sum_nonneg l hl)
    · exact add_pos_of_nonneg_of_pos (h b List.mem_cons_self) (ih hl ha)

theorem sum_eq_zero_iff (l : List F) (h : ∀ x ∈ l, 0 ≤ x) : sum l = 0 ↔ ∀ x ∈ l, x = 0 := by
  constructor
  · intro hs x hx
    exact le_antisymm (not_lt.mp fun hpos => (sum_pos_of_mem l h x hx hpos).ne' hs) (h x hx)
  · intro hz
    rw [List.eq_replicate_iff.mpr ⟨rfl, hz⟩, sum_replicate, mul_zero]

theorem shiftW_antitone (mx mn offset : F) {a b : F} (hab : a ≤ b) :
    shiftW mx mn offset b ≤ shiftW mx mn offset a := by
  rw [shiftW_eq, shiftW_eq]
  exact add_le_add_left (sub_le_sub_left hab mx) offset

theorem shiftW_total_pos {objs : List F} {mx mn offset : F} (hoff : 0 ≤ offset)
    (hb : objectiveBounds objs = some (mx, mn)) (hall : ¬ allEq objs = true) :
    0 < sum (objs.map (shiftW mx mn offset)) := by
  obtain ⟨hrange, hmx, hmn⟩ := objectiveBounds_spec hb
  have hlt : mn < mx :=
    lt_of_le_of_ne (hrange mx hmx).1 fun h => hall ((allEq_iff objs).mpr fun a ha b hb' =>
      le_antisymm (le_trans (hrange a ha).2 (h ▸ (hrange b hb').1))
        (le_trans (hrange b hb').2 (h ▸ (hrange a ha).1)))
  refine sum_pos_of_mem _ (fun x hx => ?_) (shiftW mx mn offset mn) (List.mem_map_of_mem hmn) ?_
  · obtain ⟨o, ho, rfl⟩ := List.mem_map.mp hx
    rw [shiftW_eq]
    exact add_nonneg (sub_nonneg.mpr (hrange o ho).2) hoff
  · rw [shiftW_eq]
    exact add_pos_of_pos_of_nonneg (sub_pos.mpr hlt) hoff

theorem proportionalWeights_antitone_map (O : Ops F) (objs : List F) (offset : F) (normalize : Bool)
    (ws : List F) (h : proportionalWeights O objs offset normalize = .ok (some ws)) :
    ∃ g : F → F, (∀ a b, a ≤ b → g b ≤ g a) ∧ ws = objs.map g := by
  obtain ⟨hoff, mx, mn, hb, _, rfl⟩ := proportionalWeights_some O objs offset normalize ws h
  by_cases h1 : 0 < mn
  · rw [propW_of_pos O objs offset normalize h1]
    exact ⟨fun o => mx - o + offset, fun a b hab => add_le_add_left (sub_le_sub_left hab mx) offset, rfl⟩
  by_cases h2 : allEq objs = true
  · rw [propW_of_allEq O offset normalize h1 h2]
    exact ⟨fun _ => if normalize then 1 / O.ofNat objs.length else 1, fun _ _ _ => le_refl _,
      List.map_const'.symm⟩
  rw [propW_of_not_allEq O offset normalize h1 h2]
  split_ifs
  · exact ⟨fun o => shiftW mx mn offset o / sum (objs.map (shiftW mx mn offset)),
      fun a b hab => div_le_div_of_nonneg_right (shiftW_antitone mx mn offset hab)
        (shiftW_total_pos hoff hb h2).le,
      List.map_map ..⟩
  · exact ⟨shiftW mx mn offset, fun a b hab => shiftW_antitone mx mn offset hab, rfl⟩

/-- exponential-rank weights `factor * base^(rank-1)`, `factor = (base-1)/(base^m-1)`, base in (0,1):
numerator and denominator of the factor are both negative -/
theorem expFactor_pos (base : F) (hb0 : 0 < base) (hb1 : base < 1) (m : Nat) (hm : 1 ≤ m) :
    0 < (base - 1) / (base ^ m - 1) :=
  div_pos_of_neg_of_neg (sub_neg.mpr hb1)
    (sub_neg.mpr (pow_lt_one₀ hb0.le hb1 (Nat.one_le_iff_ne_zero.mp hm)))

theorem expWeight_pos (base : F) (hb0 : 0 < base) (hb1 : base < 1) (m r : Nat) (hm : 1 ≤ m) :
    0 < (base - 1) / (base ^ m - 1) * base ^ (r - 1) :=
  mul_pos (expFactor_pos base hb0 hb1 m hm) (pow_pos hb0 _)

theorem expWeight_antitone (base : F) (hb0 : 0 < base) (hb1 : base < 1) (m r r' : Nat) (hm : 1 ≤ m)
    (hr : r ≤ r') :
    (base - 1) / (base ^ m - 1) * base ^ (r' - 1) ≤ (base - 1) / (base ^ m - 1) * base ^ (r - 1) :=
  mul_le_mul_of_nonneg_left (pow_le_pow_of_le_one hb0.le hb1.le (Nat.sub_le_sub_right hr 1))
    (expFactor_pos base hb0 hb1 m hm).le

/-! ### invasive weed optimisation: number of copies -/

/-- what the seed count needs of the carrier operations: the cast is exact, `floor` is monotone and
exact on naturals, there is no NaN -/
structure ExactFloor (O : Ops F) : Prop where
  cast : ∀ k : Nat, O.ofNat k = (k : F)
  mono : ∀ x y : F, x ≤ y → O.floorNat x ≤ O.floorNat y
  nat : ∀ k : Nat, O.floorNat (k : F) = k
  nan : ∀ x : F, O.isNaN x = false

section iwo
variable {O : Ops F} (hO : ExactFloor O)
include hO

section
omit [IsStrictOrderedRing F]

theorem iwoCount_of_lt (a b : Nat) {worst best : F} (o : F) (hlt : best < worst) :
    iwoCount O a b worst best o = a + O.floorNat ((o - worst) / (best - worst) * ((b - a : Nat) : F)) := by
  simp only [iwoCount, hO.nan, Bool.false_or, eqF_eq_false (ne_of_lt hlt), Bool.false_eq_true, if_false, hO.cast]

theorem iwoCount_of_eq (a b : Nat) (w o : F) :
    iwoCount O a b w w o = a + O.floorNat (((b - a : Nat) : F) / (1 + 1)) := by
  simp only [iwoCount, hO.nan, Bool.false_or, (eqF_iff w w).mpr rfl, if_true, hO.cast]

theorem iwoCount_worst (a b : Nat) (worst best : F) (hlt : best < worst) :
    iwoCount O a b worst best worst = a := by
  rw [iwoCount_of_lt hO a b worst hlt, sub_self, zero_div, zero_mul, ← Nat.cast_zero, hO.nat]
  rfl

theorem iwoCount_best (a b : Nat) (hab : a ≤ b) (worst best : F) (hlt : best < worst) :
    iwoCount O a b worst best best = b := by
  rw [iwoCount_of_lt hO a b best hlt, div_self (sub_ne_zero.mpr hlt.ne), one_mul, hO.nat]
  exact Nat.add_sub_cancel' hab

end

theorem iwoCount_antitone (a b : Nat) (worst best o o' : F) (hbw : best ≤ worst) (h : o ≤ o') :
    iwoCount O a b worst best o' ≤ iwoCount O a b worst best o := by
  rcases eq_or_lt_of_le hbw with rfl | hlt
  · rw [iwoCount_of_eq hO, iwoCount_of_eq hO]
  · rw [iwoCount_of_lt hO a b o hlt, iwoCount_of_lt hO a b o' hlt]
    -- dividing by `best - worst < 0` reverses the order
    exact Nat.add_le_add_left (hO.mono _ _ (mul_le_mul_of_nonneg_right
      (div_le_div_of_nonpos_of_le (sub_neg.mpr hlt).le (sub_le_sub_right h worst)) (Nat.cast_nonneg _))) a

theorem iwoCount_bounds (a b : Nat) (hab : a ≤ b) (worst best o : F) (hbw : best ≤ worst)
    (ho1 : best ≤ o) :
    a ≤ iwoCount O a b worst best o ∧ iwoCount O a b worst best o ≤ b := by
  refine ⟨Nat.le_add_right a _, ?_⟩
  rcases eq_or_lt_of_le hbw with rfl | hlt
  · rw [iwoCount_of_eq hO]
    have h1 : ((b - a : Nat) : F) / (1 + 1) ≤ ((b - a : Nat) : F) :=
      div_le_self (Nat.cast_nonneg _) (le_add_of_nonneg_right zero_le_one)
    have := hO.mono _ _ h1
    rw [hO.nat] at this
    omega
  · exact le_of_le_of_eq (iwoCount_antitone hO a b worst best best o hbw ho1)
      (iwoCount_best hO a b hab worst best hlt)

end iwo

end field

end MahfModel.Selection
