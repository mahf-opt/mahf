/- C01, on the stack of partial maps alone: what an operation without push/pop does to the stack is a sequence of
rebindings of the types it names (`Spec.Edit`, `specStep_edit`); hence it keeps the height and every other column
(`specStep_flat`) and, while the top scope shadows a type, what the scopes further out say about it (`Spec.Edit.shadow`). -/
import MahfModel.Proofs.C01Basic -- for the equation lemmas of `specStep`, generated there: regenerating them here is slow to check
import MahfModel.Proofs.C01Scope
namespace MahfModel.Registry

/-- The types an operation names. -/
def ROp.keys : ROp → List Key
  | .ins k _ | .rem k | .take k | .hasTop k | .has k | .find k | .findMut k | .get k | .tryGet k | .set k _
  | .getMut k _ | .entOrIns k _ | .entOrWith k _ | .entOrDef k | .entMod k _ | .entModV k _ | .entModOrIns k _ _
  | .occGet k | .occGetMut k _ | .occIntoMut k _ | .occIns k _ | .occRem k | .vacIns k _ | .parGet _ k
  | .parIns _ k _ | .req k | .gset k _ | .gget k => [k]
  | .multi ks _ | .multiP ks _ => ks
  | .push | .pop | .dump => []

/-- Not a raw scope push/pop (inside closure bodies scopes come from `with_inner_state`). -/
def ROp.flat : ROp → Bool
  | .push | .pop => false
  | _ => true

/-- Not a scope push/pop and not a write into a parent through `parent_mut()`. (`flat` is enough for frame and
height; `isLocal` is what the shadowing lemma needs, because `parIns d` with `d > 0` writes below the top scope.) -/
def ROp.isLocal : ROp → Bool
  | .parIns d _ _ => d == 0
  | .push | .pop => false
  | _ => true

theorem ROp.flat_of_isLocal (o : ROp) (h : o.isLocal = true) : o.flat = true := by
  cases o <;> first | rfl | exact h

theorem ROp.parIns_of_flat (o : ROp) (hf : o.flat = true) (hl : ¬ o.isLocal = true) : ∃ d k v, o = .parIns d k v := by
  cases o with
  | parIns d k v => exact ⟨d, k, v, rfl⟩
  | push | pop => cases hf
  | _ => exact absurd rfl hl

/-- The bindings of type `q`, scope by scope. -/
def col (sp : Spec) (q : Key) : List (Option Nat) := sp.map (fun m => m q)

theorem col_modifyAt_set (sp : Spec) (i : Nat) (k q : Key) (v : Option Nat) (h : k ≠ q) :
    col (modifyAt sp i (fun m : PMap => m.set k v)) q = col sp q := by
  rw [col, map_modifyAt sp i _ id (· q) PMap.empty (if_neg (Ne.symm h)), modifyAt_id]; rfl

theorem col_updFirst (sp : Spec) (k q : Key) (v : Option Nat) (h : k ≠ q) : col (sp.updFirst k v) q = col sp q := by
  rw [updFirst_eq]
  cases sp.depthOf k with
  | none => rfl
  | some i => exact col_modifyAt_set sp i k q v h

theorem col_setTop (sp : Spec) (k q : Key) (v : Option Nat) (h : k ≠ q) (hne : sp ≠ []) :
    col (sp.setTop k v) q = col sp q := by
  rw [setTop_eq sp k v hne]; exact col_modifyAt_set sp 0 k q v h

theorem col_length (sp : Spec) (q : Key) : (col sp q).length = sp.length := by simp [col]

theorem col_under (sp p' : Spec) (d : Nat) (q : Key) (h : col p' q = col (sp.drop d) q) :
    col (sp.take d ++ p') q = col sp q := by
  simp only [col, List.map_append] at h ⊢
  rw [h, ← List.map_append, List.take_append_drop]

theorem updFirst_length (sp : Spec) (k : Key) (v : Option Nat) : (sp.updFirst k v).length = sp.length := by
  rw [updFirst_eq]
  cases sp.depthOf k with
  | none => rfl
  | some i => exact modifyAt_length ..

theorem updFirst_ne_nil (sp : Spec) (k : Key) (v : Option Nat) (h : sp ≠ []) : sp.updFirst k v ≠ [] :=
  fun h' => h (List.eq_nil_of_length_eq_zero (by rw [← updFirst_length sp k v, h']; rfl))

theorem setTop_length (sp : Spec) (k : Key) (v : Option Nat) (h : sp ≠ []) : (sp.setTop k v).length = sp.length := by
  rw [setTop_eq sp k v h, modifyAt_length]

theorem updFirst_of_lookup_none (sp : Spec) (k : Key) (v : Option Nat) (h : sp.lookup k = none) :
    sp.updFirst k v = sp := by
  induction sp with
  | nil => rfl
  | cons m p ih =>
    simp only [Spec.lookup] at h
    cases hm : m k with
    | some x => simp [hm] at h
    | none => simp only [hm] at h; simp [Spec.updFirst, hm, ih h]

theorem updFirst_none_reexposes (sp : Spec) (k : Key) (i : Nat) (h : sp.depthOf k = some i) :
    (sp.updFirst k none).lookup k = Spec.lookup (sp.drop (i + 1)) k ∧
    (sp.updFirst k none).depthOf k = (Spec.depthOf (sp.drop (i + 1)) k).map (· + (i + 1)) := by
  induction sp generalizing i with
  | nil => simp [Spec.depthOf] at h
  | cons m p ih =>
    simp only [Spec.depthOf] at h
    simp only [Spec.updFirst]
    split at h
    · rename_i hm; cases h
      simp [hm, Spec.lookup, Spec.depthOf, PMap.set]
    · rename_i hm
      cases h' : Spec.depthOf p k with
      | none => simp [h'] at h
      | some j =>
        simp [h'] at h; subst h
        have hm' : m k = none := by simpa using hm
        simp [Spec.lookup, Spec.depthOf, hm', ih j h', Function.comp_def, Nat.add_assoc]

theorem updFirst_shadow (m : PMap) (p : Spec) (k q : Key) (v : Option Nat) (hm : (m q).isSome = true) :
    ∃ m' p', Spec.updFirst (m :: p) k v = m' :: p' ∧ col p' q = col p q ∧ (v.isSome = true → (m' q).isSome = true) := by
  simp only [Spec.updFirst]
  split
  · refine ⟨_, _, rfl, rfl, fun hv => ?_⟩
    simp only [PMap.set]; split <;> assumption
  · rename_i hk
    exact ⟨_, _, rfl, col_updFirst p k q v (fun e => hk (e ▸ hm)), fun _ => hm⟩

/-- `Edit ks sp sp'`: the stack `sp'` arises from `sp` by rebinding types of `ks` one after the other, each in the
top scope (`setTop`) or in the innermost scope that binds it (`updFirst`); an unbinding comes last. This is all an
operation without push/pop and `parent_mut()` does to the stack, and all the frame lemmas need to know of it. -/
inductive Spec.Edit (ks : List Key) : Spec → Spec → Prop
  | refl (sp : Spec) : Spec.Edit ks sp sp
  | del {sp : Spec} (k : Key) : k ∈ ks → Spec.Edit ks sp (sp.updFirst k none)
  | setTop {sp sp' : Spec} (k : Key) (v : Nat) :
      k ∈ ks → sp ≠ [] → Spec.Edit ks (sp.setTop k (some v)) sp' → Spec.Edit ks sp sp'
  | upd {sp sp' : Spec} (k : Key) (v : Nat) : k ∈ ks → Spec.Edit ks (sp.updFirst k (some v)) sp' → Spec.Edit ks sp sp'

namespace Spec.Edit
variable {ks : List Key} {sp sp' : Spec}

theorem modify (k : Key) (d : Nat) (hk : k ∈ ks) (h : Edit ks (sp.modify k d) sp') : Edit ks sp sp' := by
  unfold Spec.modify at h
  cases hl : sp.lookup k with
  | none => rwa [hl, updFirst_of_lookup_none sp k _ hl] at h
  | some x => rw [hl] at h; exact .upd k (x + d) hk h

theorem orInsert (k : Key) (v : Nat) (hk : k ∈ ks) (hne : sp ≠ []) : Edit ks sp (sp.orInsert k v).1 := by
  unfold Spec.orInsert
  split
  · exact .refl sp
  · exact .setTop k v hk hne (.refl _)

theorem addAll (ks' : List Key) (d : Nat) (hks : ∀ k ∈ ks', k ∈ ks) (sp : Spec) : Edit ks sp (sp.addAll ks' d) := by
  induction ks' generalizing sp with
  | nil => exact .refl sp
  | cons k t ih =>
    exact .modify k d (hks k (List.mem_cons_self ..)) (ih (fun k' hk' => hks k' (List.mem_cons_of_mem _ hk')) _)

theorem keeps (h : Edit ks sp sp') : sp'.length = sp.length ∧ ∀ q, q ∉ ks → col sp' q = col sp q := by
  induction h with
  | refl => exact ⟨rfl, fun _ _ => rfl⟩
  | del k hk => exact ⟨updFirst_length _ k _, fun q hq => col_updFirst _ k q _ (fun e => hq (e ▸ hk))⟩
  | setTop k v hk hne _ ih =>
    exact ⟨ih.1.trans (setTop_length _ k _ hne),
      fun q hq => (ih.2 q hq).trans (col_setTop _ k q _ (fun e => hq (e ▸ hk)) hne)⟩
  | upd k v hk _ ih =>
    exact ⟨ih.1.trans (updFirst_length _ k _),
      fun q hq => (ih.2 q hq).trans (col_updFirst _ k q _ (fun e => hq (e ▸ hk)))⟩

/-- While the top scope binds `q`, every edit of `q` happens there: the scopes further out keep their `q`. -/
theorem shadow {m : PMap} {p : Spec} (h : Edit ks (m :: p) sp') (q : Key) (hm : (m q).isSome = true) :
    (col sp' q).tail = col p q := by
  generalize hsp : m :: p = sp at h
  induction h generalizing m p with
  | refl => subst hsp; rfl
  | del k hk =>
    subst hsp
    obtain ⟨m', p', e, hc, _⟩ := updFirst_shadow m p k q none hm
    rw [e]; exact hc
  | setTop k v hk hne _ ih =>
    subst hsp
    exact ih (m := m.set k (some v)) (by simp only [PMap.set]; split <;> simp [hm]) rfl
  | upd k v hk _ ih =>
    subst hsp
    obtain ⟨m', p', e, hc, hs⟩ := updFirst_shadow m p k q (some v) hm
    rw [← hc]; exact ih (hs rfl) e.symm

end Spec.Edit

theorem specStep_edit (sp : Spec) (o : ROp) (hl : o.isLocal = true) (hne : sp ≠ []) :
    Spec.Edit o.keys sp (specStep sp o).1 := by
  have mem : ∀ k : Key, k ∈ [k] := fun k => List.mem_singleton_self k
  cases o with
  | push | pop => cases hl
  | hasTop k | has k | find k | findMut k | get k | tryGet k | occGet k | req k | gget k | gset k v | dump =>
    exact .refl sp
  | parGet d k => simp only [specStep]; split <;> exact .refl sp
  | ins k v => exact .setTop k v (mem k) hne (.refl _)
  | rem k | take k | occRem k =>
    simp only [specStep]; split
    · exact .del k (mem k)
    · exact .refl sp
  | set k v | getMut k v | occGetMut k v | occIntoMut k v | occIns k v =>
    simp only [specStep]; split
    · exact .upd k v (mem k) (.refl _)
    · exact .refl sp
  | entOrIns k v | entOrWith k v | entOrDef k => exact .orInsert k _ (mem k) hne
  | entMod k d | entModV k d => exact .modify k d (mem k) (.refl _)
  | entModOrIns k d v => exact .modify k d (mem k) (.orInsert k v (mem k) (updFirst_ne_nil sp k _ hne))
  | vacIns k v =>
    simp only [specStep]; split
    · exact .refl sp
    · exact .setTop k v (mem k) hne (.refl _)
  | parIns d k v =>
    have hd : d = 0 := by simpa [ROp.isLocal] using hl
    subst hd
    simp only [specStep]; split
    · exact .setTop k v (mem k) hne (.refl _)
    · exact .refl sp
  | multi ks d =>
    simp only [specStep]; split
    · split
      · exact .addAll ks d (fun _ h => h) sp
      · exact .refl sp
    · exact .refl sp
  | multiP ks d =>
    simp only [specStep]; split
    · exact .addAll ks d (fun _ h => h) sp
    · exact .refl sp

theorem specStep_flat (sp : Spec) (o : ROp) (hflat : o.flat = true) (hne : sp ≠ []) :
    (specStep sp o).1.length = sp.length ∧ ∀ q, q ∉ o.keys → col (specStep sp o).1 q = col sp q := by
  by_cases hl : o.isLocal = true
  · exact (specStep_edit sp o hl hne).keeps
  · obtain ⟨d, k, v, rfl⟩ := ROp.parIns_of_flat o hflat hl
    simp only [specStep]; split
    · rename_i hd
      have hn := drop_ne_nil sp d hd
      exact ⟨by rw [List.length_append, setTop_length _ k _ hn, ← List.length_append, List.take_append_drop],
        fun q hq => col_under sp _ d q (col_setTop _ k q _ (fun e => hq (List.mem_singleton.mpr e.symm)) hn)⟩
    · exact ⟨rfl, fun _ _ => rfl⟩

theorem specStep_tail_frame (m : PMap) (p : Spec) (o : ROp) (q : Key) (hl : o.isLocal = true)
    (hq : q ∈ o.keys → (m q).isSome = true ∨ ∃ v, o = .ins q v) :
    (col (specStep (m :: p) o).1 q).tail = col p q := by
  have he := specStep_edit (m :: p) o hl (List.cons_ne_nil m p)
  by_cases hmem : q ∈ o.keys
  · rcases hq hmem with h | ⟨v, rfl⟩
    · exact he.shadow q h
    · rfl
  · rw [he.keeps.2 q hmem]; rfl

end MahfModel.Registry
