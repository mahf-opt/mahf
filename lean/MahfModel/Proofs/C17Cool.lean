/- C17, cooling inside programs: scaling one cell (`scaleCell`) and what a run did to the cells (`Effect`); straight-line
blocks of cooling components (`cexec_block`, `cexec_block_returns`); the loop counter. -/
import MahfModel.Model.SaCool
import Mathlib.Algebra.Field.Basic
namespace MahfModel.Sa

theorem cexec_block_cons {F : Type} [Mul F] (fuel id c : Nat) (a : F) (r : List (Nat × Nat × F)) (s : CState F) :
    cexec (fuel + 2) (blockOf ((id, c, a) :: r)) s =
      match s.cells[c]? with
      | some (some v) => cexec (fuel + 1) (blockOf r)
          { s with cells := s.cells.set c (some (v * a)), trace := ⟨id, c, a, v * a⟩ :: s.trace }
      | _ => (.err, s) := by
  rw [blockOf, cexec, cexec]
  rcases s.cells[c]? with _ | _ | v <;> rfl

section
variable {F : Type} [Field F]

/-- Product of the factors of the logged executions that targeted cell `c`. -/
def factor (c : Nat) : List (CEntry F) → F
  | [] => 1
  | e :: r => if e.cell = c then factor c r * e.alpha else factor c r

theorem factor_append (c : Nat) (a b : List (CEntry F)) :
    factor c (a ++ b) = factor c a * factor c b := by
  induction a with
  | nil => rw [List.nil_append, factor, one_mul]
  | cons e r ih =>
    rw [List.cons_append, factor, factor, ih]
    split
    · rw [mul_right_comm]
    · rfl

/-- Cell `c` scaled by `f` (absent cells stay absent). -/
def scaleCell (cells : List (Option F)) (c : Nat) (f : F) : Option (Option F) :=
  (cells[c]?).map (Option.map (· * f))

theorem scaleCell_one (cells : List (Option F)) (c : Nat) : scaleCell cells c 1 = cells[c]? := by
  unfold scaleCell
  rcases cells[c]? with _ | _ | v
  · rfl
  · rfl
  · exact congrArg (some ∘ some) (mul_one v)

theorem scaleCell_scale (cells cells' : List (Option F)) (f g : F) (c : Nat)
    (h : cells'[c]? = scaleCell cells c f) :
    scaleCell cells' c g = scaleCell cells c (f * g) := by
  unfold scaleCell at *
  rw [h]
  rcases cells[c]? with _ | _ | v
  · rfl
  · rfl
  · exact congrArg (some ∘ some) (mul_assoc v f g)

theorem scaleCell_set (cells : List (Option F)) (c c' : Nat) (v a : F) (hv : cells[c]? = some (some v)) :
    (cells.set c (some (v * a)))[c']? = scaleCell cells c' (if c = c' then a else 1) := by
  split
  · next hc => subst hc; rw [List.getElem?_set_self', scaleCell, hv]; rfl
  · next hc => rw [List.getElem?_set_ne hc, scaleCell_one]

/-- What a run did to the cells, in terms of the executions it logged. -/
def Effect (s s' : CState F) : Prop :=
  ∃ new : List (CEntry F), s'.trace = new ++ s.trace ∧
    ∀ c, s'.cells[c]? = scaleCell s.cells c (factor c new)

theorem Effect.refl (s : CState F) : Effect s s :=
  ⟨[], rfl, fun c => (scaleCell_one s.cells c).symm⟩

theorem Effect.trans {s s1 s2 : CState F} (h1 : Effect s s1) (h2 : Effect s1 s2) : Effect s s2 := by
  obtain ⟨n1, t1, c1⟩ := h1
  obtain ⟨n2, t2, c2⟩ := h2
  refine ⟨n2 ++ n1, by rw [t2, t1, List.append_assoc], fun c => ?_⟩
  rw [c2 c, scaleCell_scale s.cells s1.cells _ _ c (c1 c), factor_append, mul_comm]

/-- Product of the factors a block applies to cell `c`. -/
def blockFactor (c : Nat) : List (Nat × Nat × F) → F
  | [] => 1
  | (_, c', a) :: r => if c' = c then a * blockFactor c r else blockFactor c r

theorem blockFactor_eq_factor (c : Nat) (es : List (CEntry F)) :
    blockFactor c (es.map fun e => (e.id, e.cell, e.alpha)) = factor c es := by
  induction es with
  | nil => rfl
  | cons e r ih => rw [List.map_cons, blockFactor, factor, ih, mul_comm]

theorem blockFactor_replicate (c id k : Nat) (a : F) :
    blockFactor c (List.replicate k (id, c, a)) = a ^ k := by
  induction k with
  | zero => exact (pow_zero a).symm
  | succ k ih => rw [List.replicate_succ, blockFactor, if_pos rfl, ih, pow_succ']

theorem cexec_block (cs : List (Nat × Nat × F)) (fuel : Nat) (s s' : CState F)
    (h : cexec fuel (blockOf cs) s = (.ok, s')) :
    s'.iters = s.iters ∧ s'.trace.length = s.trace.length + cs.length ∧
      ∀ c, s'.cells[c]? = scaleCell s.cells c (blockFactor c cs) := by
  induction cs generalizing fuel s with
  | nil =>
    cases fuel with
    | zero => cases h
    | succ fuel => cases h; exact ⟨rfl, rfl, fun c => (scaleCell_one _ _).symm⟩
  | cons e r ih =>
    obtain ⟨id, c0, a⟩ := e
    match fuel with
    | 0 => cases h
    | 1 => cases h
    | fuel + 2 =>
      rw [cexec_block_cons] at h
      split at h
      · next v hv =>
        obtain ⟨hi, ht, hc⟩ := ih _ _ h
        refine ⟨hi, ht.trans (Nat.add_right_comm _ _ _), fun c => ?_⟩
        rw [hc c, scaleCell_scale s.cells _ _ _ c (scaleCell_set s.cells c0 c v a hv), blockFactor]
        split
        · rfl
        · rw [one_mul]
      · cases h

theorem cexec_block_returns (cs : List (Nat × Nat × F)) (fuel : Nat) (s : CState F)
    (hf : cs.length + 2 ≤ fuel) (hp : ∀ e ∈ cs, ∃ v, s.cells[e.2.1]? = some (some v)) :
    ∃ s', cexec fuel (blockOf cs) s = (.ok, s') := by
  induction cs generalizing fuel s with
  | nil =>
    obtain ⟨f, rfl⟩ : ∃ f, fuel = f + 1 := ⟨fuel - 1, by omega⟩
    exact ⟨s, rfl⟩
  | cons e r ih =>
    obtain ⟨id, c0, a⟩ := e
    rw [List.length_cons] at hf
    obtain ⟨f, rfl⟩ : ∃ f, fuel = f + 2 := ⟨fuel - 2, by omega⟩
    obtain ⟨v, hv⟩ := hp (id, c0, a) List.mem_cons_self
    rw [cexec_block_cons, hv]
    refine ih (f + 1) _ (by omega) fun e he => ?_
    -- a cell that holds a value still holds one after any cell was overwritten with a value
    obtain ⟨w, hw⟩ := hp e (List.mem_cons_of_mem _ he)
    rw [scaleCell_set s.cells c0 e.2.1 v a hv, scaleCell, hw]
    exact ⟨_, rfl⟩

theorem itersGet_bump {it it' : List (Option Nat)} {i : Nat} (hg : itersGet it = some i)
    (hb : itersBump it = some it') : itersGet it' = some (i + 1) := by
  fun_induction itersBump it generalizing it' with
  -- no scope
  | case1 => cases hb
  -- innermost scope holds the counter
  | case2 v r => cases hg; cases hb; rfl
  | case3 r ih =>  -- innermost scope holds none
    obtain ⟨r', hr, rfl⟩ := Option.map_eq_some_iff.mp hb
    exact (ih hg hr : itersGet r' = some (i + 1))

end
end MahfModel.Sa
