/- Soundness of `etu` (C07: every evaluation is followed by a visible best-update) for every execution of `execE`. -/
import MahfModel.Model.TemplatesEval
namespace MahfModel.Tpl

theorem omin_none_right (a : Option Nat) : omin a none = a := by cases a <;> rfl

theorem omin_none_left (a : Option Nat) : omin none a = a := by cases a <;> rfl

theorem omin_assoc (a b c : Option Nat) : omin (omin a b) c = omin a (omin b c) := by
  cases a with
  | none => rw [omin_none_left, omin_none_left]
  | some x =>
    cases b with
    | none => rw [omin_none_right, omin_none_left]
    | some y =>
      cases c with
      | none => rw [omin_none_right, omin_none_right]
      | some z => exact congrArg some (Nat.min_assoc x y z)

/-- the visible best together with what is still pending accounts for everything seen -/
def EInv (s : ESt) : Prop := omin s.best s.pend = s.seen

/-- `EInv`, and nothing is pending unless the typestate `p` says so -/
def EPost (p : Bool) (s : ESt) : Prop := EInv s ∧ (p = false → s.pend = none)

section
variable (o : EOracle) (sh : Bool) (fuel : Nat) (s : ESt) (p : Bool)

theorem etu_loop (b : Comp) : etu sh (.loop b) p = (etu sh b p).bind fun p' => if p' = p then some p else none := by
  show (match etu sh b p with | some p' => _ | none => none) = _
  cases etu sh b p <;> rfl

theorem etu_branch (t e : Comp) : etu sh (.branch t e) p =
    (etu sh t p).bind fun a => (etu sh e p).bind fun b => if a = b then some a else none := by
  show (match etu sh t p, etu sh e p with | some a, some b => _ | _, _ => none) = _
  cases etu sh t p <;> cases etu sh e p <;> rfl

theorem etus_cons (c : Comp) (cs : Comps) : etus sh (.cons c cs) p = (etu sh c p).bind (etus sh cs) := by
  show (match etu sh c p with | some p' => _ | none => none) = _
  cases etu sh c p <;> rfl

theorem execsE_cons (c : Comp) (rest : Comps) :
    execsE o sh (fuel + 1) (.cons c rest) s = (execE o sh fuel c s).bind (execsE o sh fuel rest) := by
  show (match execE o sh fuel c s with | none => none | some s' => _) = _
  cases execE o sh fuel c s <;> rfl

theorem loopE_succ (b : Comp) : loopE o sh (fuel + 1) b s =
    if o.cond s.tick then (execE o sh fuel b { s with tick := s.tick + 1 }).bind (loopE o sh fuel b)
    else some { s with tick := s.tick + 1 } := by
  show (if o.cond s.tick then (match execE o sh fuel b _ with | none => none | some s1 => _) else _) = _
  cases execE o sh fuel b _ <;> rfl

end

theorem execE_leaf_sound (o : EOracle) (fuel : Nat) (sh : Bool) (k : LeafKind) (p p' : Bool) (s s' : ESt)
    (he : etuLeaf sh k p = some p') (hpost : EPost p s) (h : execE o sh (fuel + 1) (.leaf k) s = some s') :
    EPost p' s' := by
  obtain ⟨hi, hp⟩ := hpost
  change (if o.fails s.tick then none else _) = _ at h
  obtain ⟨_, h⟩ := Option.ite_none_left_eq_some.mp h
  unfold etuLeaf at he
  unfold EInv at hi
  cases hk : eclass k <;> simp only [hk] at he h
  · -- eval: what is returned is seen and pending
    cases h; cases he
    exact ⟨by rw [EInv, ← omin_assoc, hi], fun h => nomatch h⟩
  · cases he
  · -- update: the pending values reach the visible record, unless a scope shadows it
    cases sh
    · cases h; cases he
      exact ⟨by rw [EInv, omin_none_right, hi], fun _ => rfl⟩
    · cases h; cases he
      exact ⟨hi, hp⟩
  · cases h; cases he
    exact ⟨hi, hp⟩
  · -- modify: allowed only when nothing is pending
    cases p
    · cases h; cases he
      exact ⟨(hp rfl) ▸ hi, fun _ => rfl⟩
    · cases he
  · cases he

theorem execE_sound (o : EOracle) : ∀ (fuel : Nat) (sh : Bool) (c : Comp) (p p' : Bool) (s s' : ESt),
    etu sh c p = some p' → EPost p s → execE o sh fuel c s = some s' → EPost p' s' := by
  intro fuel
  induction fuel using Nat.strongRecOn with
  | ind fuel ih =>
    intro sh c p p' s s' he hpost h
    cases fuel with
    | zero => cases h
    | succ fuel =>
      cases c with
      | leaf k => exact execE_leaf_sound o fuel sh k p p' s s' he hpost h
      | seq cs =>
        cases fuel with
        | zero => cases h
        | succ f =>
          cases cs with
          | nil => cases h; cases he; exact hpost
          | cons c rest =>
            change etus sh (.cons c rest) p = some p' at he
            rw [etus_cons] at he
            obtain ⟨q, ha, he⟩ := Option.bind_eq_some_iff.mp he
            change execsE o sh (f + 1) (.cons c rest) s = some s' at h
            rw [execsE_cons] at h
            obtain ⟨s1, h1, h2⟩ := Option.bind_eq_some_iff.mp h
            exact ih (f + 1) (Nat.lt_succ_self _) sh (.seq rest) q p' s1 s' he
              (ih f (Nat.lt_succ_of_lt (Nat.lt_succ_self f)) sh c p q s s1 ha hpost h1) h2
      | loop b =>
        rw [etu_loop] at he
        obtain ⟨q, hb, he⟩ := Option.bind_eq_some_iff.mp he
        obtain ⟨hq, he⟩ := Option.ite_none_right_eq_some.mp he
        cases he; subst hq
        cases fuel with
        | zero => cases h
        | succ f =>
          change loopE o sh (f + 1) b s = some s' at h
          rw [loopE_succ] at h
          split at h
          · obtain ⟨s1, h1, h2⟩ := Option.bind_eq_some_iff.mp h
            refine ih (f + 1) (Nat.lt_succ_self _) sh (.loop b) q q s1 s' ?_
              (ih f (Nat.lt_succ_of_lt (Nat.lt_succ_self f)) sh b q q { s with tick := s.tick + 1 } s1 hb hpost h1) h2
            rw [etu_loop, hb]; exact if_pos rfl
          · cases h; exact hpost
      | branch t e =>
        rw [etu_branch] at he
        obtain ⟨a, ha, he⟩ := Option.bind_eq_some_iff.mp he
        obtain ⟨b, hb, he⟩ := Option.bind_eq_some_iff.mp he
        obtain ⟨hab, he⟩ := Option.ite_none_right_eq_some.mp he
        cases he; subst hab
        change (if o.cond s.tick then _ else _) = _ at h
        split at h
        · exact ih fuel (Nat.lt_succ_self _) sh t p p' { s with tick := s.tick + 1 } s' ha hpost h
        · exact ih fuel (Nat.lt_succ_self _) sh e p p' { s with tick := s.tick + 1 } s' hb hpost h
      | scope b => exact ih fuel (Nat.lt_succ_self _) _ b p p' s s' he hpost h

theorem execsE_sound (o : EOracle) : ∀ (fuel : Nat) (sh : Bool) (cs : Comps) (p p' : Bool) (s s' : ESt),
    etus sh cs p = some p' → EPost p s → execsE o sh fuel cs s = some s' → EPost p' s' :=
  fun fuel sh cs => execE_sound o (fuel + 1) sh (.seq cs)

theorem loopE_sound (o : EOracle) : ∀ (fuel : Nat) (sh : Bool) (b : Comp) (p : Bool) (s s' : ESt),
    etu sh b p = some p → EPost p s → loopE o sh fuel b s = some s' → EPost p s' :=
  fun fuel sh b p s s' hb => execE_sound o (fuel + 1) sh (.loop b) p p s s' (by rw [etu_loop, hb]; exact if_pos rfl)

end MahfModel.Tpl
