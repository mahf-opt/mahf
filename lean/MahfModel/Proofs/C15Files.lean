/-
C15 — helper lemmas about the file model (`Model/LogC15Files.lean`): files, the whole-file reading of a lawful codec, the
length-prefixed codec, sequences of exports, the jobs of an experiment; and, last, that the export of a program of the
`logger*` language denotes the program (`progNode_injective`).
-/
import MahfModel.Model.LogC15Files
import MahfModel.Proofs.C15Export
import Std.Data.String.ToNat
namespace MahfModel.Log

section Files
variable {P B : Type} [DecidableEq P]

theorem fsRead_fsSet_same (fs : Fs P B) (p : P) (c : List B) : fsRead (fsSet fs p c) p = some c := by
  simp [fsRead, fsSet]

theorem fsRead_fsSet_other (fs : Fs P B) (p q : P) (c : List B) (h : q ≠ p) :
    fsRead (fsSet fs p c) q = fsRead fs q := by
  have : decide (p = q) = false := by simpa using fun e => h e.symm
  simp [fsRead, fsSet, this]

theorem writeFile_read (fs : Fs P B) (p : P) (bytes : List B) : fsRead (writeFile fs p bytes) p = some bytes := by
  simp [writeFile, fileWrite, fileCreate, fsRead_fsSet_same]

theorem writeFile_other (fs : Fs P B) (p q : P) (bytes : List B) (h : q ≠ p) :
    fsRead (writeFile fs p bytes) q = fsRead fs q := by
  simp [writeFile, fileWrite, fileCreate, fsRead_fsSet_other _ _ _ _ h]

theorem writeFileInPlace_read (fs : Fs P B) (p : P) (bytes : List B) :
    fsRead (writeFileInPlace fs p bytes) p = some (bytes ++ ((fsRead fs p).getD []).drop bytes.length) := by
  simp [writeFileInPlace, fileWrite, fsRead_fsSet_same]

theorem decWhole_enc {α : Type} (c : Codec α B) (hc : c.Lawful) (a : α) : decWhole c (c.enc a) = some a := by
  have := hc a []
  simp only [List.append_nil] at this
  simp [decWhole, this]

theorem decWhole_enc_tail {α : Type} (c : Codec α B) (hc : c.Lawful) (a : α) (tail : List B) (ht : tail ≠ []) :
    decWhole c (c.enc a ++ tail) = none := by
  simp only [decWhole, hc a tail]
  cases tail with
  | nil => exact absurd rfl ht
  | cons _ _ => rfl

end Files

section LCodec
variable {N V C : Type}

theorem decNames_enc (ns : List N) (rest : List (LTok N V C)) :
    decNames ns.length (ns.map LTok.name ++ rest) = some (ns, rest) := by
  induction ns with
  | nil => simp [decNames]
  | cons n ns ih => simp [decNames, ih]

theorem decPairs_enc (m : List (Nat × Option V)) (rest : List (LTok N V C)) :
    decPairs m.length (encPairs m ++ rest) = some (m, rest) := by
  induction m with
  | nil => simp [decPairs, encPairs]
  | cons p m ih =>
    simp only [encPairs, List.flatMap_cons, List.length_cons, List.cons_append, List.nil_append, decPairs] at ih ⊢
    simp [ih]

theorem decSteps_enc (es : List (List (Nat × Option V))) (rest : List (LTok N V C)) :
    decSteps es.length (encSteps es ++ rest) = some (es, rest) := by
  induction es with
  | nil => simp [decSteps, encSteps]
  | cons m es ih =>
    simp only [encSteps, List.flatMap_cons, encStepL, List.length_cons, List.cons_append, List.append_assoc, decSteps] at ih ⊢
    rw [decPairs_enc]
    simp [ih]

end LCodec

section Exports
variable {P B N V : Type} [DecidableEq P] [DecidableEq N]

theorem readLogFile_toCborFile (c : Codec (CLog N V) B) (hc : c.Lawful) (fs : Fs P B) (p : P) (log : Log N V)
    (h : ∀ s ∈ log, (s.map Prod.fst).Nodup) : readLogFile c (toCborFile c fs p log) p = some log := by
  simp [readLogFile, toCborFile, writeFile_read, decWhole_enc c hc, decompress_compress log h]

theorem readLogFile_toCborFile_other (c : Codec (CLog N V) B) (fs : Fs P B) (p q : P) (log : Log N V) (h : q ≠ p) :
    readLogFile c (toCborFile c fs p log) q = readLogFile c fs q := by
  simp [readLogFile, toCborFile, writeFile_other _ _ _ _ h]

theorem exportAll_other (c : Codec (CLog N V) B) (ops : List (P × Log N V)) (fs : Fs P B) (p : P)
    (h : ∀ e ∈ ops, e.1 ≠ p) : fsRead (exportAll c ops fs) p = fsRead fs p := by
  induction ops generalizing fs with
  | nil => rfl
  | cons e ops ih =>
    obtain ⟨q, l⟩ := e
    simp only [exportAll]
    rw [ih _ (fun e he => h e (List.mem_cons_of_mem _ he))]
    have hq : p ≠ q := fun e => h (q, l) (List.mem_cons_self) e.symm
    simp [toCborFile, writeFile_other _ _ _ _ hq]

theorem exportAll_append (c : Codec (CLog N V) B) (a b : List (P × Log N V)) (fs : Fs P B) :
    exportAll c (a ++ b) fs = exportAll c b (exportAll c a fs) := by
  induction a generalizing fs with
  | nil => rfl
  | cons e a ih => obtain ⟨q, l⟩ := e; simp only [List.cons_append, exportAll, ih]

end Exports

section Experiment
variable {B N V : Type} [DecidableEq N]

theorem mem_jobs (problems : List String) (runs : Nat) (r : Nat) (p : String) :
    (r, p) ∈ jobs problems runs ↔ r < runs ∧ p ∈ problems := by
  simp [jobs, List.mem_flatMap, List.mem_range]

theorem runJobs_cons_ok {c : Codec (CLog N V) B} {run logFlag j js} {fs fs' : Fs RecPath B}
    (h : runJobs c run logFlag (j :: js) fs = .ok fs') :
    ∃ log, run j.2 j.1 = .ok log ∧
      runJobs c run logFlag js (if logFlag then toCborFile c fs (.runLog j.2 j.1) log else fs) = .ok fs' := by
  obtain ⟨r, p⟩ := j
  rw [runJobs] at h
  cases hr : run p r with
  | error e => rw [hr] at h; cases h
  | ok log => rw [hr] at h; exact ⟨log, rfl, h⟩

/-- The jobs leave alone every path that is no job's log file (every path, if nothing is logged). -/
theorem runJobs_frame (c : Codec (CLog N V) B) (run : String → Nat → Except Fail (Log N V)) (logFlag : Bool)
    (js : List (Nat × String)) (fs fs' : Fs RecPath B) (h : runJobs c run logFlag js fs = .ok fs') (q : RecPath)
    (hq : logFlag = false ∨ ∀ j ∈ js, RecPath.runLog j.2 j.1 ≠ q) : fsRead fs' q = fsRead fs q := by
  induction js generalizing fs with
  | nil => cases h; rfl
  | cons j js ih =>
    obtain ⟨log, _, h⟩ := runJobs_cons_ok h
    rw [ih _ h (hq.imp_right fun hj j hm => hj j (List.mem_cons_of_mem _ hm))]
    rcases hq with rfl | hq
    · rfl
    · cases logFlag
      · rfl
      · exact writeFile_other _ _ _ _ (hq _ List.mem_cons_self).symm

theorem runJobs_logs (c : Codec (CLog N V) B) (hc : c.Lawful) (run : String → Nat → Except Fail (Log N V))
    (hnd : ∀ p r log, run p r = .ok log → ∀ s ∈ log, (s.map Prod.fst).Nodup)
    (js : List (Nat × String)) (fs fs' : Fs RecPath B) (h : runJobs c run true js fs = .ok fs') :
    ∀ r p, (r, p) ∈ js → ∃ log, run p r = .ok log ∧ readLogFile c fs' (.runLog p r) = some log := by
  induction js generalizing fs with
  | nil => intro r p hm; cases hm
  | cons j js ih =>
    obtain ⟨log0, hr, h⟩ := runJobs_cons_ok h
    intro r p hm
    by_cases hin : (r, p) ∈ js
    · exact ih _ h r p hin
    · cases (List.mem_cons.1 hm).resolve_right hin
      refine ⟨log0, hr, ?_⟩
      rw [readLogFile, runJobs_frame c run true js _ fs' h _ (Or.inr fun j hj e => hin (by cases e; exact hj))]
      exact readLogFile_toCborFile c hc fs _ log0 (hnd _ _ log0 hr)

/-- An experiment that returns `Ok` has run every job — whether or not it logs. -/
theorem runJobs_all_ok (c : Codec (CLog N V) B) (run : String → Nat → Except Fail (Log N V)) (logFlag : Bool)
    (js : List (Nat × String)) (fs fs' : Fs RecPath B) (h : runJobs c run logFlag js fs = .ok fs') :
    ∀ j ∈ js, ∃ log, run j.2 j.1 = .ok log := by
  induction js generalizing fs with
  | nil => exact fun _ hj => nomatch hj
  | cons j js ih =>
    obtain ⟨log, hr, h⟩ := runJobs_cons_ok h
    exact List.forall_mem_cons.2 ⟨⟨log, hr⟩, ih _ h⟩

theorem parExperiment_config (c : Codec (CLog N V) B) (cfgBytes : List B) (run : String → Nat → Except Fail (Log N V))
    (problems : List String) (runs : Nat) (logFlag : Bool) (fs fs' : Fs RecPath B)
    (h : parExperiment c cfgBytes run problems runs logFlag fs = .ok fs') : fsRead fs' .config = some cfgBytes := by
  rw [runJobs_frame c run logFlag _ _ fs' h .config (Or.inr fun _ _ e => nomatch e)]
  exact writeFile_read fs .config cfgBytes

end Experiment

mutual
  theorem progNode_injective : ∀ a b : Node, progNode a = progNode b → a = b := fun a b h => by
    -- the root names tell the constructors apart; the six diagonal cases are left, with parameters and bodies
    cases a <;> cases b <;> injection h with h1 h2 h3 <;> simp only [String.reduceEq] at h1 <;>
      simp only [CForest.cons.injEq, CTree.node.injEq, List.cons.injEq, Param.val.injEq, Nat.toString_eq_repr,
        Nat.repr_inj, and_true, true_and] at h2 h3
    · rfl                                                -- log, log
    · rw [h2]                                            -- setx, setx
    · rw [h2]                                            -- addx, addx
    · rw [h3.1, progForest_injective _ _ h3.2]           -- loop, loop
    · rw [progForest_injective _ _ h3]                   -- scope, scope
    · rw [h3.1, progForest_injective _ _ h3.2]           -- ifx, ifx
  theorem progForest_injective : ∀ a b : Nodes, progForest a = progForest b → a = b
    | .nil, .nil, _ => rfl
    | .cons t ts, .cons u us, h => by
      injection h with h1 h2
      rw [progNode_injective t u h1, progForest_injective ts us h2]
end

mutual
  theorem progNode_noPh : ∀ a : Node, noPh (progNode a) = true
    | .log => rfl
    | .setx _ => rfl
    | .addx _ => rfl
    | .loop _ body => by simp only [progNode, noPh, noPhF, progForest_noPh body]; rfl
    | .scope body => by simp only [progNode, noPh, noPhF, progForest_noPh body]; rfl
    | .ifx _ body => by simp only [progNode, noPh, noPhF, progForest_noPh body]; rfl
  theorem progForest_noPh : ∀ a : Nodes, noPhF (progForest a) = true
    | .nil => rfl
    | .cons t ts => by rw [progForest, noPhF, progNode_noPh t, progForest_noPh ts]; rfl
end

theorem progTree_noPh (p : Nodes) : noPh (progTree p) = true := by
  rw [progTree, noPh, progForest_noPh p]; rfl

end MahfModel.Log
