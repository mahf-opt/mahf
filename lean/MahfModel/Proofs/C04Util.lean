/- What the utility components do to one population, no stack involved: `splitPop` panics or answers with a legal pair
of halves, of which the stable sort is one (`splitPop_cases`); `interleave` in closed form. Core only. -/
import MahfModel.Model.PopStack
namespace MahfModel.PopStack

theorem splittable_iff (p : Pop) : splittable p = true ↔ 2 ≤ p.length ∧ ∀ i ∈ p, i.obj.isSome := by
  simp only [splittable, Bool.and_eq_true, decide_eq_true_eq, List.all_eq_true]

theorem splitLegal_iff (p l u : Pop) :
    splitLegal p l u = true ↔
      l.length = (p.length + 1) / 2 ∧ (l ++ u).Perm p ∧ (l ++ u).Pairwise (fun a b => key a ≤ key b) := by
  simp only [splitLegal, Bool.and_eq_true, decide_eq_true_eq, List.isPerm_iff, and_assoc]

/-- The sizes of the two chunks `chunks(⌈n/2⌉)` cuts `n` individuals into. -/
theorem half_add_half (n : Nat) : (n + 1) / 2 + n / 2 = n := by
  omega

theorem splitCanon_legal (p : Pop) : splitLegal p (splitCanon p).1 (splitCanon p).2 = true := by
  rw [splitLegal_iff]
  dsimp only [splitCanon]
  rw [List.take_append_drop]
  refine ⟨?_, List.mergeSort_perm _ _, ?_⟩
  · rw [List.length_take, List.length_mergeSort]; exact Nat.min_eq_left (Nat.le.intro (half_add_half _))
  · have := List.pairwise_mergeSort (le := objLe)
      (fun a b c hab hbc => by simp only [objLe, decide_eq_true_eq] at *; exact Nat.le_trans hab hbc)
      (fun a b => by simp only [objLe, Bool.or_eq_true, decide_eq_true_eq]; exact Nat.le_total _ _) p
    simpa only [objLe, decide_eq_true_eq] using this

@[elab_as_elim]
theorem splitPop_cases {motive : Option (Pop × Pop) → Prop} (p : Pop) (ws : Option (Pop × Pop))
    (none : splittable p = false → motive none)
    (some : ∀ l u, splittable p = true → splitLegal p l u = true → motive (some (l, u))) :
    motive (splitPop p ws) := by
  unfold splitPop
  cases hs : splittable p with
  | false => exact none hs
  | true =>
    have canon := some _ _ hs (splitCanon_legal p)
    rw [if_pos rfl]
    rcases ws with _ | ⟨l, u⟩
    · exact canon
    · dsimp only
      split
      · next hl => exact some l u hs hl
      · exact canon

theorem splitPop_eq_none_iff (p : Pop) (ws : Option (Pop × Pop)) : splitPop p ws = none ↔ splittable p = false := by
  refine splitPop_cases p ws (fun h => ?_) (fun l u h _ => ?_) <;> simp [h]

theorem interleave_nil_right (a : Pop) : interleave a [] = a := by
  cases a <;> rfl

theorem interleave_eq (a b : Pop) :
    interleave a b = (List.zip a b).flatMap (fun xy => [xy.1, xy.2]) ++ a.drop b.length ++ b.drop a.length := by
  fun_induction interleave a b <;> simp_all

theorem interleave_perm (a b : Pop) : (interleave a b).Perm (a ++ b) := by
  fun_induction interleave a b with
  | case3 x xs y ys ih => exact ((ih.cons y).trans List.perm_middle.symm).cons x
  | _ => simp

theorem interleave_sublist_left (a b : Pop) : a.Sublist (interleave a b) := by
  fun_induction interleave a b with
  | case1 => exact List.nil_sublist _
  | case2 => exact .refl _
  | case3 x xs y ys ih => exact (ih.cons y).cons_cons x

theorem interleave_sublist_right (a b : Pop) : b.Sublist (interleave a b) := by
  fun_induction interleave a b with
  | case1 => exact .refl _
  | case2 => exact List.nil_sublist _
  | case3 x xs y ys ih => exact (ih.cons_cons y).cons x

end MahfModel.PopStack
