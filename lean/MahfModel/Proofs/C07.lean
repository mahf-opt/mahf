/- The order on individuals by objective value (`objLe`, `objLt`: both evaluated and `≤` / `<`), the first minimum
(`min_by_key`, `best_individual`), and the best-so-far record: the three outcomes of `BestIndividual::update` (`bestUpdate_spec`),
"a minimum of everything seen" (`IsMinOf`), and one best update as a relation `Offers` that the first-minimum model satisfies and,
in `Proofs/C07Ties`, every legal witness: the history lemmas are inductions over `Offers`. -/
import MahfModel.Proofs.PopMachine
import MahfModel.Proofs.Pick
import Mathlib.Order.Defs.LinearOrder
namespace MahfModel.PopMachine

variable {O : Type} [LinearOrder O]

/-- Both evaluated and `a`'s objective value ≤ `b`'s. -/
def objLe (a b : Ind O) : Prop := ∃ x y, a.obj = some x ∧ b.obj = some y ∧ x ≤ y
/-- Both evaluated and `a`'s objective value < `b`'s. -/
def objLt (a b : Ind O) : Prop := ∃ x y, a.obj = some x ∧ b.obj = some y ∧ x < y

/-! ### comparing individuals by objective value -/

theorem objLe.trans {a b c : Ind O} : objLe a b → objLe b c → objLe a c := by
  rintro ⟨x, y, hx, hy, hxy⟩ ⟨y', z, hy', hz, hyz⟩
  obtain rfl : y = y' := Option.some.inj (hy.symm.trans hy')
  exact ⟨x, z, hx, hz, le_trans hxy hyz⟩

theorem objLt.trans_le {a b c : Ind O} : objLt a b → objLe b c → objLt a c := by
  rintro ⟨x, y, hx, hy, hxy⟩ ⟨y', z, hy', hz, hyz⟩
  obtain rfl : y = y' := Option.some.inj (hy.symm.trans hy')
  exact ⟨x, z, hx, hz, lt_of_lt_of_le hxy hyz⟩

theorem objLe.trans_lt {a b c : Ind O} : objLe a b → objLt b c → objLt a c := by
  rintro ⟨x, y, hx, hy, hxy⟩ ⟨y', z, hy', hz, hyz⟩
  obtain rfl : y = y' := Option.some.inj (hy.symm.trans hy')
  exact ⟨x, z, hx, hz, lt_of_le_of_lt hxy hyz⟩

theorem objLt.le {a b : Ind O} : objLt a b → objLe a b := by
  rintro ⟨x, y, hx, hy, hxy⟩
  exact ⟨x, y, hx, hy, le_of_lt hxy⟩

theorem objLe.not_objLt {a b : Ind O} : objLe a b → ¬ objLt b a := by
  rintro ⟨x, y, hx, hy, hxy⟩ ⟨y', x', hy', hx', hlt⟩
  obtain rfl : x = x' := Option.some.inj (hx.symm.trans hx')
  obtain rfl : y = y' := Option.some.inj (hy.symm.trans hy')
  exact (not_lt.mpr hxy) hlt

theorem objLe.antisymm {a b : Ind O} : objLe a b → objLe b a → a.obj = b.obj := by
  rintro ⟨x, y, hx, hy, hxy⟩ ⟨y', x', hy', hx', hyx⟩
  obtain rfl : x = x' := Option.some.inj (hx.symm.trans hx')
  obtain rfl : y = y' := Option.some.inj (hy.symm.trans hy')
  rw [hx, hy, le_antisymm hxy hyx]

theorem objLe_of_not_objLt {a b : Ind O} (ha : a.obj.isSome) (hb : b.obj.isSome) (h : ¬ objLt b a) : objLe a b := by
  obtain ⟨x, hx⟩ := Option.isSome_iff_exists.mp ha
  obtain ⟨y, hy⟩ := Option.isSome_iff_exists.mp hb
  exact ⟨x, y, hx, hy, not_lt.mp fun hlt => h ⟨y, x, hy, hx, hlt⟩⟩

-- stated with the order of this file, which `keyed` does not need
set_option linter.unusedSectionVars false in
theorem keyed_all_of_some : ∀ (p : List (Ind O)) kp, keyed p = some kp → ∀ i ∈ p, i.obj.isSome := by
  intro p kp h i hi
  obtain ⟨h1, h2⟩ := keyed_spec p kp h
  rw [← h1] at hi
  rcases List.mem_map.mp hi with ⟨x, hx, rfl⟩
  simp [h2 x hx]

/-! ### first minimum -/

section Min
variable {α : Type} (key : α → O)

theorem minByKey_first (l : List α) (m : α) (h : minByKey key l = some m) :
    ∃ pre post, l = pre ++ m :: post ∧ (∀ z ∈ pre, key m < key z) ∧ (∀ z ∈ post, key m ≤ key z) := by
  cases l with
  | nil => cases h
  | cons x xs =>
    cases h
    exact Pick.foldPick_first (fun y m => key y < key m) (fun _ => True) (fun m z => key m < key z) (fun m z => key m ≤ key z)
      (fun _ _ _ _ h => ⟨h, fun _ => lt_trans h, fun _ => lt_of_lt_of_le h⟩) (fun _ _ _ _ => not_lt.mp) x xs
      (fun _ _ => trivial)

theorem minByKey_le (l : List α) (m : α) (h : minByKey key l = some m) : m ∈ l ∧ ∀ z ∈ l, key m ≤ key z := by
  obtain ⟨pre, post, rfl, h2, h3⟩ := minByKey_first key l m h
  exact ⟨List.mem_append_right _ List.mem_cons_self, List.forall_mem_append.mpr
    ⟨fun z hz => le_of_lt (h2 z hz), List.forall_mem_cons.mpr ⟨le_refl _, h3⟩⟩⟩

end Min

theorem bestIndividual_first (p : List (Ind O)) (m : Ind O) (h : bestIndividual p = some (some m)) :
    ∃ pre post, p = pre ++ m :: post ∧ (∀ z ∈ pre, objLt m z) ∧ (∀ z ∈ post, objLe m z) ∧ m.obj.isSome := by
  obtain ⟨kp, hk, hm⟩ := bestIndividual_some p _ h
  obtain ⟨mk, hmk, rfl⟩ := Option.map_eq_some_iff.mp hm.symm
  obtain ⟨hk1, hk2⟩ := keyed_spec p kp hk
  obtain ⟨pre, post, rfl, h2, h3⟩ := minByKey_first (fun x : Ind O × O => x.2) kp mk hmk
  have hobj := fun z hz => hk2 z (List.mem_append.mpr hz)
  have hmo := hobj mk (Or.inr List.mem_cons_self)
  exact ⟨pre.map (·.1), post.map (·.1), by rw [← hk1, List.map_append, List.map_cons],
    List.forall_mem_map.mpr fun zk hzk => ⟨mk.2, zk.2, hmo, hobj zk (Or.inl hzk), h2 zk hzk⟩,
    List.forall_mem_map.mpr fun zk hzk => ⟨mk.2, zk.2, hmo, hobj zk (Or.inr (List.mem_cons_of_mem _ hzk)), h3 zk hzk⟩,
    by rw [hmo]; rfl⟩

theorem bestIndividual_min (p : List (Ind O)) (m : Ind O) (h : bestIndividual p = some (some m)) :
    m ∈ p ∧ ∀ z ∈ p, objLe m z := by
  obtain ⟨pre, post, rfl, h2, h3, h4⟩ := bestIndividual_first p m h
  exact ⟨List.mem_append_right _ List.mem_cons_self, List.forall_mem_append.mpr
    ⟨fun z hz => (h2 z hz).le, List.forall_mem_cons.mpr ⟨objLe_of_not_objLt h4 h4 fun hlt => hlt.le.not_objLt hlt, h3⟩⟩⟩

/-! ### the best-so-far record -/

/-- The three outcomes of `BestIndividual::update`: no record yet; the candidate is strictly better and replaces
the record; otherwise the record stays — and is then at least as good as the candidate. -/
theorem bestUpdate_spec (best b' : Option (Ind O)) (c : Ind O) (r : Bool) (h : bestUpdate best c = some (b', r)) :
    (best = none ∧ b' = some c ∧ r = true) ∨
    (∃ b, best = some b ∧ objLt c b ∧ b' = some c ∧ r = true) ∨
    (∃ b, best = some b ∧ objLe b c ∧ b' = some b ∧ r = false) := by
  cases best with
  | none => cases h; exact Or.inl ⟨rfl, by rw [Ind.clone_eq], rfl⟩
  | some b =>
    simp only [bestUpdate] at h
    split at h
    · rename_i co bo hco hbo
      split at h
      · rename_i hlt
        cases h; exact Or.inr (Or.inl ⟨b, rfl, ⟨co, bo, hco, hbo, hlt⟩, by rw [Ind.clone_eq], rfl⟩)
      · rename_i hlt
        cases h; exact Or.inr (Or.inr ⟨b, rfl, ⟨bo, co, hbo, hco, not_lt.mp hlt⟩, rfl, rfl⟩)
    · cases h

theorem bestUpdate_dominates (best b' : Option (Ind O)) (c : Ind O) (r : Bool) (p : List (Ind O))
    (hc : ∀ i ∈ p, objLe c i) (h : bestUpdate best c = some (b', r)) : ∀ i ∈ p, ∃ b, b' = some b ∧ objLe b i := by
  rcases bestUpdate_spec best b' c r h with ⟨_, rfl, _⟩ | ⟨_, _, _, rfl, _⟩ | ⟨b, _, hle, rfl, _⟩
  · exact fun i hi => ⟨c, rfl, hc i hi⟩
  · exact fun i hi => ⟨c, rfl, hc i hi⟩
  · exact fun i hi => ⟨b, rfl, hle.trans (hc i hi)⟩

/-- `b` is a minimum of `S` and a member of it (or `S` is empty and there is no best). -/
def IsMinOf (b : Option (Ind O)) (S : List (Ind O)) : Prop :=
  match b with
  | none => S = []
  | some x => x ∈ S ∧ ∀ i ∈ S, objLe x i

theorem isMinOf_obj_unique (a b : Option (Ind O)) (S : List (Ind O)) (ha : IsMinOf a S) (hb : IsMinOf b S) :
    a.bind (·.obj) = b.bind (·.obj) := by
  cases a with
  | none =>
    obtain rfl : S = [] := ha
    cases b with
    | none => rfl
    | some y => cases hb.1
  | some x =>
    cases b with
    | none => obtain rfl : S = [] := hb; cases ha.1
    | some y => exact (ha.2 y hb.1).antisymm (hb.2 x ha.1)

theorem IsMinOf.spec {r : Option (Ind O)} {S : List (Ind O)} (h : IsMinOf r S) :
    (r = none ↔ S = []) ∧ ∀ b, r = some b → b ∈ S ∧ ∀ i ∈ S, objLe b i := by
  cases r with
  | none => exact ⟨⟨fun _ => h, fun _ => rfl⟩, fun _ hb => (nomatch hb)⟩
  | some x => exact ⟨⟨fun hx => (nomatch hx), fun he => absurd h.1 (he ▸ List.not_mem_nil)⟩, fun _ hb => Option.some.inj hb ▸ h⟩

/-- One `BestIndividualUpdate` on the population `p`, whichever of its minimal members is offered to the record
(an empty population offers nothing). The first-minimum model and the witness model are both instances. -/
def Offers (b : Option (Ind O)) (p : List (Ind O)) (b' : Option (Ind O)) : Prop :=
  (p = [] ∧ b' = b) ∨ ∃ c r, c ∈ p ∧ (∀ i ∈ p, objLe c i) ∧ bestUpdate b c = some (b', r)

/-- Offering ANY minimal member of `p` keeps "the record is a minimum of everything seen so far". -/
theorem Offers.isMinOf {b b' : Option (Ind O)} {p : List (Ind O)} (h : Offers b p b') (S : List (Ind O))
    (hb : IsMinOf b S) : IsMinOf b' (S ++ p) := by
  rcases h with ⟨rfl, rfl⟩ | ⟨c, r, hc1, hc2, hr⟩
  · rw [List.append_nil]; exact hb
  rcases bestUpdate_spec b b' c r hr with ⟨rfl, rfl, _⟩ | ⟨x, rfl, hlt, rfl, _⟩ | ⟨x, rfl, hle, rfl, _⟩
  · obtain rfl : S = [] := hb
    exact ⟨hc1, hc2⟩
  · exact ⟨List.mem_append_right _ hc1, List.forall_mem_append.mpr ⟨fun i hi => (hlt.trans_le (hb.2 i hi)).le, hc2⟩⟩
  · exact ⟨List.mem_append_left _ hb.1, List.forall_mem_append.mpr ⟨hb.2, fun i hi => hle.trans (hc2 i hi)⟩⟩

theorem Offers.improves {x : Ind O} {b' : Option (Ind O)} {p : List (Ind O)} (h : Offers (some x) p b') :
    ∃ x', b' = some x' ∧ (x' = x ∨ objLt x' x) := by
  rcases h with ⟨_, rfl⟩ | ⟨c, r, _, _, hr⟩
  · exact ⟨x, rfl, Or.inl rfl⟩
  · rcases bestUpdate_spec (some x) b' c r hr with ⟨h0, _⟩ | ⟨x0, h0, hlt, rfl, _⟩ | ⟨x0, h0, _, rfl, _⟩
    · cases h0
    · cases h0; exact ⟨c, rfl, Or.inr hlt⟩
    · cases h0; exact ⟨x, rfl, Or.inl rfl⟩

/-! ### feeding populations to the best-individual update -/

/-- `BestIndividualUpdate` with `p` as the current population. -/
def feed (best : Option (Ind O)) (p : List (Ind O)) : Option (Option (Ind O)) :=
  (bestUpdateStep ({ stack := [p], best := best } : PM O)).map (·.best)

def feedAll : Option (Ind O) → List (List (Ind O)) → Option (Option (Ind O))
  | b, [] => some b
  | b, p :: ps =>
    match feed b p with
    | none => none
    | some b' => feedAll b' ps

theorem feed_offers {b b' : Option (Ind O)} {p : List (Ind O)} (h : feed b p = some b') : Offers b p b' := by
  obtain ⟨pm', hpm, rfl⟩ := Option.map_eq_some_iff.mp h
  obtain ⟨_, _, hst, h⟩ := bestUpdateStep_some hpm
  obtain ⟨rfl, _⟩ := List.cons.inj hst
  rcases h with ⟨rfl, rfl⟩ | ⟨c, b', r, hbi, hr, rfl⟩
  · exact Or.inl ⟨rfl, rfl⟩
  · exact Or.inr ⟨c, r, (bestIndividual_min _ c hbi).1, (bestIndividual_min _ c hbi).2, hr⟩

theorem feedAll_isMinOf (ps : List (List (Ind O))) (b r : Option (Ind O)) (S : List (Ind O))
    (hb : IsMinOf b S) (h : feedAll b ps = some r) : IsMinOf r (S ++ ps.flatten) := by
  induction ps generalizing b S with
  | nil => cases h; rw [List.flatten_nil, List.append_nil]; exact hb
  | cons p ps ih =>
    rw [feedAll] at h
    split at h
    · cases h
    · rename_i b' hf
      rw [List.flatten_cons, ← List.append_assoc]
      exact ih b' (S ++ p) ((feed_offers hf).isMinOf S hb) h

end MahfModel.PopMachine
