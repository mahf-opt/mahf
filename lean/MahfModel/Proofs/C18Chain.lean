/- Registry chains (`Model/PsoNest.lean`): components executed on a chain only write to the top-most registry once that registry
has been initialised for them (coverage `cov`; `TopOnly`, `exec_top`), which is exactly what `Scope` does; hence a `Scope` gives the
enclosing registries back as they were (`scope_frame`), and a block of scoped components changes nothing (`scoped_block_frame`). -/
import MahfModel.Model.PsoNest
namespace MahfModel.Pso

section chain
variable {F : Type}

/-- Everything the first registry has, the second has as well. -/
structure Frame.le (a b : Frame F) : Prop where
  iters : a.iters.isSome = true → b.iters.isSome = true
  evals : a.evals.isSome = true → b.evals.isSome = true
  progIter : a.progIter.isSome = true → b.progIter.isSome = true
  progEval : a.progEval.isSome = true → b.progEval.isSome = true

theorem Frame.le_refl (a : Frame F) : Frame.le a a := ⟨id, id, id, id⟩
theorem Frame.le_trans {a b c : Frame F} (h1 : Frame.le a b) (h2 : Frame.le b c) : Frame.le a c :=
  ⟨fun h => h2.iters (h1.iters h), fun h => h2.evals (h1.evals h), fun h => h2.progIter (h1.progIter h),
   fun h => h2.progEval (h1.progEval h)⟩

/-- The registry holds the `Progress` entries the condition writes to. -/
def Cond.cov (fr : Frame F) : Cond → Bool
  | .ltIter _ => fr.progIter.isSome
  | .ltEval _ => fr.progEval.isSome
  | .not c => Cond.cov fr c
  | .and a b => Cond.cov fr a && Cond.cov fr b
  | .or a b => Cond.cov fr a && Cond.cov fr b

mutual
/-- The registry holds everything the component writes to (outside its own scopes). -/
def Comp.cov (fr : Frame F) : Comp → Bool
  | .nop => true
  | .evals => fr.evals.isSome
  | .loop c b => fr.iters.isSome && Cond.cov fr c && Comps.cov fr b
  | .branch c b => Cond.cov fr c && Comps.cov fr b
  | .scope _ => true
def Comps.cov (fr : Frame F) : Comps → Bool
  | .nil => true
  | .cons c cs => Comp.cov fr c && Comps.cov fr cs
end

theorem Cond.cov_mono {a b : Frame F} (h : Frame.le a b) (c : Cond) : Cond.cov a c = true → Cond.cov b c = true := by
  induction c with
  | ltIter n => exact h.progIter
  | ltEval n => exact h.progEval
  | not c ih => exact ih
  | and x y ihx ihy | or x y ihx ihy =>
    simp only [Cond.cov, Bool.and_eq_true]; exact fun ⟨p, q⟩ => ⟨ihx p, ihy q⟩

mutual
theorem Comp.cov_mono {a b : Frame F} (h : Frame.le a b) : ∀ c : Comp, Comp.cov a c = true → Comp.cov b c = true
  | .nop => fun _ => rfl
  | .evals => h.evals
  | .loop c body => by
    simp only [Comp.cov, Bool.and_eq_true]
    exact fun ⟨⟨p, q⟩, r⟩ => ⟨⟨h.iters p, Cond.cov_mono h c q⟩, Comps.cov_mono h body r⟩
  | .branch c body => by
    simp only [Comp.cov, Bool.and_eq_true]
    exact fun ⟨q, r⟩ => ⟨Cond.cov_mono h c q, Comps.cov_mono h body r⟩
  | .scope _ => fun _ => rfl
theorem Comps.cov_mono {a b : Frame F} (h : Frame.le a b) : ∀ cs : Comps, Comps.cov a cs = true → Comps.cov b cs = true
  | .nil => fun _ => rfl
  | .cons c cs => by
    simp only [Comps.cov, Bool.and_eq_true]
    exact fun ⟨p, q⟩ => ⟨Comp.cov_mono h c p, Comps.cov_mono h cs q⟩
end

theorem condInitC_top (zero : F) (c : Cond) (fr : Frame F) (rest : Chain F) :
    ∃ fr', condInitC zero c (fr :: rest) = fr' :: rest ∧ Frame.le fr fr' ∧ Cond.cov fr' c = true := by
  induction c generalizing fr with
  | ltIter n => exact ⟨_, rfl, ⟨id, id, fun _ => rfl, id⟩, rfl⟩
  | ltEval n => exact ⟨_, rfl, ⟨id, id, id, fun _ => rfl⟩, rfl⟩
  | not c ih => exact ih fr
  | and a b iha ihb | or a b iha ihb =>
    obtain ⟨f1, h1, l1, c1⟩ := iha fr
    obtain ⟨f2, h2, l2, c2⟩ := ihb f1
    refine ⟨f2, by simp only [condInitC, h1, h2], Frame.le_trans l1 l2, ?_⟩
    simp only [Cond.cov, Bool.and_eq_true]; exact ⟨Cond.cov_mono l2 a c1, c2⟩

mutual
theorem cinit_top (zero : F) : ∀ (c : Comp) (fr : Frame F) (rest : Chain F),
    ∃ fr', cinit zero c (fr :: rest) = fr' :: rest ∧ Frame.le fr fr' ∧ Comp.cov fr' c = true
  | .nop, fr, rest => ⟨fr, rfl, Frame.le_refl fr, rfl⟩
  | .evals, fr, rest => ⟨_, rfl, ⟨id, fun _ => rfl, id, id⟩, rfl⟩
  | .loop c b, fr, rest => by
    obtain ⟨f1, h1, l1, c1⟩ := condInitC_top zero c { fr with iters := some 0 } rest
    obtain ⟨f2, h2, l2, c2⟩ := cinits_top zero b f1 rest
    have l0 : Frame.le fr { fr with iters := some 0 } := ⟨fun _ => rfl, id, id, id⟩
    refine ⟨f2, by simp only [cinit, insTop, h1, h2], Frame.le_trans l0 (Frame.le_trans l1 l2), ?_⟩
    simp only [Comp.cov, Bool.and_eq_true]
    exact ⟨⟨(Frame.le_trans l1 l2).iters rfl, Cond.cov_mono l2 c c1⟩, c2⟩
  | .branch c b, fr, rest => by
    obtain ⟨f1, h1, l1, c1⟩ := condInitC_top zero c fr rest
    obtain ⟨f2, h2, l2, c2⟩ := cinits_top zero b f1 rest
    refine ⟨f2, by simp only [cinit, h1, h2], Frame.le_trans l1 l2, ?_⟩
    simp only [Comp.cov, Bool.and_eq_true]
    exact ⟨Cond.cov_mono l2 c c1, c2⟩
  | .scope _, fr, rest => ⟨fr, rfl, Frame.le_refl fr, rfl⟩
theorem cinits_top (zero : F) : ∀ (cs : Comps) (fr : Frame F) (rest : Chain F),
    ∃ fr', cinits zero cs (fr :: rest) = fr' :: rest ∧ Frame.le fr fr' ∧ Comps.cov fr' cs = true
  | .nil, fr, rest => ⟨fr, rfl, Frame.le_refl fr, rfl⟩
  | .cons c cs, fr, rest => by
    obtain ⟨f1, h1, l1, c1⟩ := cinit_top zero c fr rest
    obtain ⟨f2, h2, l2, c2⟩ := cinits_top zero cs f1 rest
    refine ⟨f2, by simp only [cinits, h1, h2], Frame.le_trans l1 l2, ?_⟩
    simp only [Comps.cov, Bool.and_eq_true]
    exact ⟨Comp.cov_mono l2 c c1, c2⟩
end

/-- `Iterations` and `Evaluations` are somewhere in the chain (the lenses of `LessThanN` succeed). -/
def HasCounters (ch : Chain F) : Prop :=
  (getFirst (fun fr => fr.iters) ch).isSome = true ∧ (getFirst (fun fr => fr.evals) ch).isSome = true

theorem getFirst_isSome_cons {α : Type} (get : Frame F → Option α) (fr : Frame F) (rest : Chain F) :
    (getFirst get (fr :: rest)).isSome = ((get fr).isSome || (getFirst get rest).isSome) := by
  simp only [getFirst]
  cases get fr <;> simp

theorem getFirst_cons_of_isSome {α : Type} {get : Frame F → Option α} {fr : Frame F} (rest : Chain F)
    (h : (get fr).isSome = true) : ∃ v, get fr = some v ∧ getFirst get (fr :: rest) = some v := by
  obtain ⟨v, hv⟩ := Option.isSome_iff_exists.mp h
  exact ⟨v, hv, by simp only [getFirst, hv]⟩

theorem hasCounters_mono {a b : Frame F} (h : Frame.le a b) (rest : Chain F) :
    HasCounters (a :: rest) → HasCounters (b :: rest) := by
  simp only [HasCounters, getFirst_isSome_cons, Bool.or_eq_true]
  exact fun ⟨h1, h2⟩ => ⟨h1.imp_left h.iters, h2.imp_left h.evals⟩

/-- What executing a covered component does to the chain: only the top-most registry changes (and
keeps what it had); with the counters in reach there is no `Err` / panic. -/
def TopOnly (r : CRes F) (fr : Frame F) (rest : Chain F) : Prop :=
  (∃ fr', r.chain = fr' :: rest ∧ Frame.le fr fr') ∧ (HasCounters (fr :: rest) → r.status = .ok)

theorem TopOnly.same {r : CRes F} {fr : Frame F} {rest : Chain F} (hc : r.chain = fr :: rest)
    (hs : HasCounters (fr :: rest) → r.status = .ok) : TopOnly r fr rest :=
  ⟨⟨fr, hc, Frame.le_refl fr⟩, hs⟩

theorem TopOnly.mono {r : CRes F} {fr f1 : Frame F} {rest : Chain F} (l : Frame.le fr f1)
    (h : TopOnly r f1 rest) : TopOnly r fr rest :=
  match h with
  | ⟨⟨f2, h2, l2⟩, ok⟩ => ⟨⟨f2, h2, Frame.le_trans l l2⟩, fun hh => ok (hasCounters_mono l rest hh)⟩

variable [Div F]

theorem evalCondC_top (cast : Nat → F) (c : Cond) (fr : Frame F) (rest : Chain F) (hc : Cond.cov fr c = true) :
    (evalCondC cast c (fr :: rest) = none ∧ ¬ HasCounters (fr :: rest)) ∨
    ∃ b fr', evalCondC cast c (fr :: rest) = some (b, fr' :: rest) ∧ Frame.le fr fr' := by
  induction c generalizing fr with
  | ltIter n =>
    simp only [Cond.cov] at hc
    simp only [evalCondC]
    cases hg : getFirst (fun fr => fr.iters) (fr :: rest) with
    | none => exact Or.inl ⟨rfl, fun h => by simp [HasCounters, hg] at h⟩
    | some it =>
      exact Or.inr ⟨decide (it < n), { fr with progIter := some (cast it / cast n) },
        by simp only [setFirst, hc, if_true], ⟨id, id, fun _ => rfl, id⟩⟩
  | ltEval n =>
    simp only [Cond.cov] at hc
    simp only [evalCondC]
    cases hg : getFirst (fun fr => fr.evals) (fr :: rest) with
    | none => exact Or.inl ⟨rfl, fun h => by simp [HasCounters, hg] at h⟩
    | some it =>
      exact Or.inr ⟨decide (it < n), { fr with progEval := some (cast it / cast n) },
        by simp only [setFirst, hc, if_true], ⟨id, id, id, fun _ => rfl⟩⟩
  | not c ih =>
    rcases ih fr hc with ⟨h, hn⟩ | ⟨b, fr', h, l1⟩
    · exact Or.inl ⟨by simp only [evalCondC, h], hn⟩
    · exact Or.inr ⟨!b, fr', by simp only [evalCondC, h], l1⟩
  | and x y ihx ihy | or x y ihx ihy =>
    simp only [Cond.cov, Bool.and_eq_true] at hc
    rcases ihx fr hc.1 with ⟨h, hn⟩ | ⟨b1, f1, h1, l1⟩
    · exact Or.inl ⟨by simp only [evalCondC, h], hn⟩
    · rcases ihy f1 (Cond.cov_mono l1 y hc.2) with ⟨h, hn⟩ | ⟨b2, f2, h2, l2⟩
      · exact Or.inl ⟨by simp only [evalCondC, h1, h], fun hh => hn (hasCounters_mono l1 rest hh)⟩
      · exact Or.inr ⟨_, f2, by simp only [evalCondC, h1, h2]; rfl, Frame.le_trans l1 l2⟩

/-- A `Scope` whose body only writes to the top-most registry gives the chain back as it was. -/
theorem scope_exec (cast : Nat → F) (zero : F) (N fuel : Nat) (b : Comps) (ch : Chain F)
    (hs : ∀ (fr : Frame F) (rest : Chain F), Comps.cov fr b = true →
      TopOnly (cexecs cast zero N fuel b (fr :: rest)) fr rest) :
    (cexec cast zero N (fuel + 1) (.scope b) ch).chain = ch ∧
    (HasCounters ch → (cexec cast zero N (fuel + 1) (.scope b) ch).status = .ok) := by
  simp only [cexec]
  obtain ⟨e1, h1, l1, c1⟩ := cinits_top zero b (Frame.empty : Frame F) ch
  rw [h1]
  obtain ⟨⟨e2, h2, _⟩, ok2⟩ := hs e1 ch c1
  rw [h2]
  -- the empty registry on top hides no counter
  exact ⟨rfl, fun hh => ok2 (hasCounters_mono l1 ch (show HasCounters (Frame.empty :: ch) from hh))⟩

theorem exec_top (cast : Nat → F) (zero : F) (N : Nat) : ∀ fuel : Nat,
    (∀ (c : Comp) (fr : Frame F) (rest : Chain F), Comp.cov fr c = true →
      TopOnly (cexec cast zero N fuel c (fr :: rest)) fr rest) ∧
    (∀ (cs : Comps) (fr : Frame F) (rest : Chain F), Comps.cov fr cs = true →
      TopOnly (cexecs cast zero N fuel cs (fr :: rest)) fr rest) ∧
    (∀ (c : Cond) (b : Comps) (fr : Frame F) (rest : Chain F), fr.iters.isSome = true → Cond.cov fr c = true →
      Comps.cov fr b = true → TopOnly (cloop cast zero N fuel c b (fr :: rest)) fr rest) := by
  intro fuel
  induction fuel with
  | zero =>
    refine ⟨fun c fr rest _ => ?_, fun cs fr rest _ => ?_, fun c b fr rest _ _ _ => ?_⟩ <;>
      simp only [cexec, cexecs, cloop] <;> exact .same rfl fun _ => rfl
  | succ fuel ih =>
    obtain ⟨ihc, ihs, ihl⟩ := ih
    refine ⟨?_, ?_, ?_⟩
    · intro c fr rest hc
      cases c with
      | nop => simp only [cexec]; exact .same rfl fun _ => rfl
      | evals =>
        obtain ⟨v, he, hv⟩ := getFirst_cons_of_isSome rest (get := fun fr => fr.evals) hc
        simp only [cexec, hv, setFirst, he, Option.isSome_some, if_true]
        exact ⟨⟨_, rfl, ⟨id, fun _ => rfl, id, id⟩⟩, fun _ => rfl⟩
      | loop c b =>
        simp only [Comp.cov, Bool.and_eq_true] at hc
        simp only [cexec]
        obtain ⟨f1, h1, l1, c1⟩ := condInitC_top zero c fr rest
        rw [h1]
        exact (ihl c b f1 rest (l1.iters hc.1.1) c1 (Comps.cov_mono l1 b hc.2)).mono l1
      | branch c b =>
        simp only [Comp.cov, Bool.and_eq_true] at hc
        simp only [cexec]
        rcases evalCondC_top cast c fr rest hc.1 with ⟨h, hn⟩ | ⟨bv, f1, h1, l1⟩
        · rw [h]; exact .same rfl fun hh => absurd hh hn
        · rw [h1]
          cases bv with
          | true => exact (ihs b f1 rest (Comps.cov_mono l1 b hc.2)).mono l1
          | false => exact ⟨⟨f1, rfl, l1⟩, fun _ => rfl⟩
      | scope b =>
        obtain ⟨h1, h2⟩ := scope_exec cast zero N fuel b (fr :: rest) (ihs b)
        exact .same h1 h2
    · intro cs fr rest hc
      cases cs with
      | nil => simp only [cexecs]; exact .same rfl fun _ => rfl
      | cons c cs =>
        simp only [Comps.cov, Bool.and_eq_true] at hc
        simp only [cexecs]
        obtain ⟨⟨f1, h1, l1⟩, ok1⟩ := ihc c fr rest hc.1
        cases hs : (cexec cast zero N fuel c (fr :: rest)).status with
        | ok =>
          simp only [h1]
          exact (ihs cs f1 rest (Comps.cov_mono l1 cs hc.2)).mono l1
        | err | panic => exact ⟨⟨f1, h1, l1⟩, fun hh => by rw [ok1 hh] at hs; cases hs⟩
    · intro c b fr rest hi hc hb
      simp only [cloop]
      rcases evalCondC_top cast c fr rest hc with ⟨h, hn⟩ | ⟨bv, f1, h1, l1⟩
      · rw [h]; exact .same rfl fun hh => absurd hh hn
      · rw [h1]
        cases bv with
        | false => exact ⟨⟨f1, rfl, l1⟩, fun _ => rfl⟩
        | true =>
          simp only
          obtain ⟨⟨f2, h2, l2⟩, ok2⟩ := ihs b f1 rest (Comps.cov_mono l1 b hb)
          have l12 := Frame.le_trans l1 l2
          cases hs : (cexecs cast zero N fuel b (f1 :: rest)).status with
          | ok =>
            have hi2 := l12.iters hi
            obtain ⟨v, he, hv⟩ := getFirst_cons_of_isSome rest (get := fun fr => fr.iters) hi2
            simp only [h2, hv, setFirst, hi2, if_true]
            have l3 : Frame.le fr { f2 with iters := f2.iters.map (· + 1) } :=
              Frame.le_trans l12 ⟨fun _ => by rw [he]; rfl, id, id, id⟩
            exact (ihl c b _ rest (by rw [he]; rfl) (Cond.cov_mono l3 c hc) (Comps.cov_mono l3 b hb)).mono l3
          | err | panic =>
            exact ⟨⟨f2, h2, l12⟩, fun hh => by rw [ok2 (hasCounters_mono l1 rest hh)] at hs; cases hs⟩

/-- A `Scope` gives the chain back as it was, whatever its body does, and does not fail when the
counters are in reach. -/
theorem scope_frame (cast : Nat → F) (zero : F) (N : Nat) (fuel : Nat) (b : Comps) (ch : Chain F) :
    (cexec cast zero N fuel (.scope b) ch).chain = ch ∧
    (HasCounters ch → (cexec cast zero N fuel (.scope b) ch).status = .ok) := by
  cases fuel with
  | zero => exact ⟨rfl, fun _ => rfl⟩
  | succ fuel => exact scope_exec cast zero N fuel b ch ((exec_top cast zero N fuel).2.1 b)

/-- Every component of the block is a `Scope` (or has no bookkeeping at all). -/
def Comps.allScoped : Comps → Bool
  | .nil => true
  | .cons (.scope _) cs => Comps.allScoped cs
  | .cons .nop cs => Comps.allScoped cs
  | .cons _ _ => false

theorem scoped_block_frame (cast : Nat → F) (zero : F) (N : Nat) (fuel : Nat) (cs : Comps) (ch : Chain F)
    (hs : Comps.allScoped cs = true) (hh : HasCounters ch) :
    (cexecs cast zero N fuel cs ch).chain = ch ∧ (cexecs cast zero N fuel cs ch).status = .ok := by
  induction fuel generalizing cs with
  | zero => exact ⟨rfl, rfl⟩
  | succ fuel ih =>
    rcases cs with _ | ⟨c, cs⟩
    · exact ⟨rfl, rfl⟩
    cases c with
    | nop =>
      cases fuel with
      | zero => exact ⟨rfl, rfl⟩
      | succ fuel => exact ih cs hs
    | scope b =>
      obtain ⟨h1, h2⟩ := scope_frame cast zero N fuel b ch
      simp only [cexecs, h2 hh, h1]
      exact ih cs hs
    | evals | loop _ _ | branch _ _ => cases hs

end chain

end MahfModel.Pso
