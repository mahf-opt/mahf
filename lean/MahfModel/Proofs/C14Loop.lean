/- C14 over a bare linear order: what the property demands of a repaired solution (stated with `≤` alone); the two repair loops
(reflection with fuel, resampling from a script) and the fold before the reflection; Saturation. The resampling loop and Saturation
meet the demand here, the operators that need arithmetic in `Proofs/C14`. -/
import MahfModel.Model.Boundary
import Mathlib.Order.Basic
namespace MahfModel.Boundary

/-! ### what the property demands of a repaired solution -/
section
variable {F : Type} [LE F]

/-- One coordinate: within ITS bounds, and unchanged if it already was. -/
def RepairedCoord (d : F × F) (x y : F) : Prop := d.1 ≤ y ∧ y ≤ d.2 ∧ (d.1 ≤ x → x ≤ d.2 → y = x)

/-- One solution: same dimension, every coordinate repaired against the range of its own dimension. -/
def Repaired (dom : List (F × F)) (sol ys : List F) : Prop :=
  ys.length = sol.length ∧
  ∀ k (hk : k < ys.length) (hx : k < sol.length) (hd : k < dom.length), RepairedCoord dom[k] sol[k] ys[k]

def AllInside (dom : List (F × F)) (ys : List F) : Prop :=
  ∀ k (hk : k < ys.length) (hd : k < dom.length), dom[k].1 ≤ ys[k] ∧ ys[k] ≤ dom[k].2

theorem Repaired.allInside {dom : List (F × F)} {sol ys : List F} (h : Repaired dom sol ys) : AllInside dom ys :=
  fun k hk hd => ⟨(h.2 k hk (h.1 ▸ hk) hd).1, (h.2 k hk (h.1 ▸ hk) hd).2.1⟩
end

section
variable {F : Type} [LinearOrder F]

theorem not_outside {a b x : F} : ¬ (x < a ∨ x > b) ↔ a ≤ x ∧ x ≤ b := by
  rw [not_or, not_lt, not_lt]

theorem inside_iff {a b x : F} : inside a b x = true ↔ a ≤ x ∧ x ≤ b := by
  rw [inside, Bool.and_eq_true, decide_eq_true_iff, decide_eq_true_iff]

variable [Add F] [Sub F]

theorem mirrorLoop_result (a b : F) (fuel : Nat) (x y : F) (h : mirrorLoop a b fuel x = some y) :
    ∃ k, k ≤ fuel ∧ y = mirrorIter a b k x ∧ a ≤ y ∧ y ≤ b := by
  fun_induction mirrorLoop a b fuel x with
  -- no fuel, outside
  | case1 => cases h
  -- no fuel, inside
  | case2 v hin => cases h; exact ⟨0, Nat.le_refl 0, rfl, not_outside.mp hin⟩
  | case3 fuel v _ ih =>  -- outside: one more pass
    obtain ⟨k, hk, e, hb⟩ := ih h
    exact ⟨k + 1, Nat.succ_le_succ hk, e, hb⟩
  -- inside: exit
  | case4 fuel v hin => cases h; exact ⟨0, Nat.zero_le _, rfl, not_outside.mp hin⟩

theorem mirrorLoop_inside (a b : F) (fuel : Nat) (x : F) (h1 : a ≤ x) (h2 : x ≤ b) :
    mirrorLoop a b fuel x = some x := by
  cases fuel <;> exact if_neg (not_outside.mpr ⟨h1, h2⟩)

theorem mirrorFold_near [Mul F] [OfNat F 0] [OfNat F 2] (rem : F → F → F) (a b x : F)
    (h1 : a - (b - a) ≤ x) (h2 : x ≤ b + (b - a)) : mirrorFold rem a b x = x :=
  if_neg fun h => h.2.elim (not_lt.mpr h1) (not_lt.mpr h2)
end

section
variable {F : Type} [Add F] [Sub F] [Mul F] [Div F] [OfNat F 3] [LinearOrder F]

theorem oneTailedLoop_inside (a b : F) (script : List F) (x : F) (h1 : a ≤ x) (h2 : x ≤ b) :
    oneTailedLoop a b script x = some (x, script) := by
  cases script with
  | nil => exact if_neg (not_outside.mpr ⟨h1, h2⟩)
  | cons s r => rw [oneTailedLoop, if_neg (not_lt.mpr h1), if_neg (not_lt.mpr h2)]

theorem oneTailedLoop_result (a b : F) (script : List F) (x y : F) (rest : List F)
    (h : oneTailedLoop a b script x = some (y, rest)) : a ≤ y ∧ y ≤ b ∧ ∃ k, rest = script.drop k := by
  fun_induction oneTailedLoop a b script x with
  -- script empty, outside
  | case1 => cases h
  -- script empty, inside
  | case2 v hin => cases h; exact ⟨(not_outside.mp hin).1, (not_outside.mp hin).2, 0, rfl⟩
  | case3 s t v _ ih =>  -- below: resample from `a`
    obtain ⟨h1, h2, k, hk⟩ := ih h
    exact ⟨h1, h2, k + 1, hk⟩
  | case4 s t v _ _ ih =>  -- above: resample from `b`
    obtain ⟨h1, h2, k, hk⟩ := ih h
    exact ⟨h1, h2, k + 1, hk⟩
  -- inside: exit
  | case5 s t v n1 n2 => cases h; exact ⟨not_lt.mp n1, not_lt.mp n2, 0, rfl⟩

theorem oneTailedLoop_repairs {a b x y : F} {script rest : List F}
    (h : oneTailedLoop a b script x = some (y, rest)) : RepairedCoord (a, b) x y :=
  ⟨(oneTailedLoop_result a b script x y rest h).1, (oneTailedLoop_result a b script x y rest h).2.1,
    fun h1 h2 => (Prod.mk.inj (Option.some.inj (h.symm.trans (oneTailedLoop_inside a b script x h1 h2)))).1⟩
end

/-! ### Saturation -/
section
variable {F : Type} [LinearOrder F]

theorem clamp_eq (x a b : F) (hab : a ≤ b) : clamp x a b = some (min b (max x a)) := by
  rw [max_def_lt, min_def_lt]
  exact if_pos hab

theorem saturation_repairs {x y : F} {d : F × F} (h : saturation x d = some y) : RepairedCoord d x y := by
  by_cases hab : d.1 ≤ d.2
  · cases (clamp_eq x d.1 d.2 hab).symm.trans h
    exact ⟨le_min hab (le_max_right _ _), min_le_left _ _, fun h1 h2 => by rw [max_eq_left h1, min_eq_right h2]⟩
  · rw [saturation, clamp, if_neg hab] at h; cases h
end

end MahfModel.Boundary
