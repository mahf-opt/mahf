/- C01: the chain of maps. Resolution (`find`; `resolve` is the one case split every keyed operation needs), the
abstraction `abs` to the stack of partial maps, edits of one cell of one scope, the cell-level accessors as closed
forms, the invariant `Inv` between two operations, an operation run `under` `parent_mut()^d`, and the found / absent
equations of the entry combinators and of `getAllMut`. -/
import MahfModel.Proofs.C01Scope
namespace MahfModel.Registry

theorem find_cons (s : Scope) (p : Reg) (k : Key) :
    find (s :: p) k = if s.has k then some 0 else (find p k).map (· + 1) := rfl

@[simp] theorem find_nil (k : Key) : find [] k = none := rfl

theorem scopeAt_zero (s : Scope) (p : Reg) : scopeAt (s :: p) 0 = s := rfl

theorem scopeAt_succ (s : Scope) (p : Reg) (i : Nat) : scopeAt (s :: p) (i + 1) = scopeAt p i := by
  simp [scopeAt]

theorem scopeAt_ge (r : Reg) (i : Nat) (h : r.length ≤ i) : scopeAt r i = [] := by
  simp [scopeAt, List.getD, List.getElem?_eq_none h]

theorem scopeAt_eq_getElem (r : Reg) (i : Nat) (h : i < r.length) : scopeAt r i = r[i] := by
  rw [scopeAt, List.getD_eq_getElem?_getD, List.getElem?_eq_getElem h]; rfl

theorem cellAt_lt (r : Reg) (i : Nat) (k : Key) (c : Cell) (h : cellAt r i k = some c) : i < r.length := by
  by_cases hi : i < r.length
  · exact hi
  · simp [cellAt, scopeAt_ge r i (Nat.le_of_not_lt hi)] at h

theorem scopeAt_modifyAt (r : Reg) (i j : Nat) (F : Scope → Scope) (h : i < r.length) :
    scopeAt (modifyAt r i F) j = if j = i then F (scopeAt r i) else scopeAt r j := by
  unfold scopeAt; exact getD_modifyAt r i j F [] h

theorem find_eq_some_iff (r : Reg) (k : Key) (i : Nat) :
    find r k = some i ↔ i < r.length ∧ (scopeAt r i).has k = true ∧ ∀ j, j < i → (scopeAt r j).has k = false := by
  rw [find, findIdx_eq_findIdx?, List.findIdx?_eq_some_iff_getElem]
  constructor
  · rintro ⟨hi, h1, h2⟩
    exact ⟨hi, scopeAt_eq_getElem r i hi ▸ h1,
      fun j hj => by rw [scopeAt_eq_getElem r j (Nat.lt_trans hj hi)]; exact Bool.eq_false_iff.mpr (h2 j hj)⟩
  · rintro ⟨hi, h1, h2⟩
    exact ⟨hi, scopeAt_eq_getElem r i hi ▸ h1,
      fun j hj => by rw [← scopeAt_eq_getElem r j (Nat.lt_trans hj hi), h2 j hj]; exact Bool.false_ne_true⟩

theorem find_eq_none_iff (r : Reg) (k : Key) : find r k = none ↔ ∀ i, (scopeAt r i).has k = false := by
  rw [find, findIdx_eq_findIdx?, List.findIdx?_eq_none_iff]
  refine ⟨fun h i => ?_, fun h s hs => ?_⟩
  · by_cases hi : i < r.length
    · rw [scopeAt_eq_getElem r i hi]; exact h _ (List.getElem_mem hi)
    · rw [scopeAt_ge r i (Nat.le_of_not_lt hi)]; rfl
  · obtain ⟨i, hi, rfl⟩ := List.mem_iff_getElem.mp hs
    rw [← scopeAt_eq_getElem r i hi, h i]

theorem find_lt (r : Reg) (k : Key) (i : Nat) (h : find r k = some i) : i < r.length :=
  ((find_eq_some_iff r k i).mp h).1

theorem find_has (r : Reg) (k : Key) (i : Nat) (h : find r k = some i) : (scopeAt r i).has k = true :=
  ((find_eq_some_iff r k i).mp h).2.1

theorem find_first (r : Reg) (k : Key) (i j : Nat) (h : find r k = some i) (hj : j < i) :
    (scopeAt r j).has k = false :=
  ((find_eq_some_iff r k i).mp h).2.2 j hj

theorem find_none (r : Reg) (k : Key) (h : find r k = none) (i : Nat) : (scopeAt r i).has k = false :=
  (find_eq_none_iff r k).mp h i

theorem find_cell (r : Reg) (k : Key) (i : Nat) (h : find r k = some i) : ∃ c, cellAt r i k = some c := by
  have := find_has r k i h
  simp only [Scope.has] at this
  exact Option.isSome_iff_exists.mp this

theorem abs_cons (s : Scope) (p : Reg) : abs (s :: p) = s.view :: abs p := rfl

@[simp] theorem abs_nil : abs [] = [] := rfl

@[simp] theorem abs_length (r : Reg) : (abs r).length = r.length := by simp [abs]

theorem abs_ne_nil (r : Reg) (h : r ≠ []) : abs r ≠ [] := by
  cases r with
  | nil => exact absurd rfl h
  | cons s p => simp [abs_cons]

theorem abs_drop (r : Reg) (d : Nat) : abs (r.drop d) = (abs r).drop d := by simp [abs, List.map_drop]

theorem getD_abs (r : Reg) (i : Nat) : (abs r).getD i PMap.empty = (scopeAt r i).view := by
  simp only [abs, scopeAt, List.getD_eq_getElem?_getD, List.getElem?_map]
  cases r[i]? <;> rfl

theorem find_abs (r : Reg) (k : Key) : find r k = (abs r).depthOf k := by
  induction r with
  | nil => rfl
  | cons s p ih => simp only [find_cons, abs_cons, Spec.depthOf, ih, Scope.has_eq]

theorem lookup_abs (r : Reg) (k : Key) :
    (abs r).lookup k = (find r k).bind fun i => (cellAt r i k).map (·.val) := by
  induction r with
  | nil => rfl
  | cons s p ih =>
    rw [find_cons, abs_cons, Spec.lookup]
    cases hg : s.get? k with
    | some c => simp [Scope.view, Scope.has, hg, cellAt, scopeAt]
    | none =>
      simp only [Scope.view, Scope.has, hg, Option.map_none, Option.isSome_none, Bool.false_eq_true, if_false, ih]
      cases find p k <;> simp [cellAt, scopeAt_succ]

theorem lookup_found (r : Reg) (k : Key) (i : Nat) (c : Cell) (h : find r k = some i)
    (hc : cellAt r i k = some c) : (abs r).lookup k = some c.val := by
  rw [lookup_abs, h, Option.bind_some, hc]; rfl

theorem abs_modifyAt_found (r : Reg) (k : Key) (i : Nat) (F : Scope → Scope) (v : Option Nat)
    (h : find r k = some i) (hF : (F (scopeAt r i)).view = ((scopeAt r i).view).set k v) :
    abs (modifyAt r i F) = (abs r).updFirst k v := by
  rw [updFirst_eq, ← find_abs, h]
  exact map_modifyAt r i F (fun m : PMap => m.set k v) Scope.view [] hF

theorem abs_put_at (r : Reg) (i : Nat) (k : Key) (c : Cell) :
    abs (modifyAt r i (·.put k c)) = modifyAt (abs r) i (fun m : PMap => m.set k (some c.val)) :=
  map_modifyAt r i _ _ Scope.view [] (Scope.view_put _ k c)

theorem abs_erase_at (r : Reg) (i : Nat) (k : Key) :
    abs (modifyAt r i (·.erase k)) = modifyAt (abs r) i (fun m : PMap => m.set k none) :=
  map_modifyAt r i _ _ Scope.view [] (Scope.view_erase _ k)

theorem abs_writeAt_cell (r : Reg) (i : Nat) (k : Key) (v : Nat) (c : Cell) (hc : cellAt r i k = some c) :
    abs (writeAt r i k (fun _ => v)) = modifyAt (abs r) i (fun m : PMap => m.set k (some v)) := by
  apply map_modifyAt r i _ _ Scope.view []
  rw [Scope.view_modify]
  have : (r.getD i []).get? k = some c := hc
  rw [this]; rfl

theorem abs_modify_sameval (r : Reg) (i : Nat) (k : Key) (f : Cell → Cell)
    (hf : ∀ c, cellAt r i k = some c → (f c).val = c.val) : abs (modifyAt r i (·.modify k f)) = abs r := by
  have hF : ((scopeAt r i).modify k f).view = (scopeAt r i).view := by
    rw [Scope.view_modify]
    funext q
    simp only [PMap.set]
    split
    · rename_i hq; subst hq
      cases hc : (scopeAt r i).get? q with
      | none => simp [Scope.view, hc]
      | some c => simp [Scope.view, hc, hf c (by simpa [cellAt] using hc)]
    · rfl
  rw [abs, map_modifyAt r i (·.modify k f) id Scope.view [] hF, modifyAt_id]; rfl

theorem quiet_cons (s : Scope) (p : Reg) : quiet (s :: p) = (s.quiet && quiet p) := rfl

theorem quiet_iff (r : Reg) : quiet r = true ↔ ∀ s ∈ r, s.quiet = true := List.all_eq_true

theorem quiet_cell (r : Reg) (i : Nat) (k : Key) (c : Cell) (h : quiet r = true) (hc : cellAt r i k = some c) :
    c.readers = 0 ∧ c.writer = false := by
  have hi := cellAt_lt r i k c hc
  exact Scope.quiet_get _ k c (scopeAt_eq_getElem r i hi ▸ (quiet_iff r).mp h _ (List.getElem_mem hi)) hc

theorem quiet_of_cells (r : Reg) (hn : nodupKeys r)
    (h : ∀ i k c, cellAt r i k = some c → c.readers = 0 ∧ c.writer = false) : quiet r = true := by
  refine (quiet_iff r).mpr fun s hs => ?_
  obtain ⟨i, hi, rfl⟩ := List.mem_iff_getElem.mp hs
  exact Scope.quiet_of_cells _ (hn _ hs) fun k c hc => h i k c (by rw [cellAt, scopeAt_eq_getElem r i hi]; exact hc)

theorem quiet_modifyAt (r : Reg) (i : Nat) (F : Scope → Scope) (h : quiet r = true)
    (hF : ∀ s, s.quiet = true → (F s).quiet = true) : quiet (modifyAt r i F) = true :=
  (quiet_iff _).mpr (forall_mem_modifyAt r i F ((quiet_iff r).mp h) hF)

theorem quiet_writeAt (r : Reg) (i : Nat) (k : Key) (f : Nat → Nat) (h : quiet r = true) :
    quiet (writeAt r i k f) = true :=
  quiet_modifyAt r i _ h (fun s hs => Scope.quiet_modify s k _ hs (fun c hc => by simpa [Cell.quiet] using hc))

theorem quiet_erase_at (r : Reg) (i : Nat) (k : Key) (h : quiet r = true) :
    quiet (modifyAt r i (·.erase k)) = true :=
  quiet_modifyAt r i _ h (fun s hs => Scope.quiet_erase s k hs)

theorem quiet_drop (r : Reg) (d : Nat) (h : quiet r = true) : quiet (r.drop d) = true :=
  (quiet_iff _).mpr fun s hs => (quiet_iff r).mp h s (List.mem_of_mem_drop hs)

theorem quiet_append (a b : Reg) : quiet (a ++ b) = (quiet a && quiet b) := by
  simp [quiet, List.all_append]

theorem quiet_take (r : Reg) (d : Nat) (h : quiet r = true) : quiet (r.take d) = true :=
  (quiet_iff _).mpr fun s hs => (quiet_iff r).mp h s (List.mem_of_mem_take hs)

/-- The one case split every keyed operation needs: the type is bound nowhere, or it resolves to a cell of the
innermost scope that binds it; either way the stack of maps says the same. -/
theorem resolve (r : Reg) (k : Key) :
    (find r k = none ∧ (abs r).lookup k = none ∧ (abs r).depthOf k = none ∧ ∀ i, (scopeAt r i).has k = false) ∨
    (∃ i c, find r k = some i ∧ i < r.length ∧ cellAt r i k = some c ∧ (abs r).lookup k = some c.val ∧
      (abs r).depthOf k = some i ∧ (scopeAt r i).has k = true) := by
  cases h : find r k with
  | none => exact Or.inl ⟨rfl, by rw [lookup_abs, h]; rfl, by rw [← find_abs]; exact h, find_none r k h⟩
  | some i =>
    obtain ⟨c, hc⟩ := find_cell r k i h
    exact Or.inr ⟨i, c, rfl, find_lt r k i h, hc, lookup_found r k i c h hc, by rw [← find_abs]; exact h,
      find_has r k i h⟩

theorem abs_erase_found (r : Reg) (k : Key) (i : Nat) (h : find r k = some i) :
    abs (modifyAt r i (·.erase k)) = (abs r).updFirst k none :=
  abs_modifyAt_found r k i _ none h (Scope.view_erase _ k)

theorem abs_put_found (r : Reg) (k : Key) (i : Nat) (c : Cell) (h : find r k = some i) :
    abs (modifyAt r i (·.put k c)) = (abs r).updFirst k (some c.val) :=
  abs_modifyAt_found r k i _ _ h (Scope.view_put _ k c)

theorem abs_writeAt (r : Reg) (k : Key) (i : Nat) (c : Cell) (f : Nat → Nat) (h : find r k = some i)
    (hc : cellAt r i k = some c) : abs (writeAt r i k f) = (abs r).updFirst k (some (f c.val)) := by
  apply abs_modifyAt_found r k i _ _ h
  rw [Scope.view_modify]
  simp only [cellAt] at hc
  simp [hc]

theorem abs_put_top (r : Reg) (k : Key) (c : Cell) (h : r ≠ []) :
    abs (modifyAt r 0 (·.put k c)) = (abs r).setTop k (some c.val) := by
  rw [setTop_eq _ k _ (abs_ne_nil r h), abs_put_at]

theorem top_abs (r : Reg) (k : Key) : (abs r).top k = (scopeAt r 0).view k := by
  cases r with
  | nil => simp [Spec.top, PMap.empty, scopeAt, Scope.view]
  | cons s p => simp [abs_cons, Spec.top, scopeAt_zero]

theorem lookup_isSome (r : Reg) (k : Key) : ((abs r).lookup k).isSome = (find r k).isSome := by
  rcases resolve r k with ⟨hf, hl, _, _⟩ | ⟨i, c, hf, _, _, hl, _, _⟩ <;> simp [hf, hl]

/-- An edit `F` of the scope `i` that changes only what is stored under `k` (to `x`). -/
theorem cellAt_edit (r : Reg) (i : Nat) (k : Key) (F : Scope → Scope) (x : Option Cell) (j : Nat) (q : Key)
    (hi : i < r.length) (hF : ∀ q, (F (scopeAt r i)).get? q = if q = k then x else (scopeAt r i).get? q) :
    cellAt (modifyAt r i F) j q = if j = i ∧ q = k then x else cellAt r j q := by
  simp only [cellAt, scopeAt_modifyAt r i j _ hi]
  by_cases hj : j = i
  · subst hj; simp only [if_true, true_and, hF]
  · simp [hj]

theorem cellAt_modify_at (r : Reg) (i : Nat) (k : Key) (f : Cell → Cell) (j : Nat) (q : Key) :
    cellAt (modifyAt r i (·.modify k f)) j q =
      if j = i ∧ q = k then (cellAt r i k).map f else cellAt r j q := by
  by_cases hi : i < r.length
  · exact cellAt_edit r i k _ _ j q hi (Scope.get?_modify _ k f)
  · have hi' : r.length ≤ i := Nat.le_of_not_lt hi
    rw [modifyAt_eq_modify, List.modify_eq_self hi']
    split
    · rename_i h; obtain ⟨h1, h2⟩ := h; subst h1 h2
      simp [cellAt, scopeAt_ge r j hi']
    · rfl

theorem cellAt_put_at (r : Reg) (i : Nat) (k : Key) (c : Cell) (j : Nat) (q : Key) (hi : i < r.length) :
    cellAt (modifyAt r i (·.put k c)) j q = if j = i ∧ q = k then some c else cellAt r j q :=
  cellAt_edit r i k _ _ j q hi (Scope.get?_put _ k c)

theorem cellAt_erase_at (r : Reg) (i : Nat) (k : Key) (j : Nat) (q : Key) (hi : i < r.length) :
    cellAt (modifyAt r i (·.erase k)) j q = if j = i ∧ q = k then none else cellAt r j q :=
  cellAt_edit r i k _ _ j q hi (Scope.get?_erase _ k)

theorem cellAt_set (r : Reg) (i : Nat) (k : Key) (c c' : Cell) (hc : cellAt r i k = some c) :
    cellAt (modifyAt r i (·.modify k (fun _ => c'))) i k = some c' := by
  rw [cellAt_modify_at, if_pos ⟨rfl, rfl⟩, hc]; rfl

theorem cellAt_drop (r : Reg) (d i : Nat) (k : Key) : cellAt (r.drop d) i k = cellAt r (d + i) k := by
  simp [cellAt, scopeAt, List.getD, List.getElem?_drop]

theorem find_modify_at (r : Reg) (i : Nat) (q : Key) (f : Cell → Cell) (k : Key) :
    find (modifyAt r i (·.modify q f)) k = find r k :=
  findIdx_modifyAt _ r i _ (fun s => Scope.has_modify s q _ k)

theorem find_writeAt (r : Reg) (i : Nat) (k : Key) (f : Nat → Nat) (k' : Key) :
    find (writeAt r i k f) k' = find r k' :=
  find_modify_at r i k _ k'

theorem cellAt_writeAt (r : Reg) (i : Nat) (k : Key) (f : Nat → Nat) (c : Cell) (hc : cellAt r i k = some c) :
    cellAt (writeAt r i k f) i k = some { c with val := f c.val } := by
  rw [writeAt, cellAt_modify_at, if_pos ⟨rfl, rfl⟩, hc]; rfl

theorem writeAt_id (r : Reg) (i : Nat) (k : Key) : writeAt r i k id = r := by
  unfold writeAt
  rw [modifyAt_congr r i _ id [] (by simp; exact Scope.modify_self _ k _ (fun c _ => by cases c; rfl))]
  exact modifyAt_id r i

/-- The cell a granted request leaves behind. -/
def grantedCell (c : Cell) (excl : Bool) : Cell :=
  if excl then { c with writer := true } else { c with readers := c.readers + 1 }

/-- `try_borrow_mut` (`e = true`) and `try_borrow` (`e = false`) are one function: resolve the type, look at the
flag of that cell, take it if the request is compatible. -/
theorem tryBorrow_eq (p : Reg) (k : Key) (e : Bool) :
    (if e then tryBorrowMut p k else tryBorrow p k) =
      match find p k with
      | none => .error .notFound
      | some i =>
        match cellAt p i k with
        | none => .error .notFound
        | some c =>
          if c.writer || (e && c.readers != 0) then .error (if e then .conflictMut else .conflictImm)
          else .ok (modifyAt p i (·.modify k (fun _ => grantedCell c e)), i) := by
  cases hf : find p k with
  | none => cases e <;> simp [tryBorrow, tryBorrowMut, hf]
  | some i =>
    cases hc : cellAt p i k with
    | none => cases e <;> simp [tryBorrow, tryBorrowMut, hf, hc]
    | some c =>
      cases e with
      | false => cases hw : c.writer <;> simp [tryBorrow, hf, hc, Cell.tryBorrow, grantedCell, hw]
      | true =>
        by_cases hb : (c.writer || c.readers != 0) = true <;>
          simp [tryBorrowMut, hf, hc, Cell.tryBorrowMut, grantedCell, hb]

theorem tryBorrow_ok (p p' : Reg) (k : Key) (e : Bool) (i : Nat)
    (h : (if e then tryBorrowMut p k else tryBorrow p k) = .ok (p', i)) :
    ∃ c, find p k = some i ∧ cellAt p i k = some c ∧ c.writer = false ∧ (e = true → c.readers = 0) ∧
      p' = modifyAt p i (·.modify k (fun _ => grantedCell c e)) := by
  rw [tryBorrow_eq] at h
  cases hf : find p k with
  | none => simp [hf] at h
  | some j =>
    cases hc : cellAt p j k with
    | none => simp [hf, hc] at h
    | some c =>
      simp only [hf, hc] at h
      split at h
      · cases h
      · rename_i hb
        simp only [Bool.or_eq_true, Bool.and_eq_true, bne_iff_ne, ne_eq, not_or, not_and, Bool.not_eq_true,
          Decidable.not_not] at hb
        cases h
        exact ⟨c, rfl, hc, hb.1, hb.2, rfl⟩

theorem grant_release (r : Reg) (i : Nat) (k : Key) (c : Cell) (e : Bool) (hc : cellAt r i k = some c)
    (hw : c.writer = false) : releaseAt (modifyAt r i (·.modify k (fun _ => grantedCell c e))) i k e = r := by
  simp only [releaseAt, modifyAt_modifyAt, Scope.modify_modify]
  rw [modifyAt_congr r i _ id [] (by
    simp only [id]
    exact Scope.modify_self _ k _ (fun c0 hc0 => by
      have : cellAt r i k = some c0 := hc0
      rw [hc] at this; cases this
      cases c; cases e <;> simp_all [grantedCell, Cell.release]))]
  exact modifyAt_id r i

theorem tryGetValue_cell (r : Reg) (k : Key) (i : Nat) (c : Cell) (hf : find r k = some i)
    (hc : cellAt r i k = some c) :
    tryGetValue r k = if c.writer then .error .conflictImm else .ok c.val := by
  unfold tryGetValue tryBorrow
  simp only [hf, hc, Cell.tryBorrow]
  cases hw : c.writer with
  | true => rfl
  | false => simp [cellAt_set r i k c _ hc]

theorem setValue_cell (r : Reg) (k : Key) (v : Nat) (i : Nat) (c : Cell) (hf : find r k = some i)
    (hc : cellAt r i k = some c) :
    setValue r k v = if c.writer || c.readers != 0 then (r, none)
      else (modifyAt r i (·.modify k (fun c => { c with val := v })), some c.val) := by
  unfold setValue tryBorrowMut
  simp only [hf, hc, Cell.tryBorrowMut]
  cases hb : (c.writer || c.readers != 0) with
  | true => rfl
  | false =>
    have hw : c.writer = false := by cases hw : c.writer <;> simp_all
    simp only [Bool.false_eq_true, if_false, cellAt_set r i k c _ hc, releaseAt, modifyAt_modifyAt,
      Scope.modify_modify]
    congr 1
    apply modifyAt_congr r i _ _ []
    apply Scope.modify_congr
    intro c0 h0
    have h1 : cellAt r i k = some c0 := h0
    rw [hc] at h1
    cases h1
    simp [Cell.release, hw]

theorem tryGetValue_quiet (r : Reg) (k : Key) (h : quiet r = true) :
    tryGetValue r k = match (abs r).lookup k with | some v => .ok v | none => .error .notFound := by
  rcases resolve r k with ⟨hf, hl, _, _⟩ | ⟨i, c, hf, hi, hc, hl, _, _⟩
  · simp [tryGetValue, tryBorrow, hf, hl]
  · rw [tryGetValue_cell r k i c hf hc, hl, (quiet_cell r i k c h hc).2]; rfl

theorem tryBorrow_quiet (r : Reg) (k : Key) (i : Nat) (c : Cell) (e : Bool) (h : quiet r = true)
    (hf : find r k = some i) (hc : cellAt r i k = some c) :
    (if e then tryBorrowMut r k else tryBorrow r k) = .ok (modifyAt r i (·.modify k (fun _ => grantedCell c e)), i) := by
  obtain ⟨hr, hw⟩ := quiet_cell r i k c h hc
  simp [tryBorrow_eq, hf, hc, hw, hr]

theorem setValue_quiet (r : Reg) (k : Key) (v : Nat) (i : Nat) (c : Cell) (h : quiet r = true)
    (hf : find r k = some i) (hc : cellAt r i k = some c) :
    setValue r k v = (writeAt r i k (fun _ => v), some c.val) := by
  obtain ⟨hr, hw⟩ := quiet_cell r i k c h hc
  rw [setValue_cell r k v i c hf hc, hr, hw]; rfl

theorem setValue_absent (r : Reg) (k : Key) (v : Nat) (hf : find r k = none) : setValue r k v = (r, none) := by
  simp [setValue, tryBorrowMut, hf]

theorem setValue_flags (r : Reg) (k : Key) (v : Nat) :
    (setValue r k v).1 = r ∨ ∃ i f, (setValue r k v).1 = modifyAt r i (·.modify k f) ∧
      ∀ c, cellAt r i k = some c → (f c).readers = c.readers ∧ (f c).writer = c.writer := by
  cases hf : find r k with
  | none => exact Or.inl (by rw [setValue_absent r k v hf])
  | some i =>
    obtain ⟨c, hc⟩ := find_cell r k i hf
    rw [setValue_cell r k v i c hf hc]
    split
    · exact Or.inl rfl
    · exact Or.inr ⟨i, _, rfl, fun _ _ => ⟨rfl, rfl⟩⟩

/-- The invariant between two operations of a C01 history: the chain has its own map and no guard is alive. -/
def Inv (r : Reg) : Prop := r ≠ [] ∧ quiet r = true

theorem inv_new : Inv new := ⟨by simp [new], rfl⟩

theorem inv_intoChild (r : Reg) (h : Inv r) : Inv (intoChild r) := ⟨List.cons_ne_nil _ _, h.2⟩

theorem abs_new : abs new = [PMap.empty] := rfl

theorem inv_writeAt (r : Reg) (i : Nat) (k : Key) (f : Nat → Nat) (h : Inv r) : Inv (writeAt r i k f) :=
  ⟨modifyAt_ne_nil _ _ _ h.1, quiet_writeAt r i k f h.2⟩

theorem inv_put_at (r : Reg) (i : Nat) (k : Key) (v : Nat) (h : Inv r) : Inv (modifyAt r i (·.put k (fresh v))) :=
  ⟨modifyAt_ne_nil _ _ _ h.1, quiet_modifyAt r i _ h.2 (fun s hs => Scope.quiet_put s k v hs)⟩

theorem inv_erase_at (r : Reg) (i : Nat) (k : Key) (h : Inv r) : Inv (modifyAt r i (·.erase k)) :=
  ⟨modifyAt_ne_nil _ _ _ h.1, quiet_erase_at r i k h.2⟩

theorem inv_drop (r : Reg) (d : Nat) (h : Inv r) (hd : d < r.length) : Inv (r.drop d) :=
  ⟨drop_ne_nil r d hd, quiet_drop r d h.2⟩

theorem under_fst {α : Type} (r : Reg) (d : Nat) (f : Reg → Reg × α) :
    (under r d f).1 = r.take d ++ (f (r.drop d)).1 := rfl

theorem inv_under {α : Type} (r : Reg) (d : Nat) (f : Reg → Reg × α) (h : Inv r) (hf : Inv (f (r.drop d)).1) :
    Inv (under r d f).1 :=
  ⟨fun h0 => hf.1 (List.append_eq_nil_iff.mp h0).2, by rw [under_fst, quiet_append, quiet_take r d h.2, hf.2]; rfl⟩

theorem abs_under {α : Type} (r : Reg) (d : Nat) (f : Reg → Reg × α) :
    abs (under r d f).1 = (abs r).take d ++ abs (f (r.drop d)).1 := by
  simp [under_fst, abs]

/-- `insert` is `VacantEntry::insert` into the registry's own map. -/
theorem insert_eq (r : Reg) (k : Key) (v : Nat) (h : r ≠ []) :
    insert r k v = (modifyAt r 0 (·.put k (fresh v)), (scopeAt r 0).view k) := by
  cases r with
  | nil => exact absurd rfl h
  | cons s p => rfl

theorem entry_found (r : Reg) (k : Key) (i : Nat) (hf : find r k = some i) : entry r k = (i, true) := by
  simp [entry, contains, hf, find_has r k i hf]

theorem entry_absent (r : Reg) (k : Key) (hf : find r k = none) : entry r k = (0, false) := by
  simp [entry, contains, hf, find_none r k hf 0]

theorem getMut_found (r : Reg) (k : Key) (i : Nat) (hf : find r k = some i) : getMut r k = some i := by
  simp [getMut, hf, find_has r k i hf]

/-- The cells `getAllMut` resolves: each key's innermost holder. -/
def resolved (r : Reg) (ks : List Key) : List (Nat × Key) := ks.map fun k => ((find r k).getD 0, k)

theorem resolved_nodup (r : Reg) (ks : List Key) (h : ks.Nodup) : (resolved r ks).Nodup :=
  List.Pairwise.map _ (fun _ _ hab e => hab (Prod.mk.inj e).2) h

theorem getAllMut_ok (r : Reg) (ks : List Key) (h : ∀ k ∈ ks, (find r k).isSome = true) :
    getAllMut r ks = .ok (resolved r ks) := by
  induction ks with
  | nil => rfl
  | cons k ks ih =>
    have hk := h k (by simp)
    obtain ⟨i, hi⟩ := Option.isSome_iff_exists.mp hk
    simp [getAllMut, getMut_found r k i hi, ih (fun k' hk' => h k' (by simp [hk'])), resolved, hi]

theorem getAllMut_err (r : Reg) (ks : List Key) (h : ¬ ∀ k ∈ ks, (find r k).isSome = true) :
    getAllMut r ks = .error .notFound := by
  induction ks with
  | nil => simp at h
  | cons k ks ih =>
    cases hf : find r k with
    | none => simp [getAllMut, getMut, hf]
    | some i =>
      have : ¬ ∀ k ∈ ks, (find r k).isSome = true := fun h' =>
        h (List.forall_mem_cons.mpr ⟨by simp [hf], h'⟩)
      simp [getAllMut, getMut_found r k i hf, ih this]

theorem occWrite_quiet (r : Reg) (i : Nat) (k : Key) (f : Nat → Nat) (c : Cell) (hq : quiet r = true)
    (hc : cellAt r i k = some c) : occWrite r i k f = (writeAt r i k f, .val c.val) := by
  obtain ⟨hr, hw⟩ := quiet_cell r i k c hq hc
  simp [occWrite, hc, Cell.busy, hr, hw]

theorem andModify_found (r : Reg) (i : Nat) (k : Key) (d : Nat) (c : Cell) (hq : quiet r = true)
    (hc : cellAt r i k = some c) : andModify r (i, true) k d = some (writeAt r i k (· + d)) := by
  simp [andModify, occWrite_quiet r i k _ c hq hc]

theorem andModify_absent (r : Reg) (i : Nat) (k : Key) (d : Nat) : andModify r (i, false) k d = some r := by
  simp [andModify]

theorem orInsert_found (r : Reg) (i : Nat) (k : Key) (v : Nat) (c : Cell) (hq : quiet r = true)
    (hc : cellAt r i k = some c) : orInsert r (i, true) k v = (r, .val c.val) := by
  simp [orInsert, occWrite_quiet r i k _ c hq hc, writeAt_id]

theorem orInsert_absent (r : Reg) (k : Key) (v : Nat) :
    orInsert r (0, false) k v = (modifyAt r 0 (·.put k (fresh v)), .val v) := by
  simp [orInsert, vacInsert]

end MahfModel.Registry
