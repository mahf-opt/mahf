/- C01: every operation keeps the keys of every map unique (`step_nodupKeys`). This holds without `Inv`, so the proof
follows the model's sub-functions and cannot go through the refinement. -/
import MahfModel.Proofs.C01Basic
import MahfModel.Proofs.C01Reg
namespace MahfModel.Registry

theorem nodupKeys_cons (s : Scope) (p : Reg) : nodupKeys (s :: p) ↔ s.nodupKeys ∧ nodupKeys p := by
  simp [nodupKeys]

theorem nodupKeys_intoChild (r : Reg) (h : nodupKeys r) : nodupKeys (intoChild r) :=
  (nodupKeys_cons [] r).mpr ⟨List.nodup_nil, h⟩

theorem nodupKeys_new : nodupKeys new := nodupKeys_intoChild [] (fun _ h => nomatch h)

theorem nodupKeys_modify_at (r : Reg) (i : Nat) (k : Key) (f : Cell → Cell) (h : nodupKeys r) :
    nodupKeys (modifyAt r i (·.modify k f)) :=
  forall_mem_modifyAt r i _ h (fun s hs => Scope.nodup_modify s k _ hs)

theorem nodupKeys_setValue (r : Reg) (k : Key) (v : Nat) (h : nodupKeys r) : nodupKeys (setValue r k v).1 := by
  rcases setValue_flags r k v with h1 | ⟨i, f, h1, _⟩ <;> rw [h1]
  · exact h
  · exact nodupKeys_modify_at r i k f h

theorem nodupKeys_put_at (r : Reg) (i : Nat) (k : Key) (c : Cell) (h : nodupKeys r) :
    nodupKeys (modifyAt r i (·.put k c)) :=
  forall_mem_modifyAt r i _ h (fun s hs => Scope.nodup_put s k c hs)

theorem nodupKeys_erase_at (r : Reg) (i : Nat) (k : Key) (h : nodupKeys r) :
    nodupKeys (modifyAt r i (·.erase k)) :=
  forall_mem_modifyAt r i _ h (fun s hs => Scope.nodup_erase s k hs)

theorem nodupKeys_writeAll (cs : List (Nat × Key)) (d : Nat) (r : Reg) (h : nodupKeys r) :
    nodupKeys (writeAll r cs d) := by
  induction cs generalizing r with
  | nil => exact h
  | cons c cs ih => exact ih _ (nodupKeys_modify_at r c.1 c.2 _ h)

theorem nodupKeys_insert (r : Reg) (k : Key) (v : Nat) (h : nodupKeys r) : nodupKeys (insert r k v).1 := by
  cases r with
  | nil => simp [insert, nodupKeys, Scope.nodupKeys, Scope.keys]
  | cons s p => rw [insert_eq _ k v (List.cons_ne_nil s p)]; exact nodupKeys_put_at _ 0 k _ h

theorem nodupKeys_drop (r : Reg) (d : Nat) (h : nodupKeys r) : nodupKeys (r.drop d) :=
  fun s hs => h s (List.mem_of_mem_drop hs)

theorem nodupKeys_under {α : Type} (r : Reg) (d : Nat) (f : Reg → Reg × α) (h : nodupKeys r)
    (hf : nodupKeys (f (r.drop d)).1) : nodupKeys (under r d f).1 :=
  fun s hs => (List.mem_append.mp hs).elim (fun h1 => h s (List.mem_of_mem_take h1)) (hf s)

theorem occWrite_nodup (r : Reg) (i : Nat) (k : Key) (f : Nat → Nat) (h : nodupKeys r) :
    nodupKeys (occWrite r i k f).1 := by
  unfold occWrite
  split
  · split
    · exact h
    · exact nodupKeys_modify_at _ _ _ _ h
  · exact h

theorem orInsert_nodup (r : Reg) (e : Nat × Bool) (k : Key) (v : Nat) (h : nodupKeys r) :
    nodupKeys (orInsert r e k v).1 := by
  unfold orInsert
  split
  · exact occWrite_nodup r _ k _ h
  · exact nodupKeys_put_at _ _ _ _ h

theorem andModify_nodup (r r' : Reg) (e : Nat × Bool) (k : Key) (d : Nat) (h : nodupKeys r)
    (h' : andModify r e k d = some r') : nodupKeys r' := by
  unfold andModify at h'
  split at h'
  · have := occWrite_nodup r e.1 k (· + d) h
    cases hw : occWrite r e.1 k (fun x => x + d) with
    | mk r1 o =>
      rw [hw] at this h'
      cases o <;> simp at h' <;> (subst h'; exact this)
  · cases h'; exact h

theorem step_nodupKeys (r : Reg) (op : ROp) (h : nodupKeys r) : nodupKeys (step r op).1 := by
  cases op with
  | ins k v => exact nodupKeys_insert r k v h
  | rem k | take k =>
    simp only [step, remove]
    split
    · exact h
    · split
      · exact nodupKeys_erase_at _ _ _ h
      · exact h
  | hasTop k | has k | find k | findMut k | get k | tryGet k | req k | dump | occGet k => exact h
  | set k v => exact nodupKeys_setValue r k v h
  | getMut k v =>
    simp only [step]
    split
    · dsimp only; exact nodupKeys_modify_at _ _ _ _ h
    · exact h
  | entOrIns k v | entOrWith k v | entOrDef k => exact orInsert_nodup r _ k _ h
  | entMod k d | entModV k d =>
    simp only [step]
    split
    · rename_i r' heq; exact andModify_nodup r r' _ k d h heq
    · exact h
  | entModOrIns k d v =>
    simp only [step]
    split
    · rename_i r' heq; exact orInsert_nodup r' _ k v (andModify_nodup r r' _ k d h heq)
    · exact h
  | occGetMut k v | occIntoMut k v =>
    simp only [step]
    split
    · exact occWrite_nodup r _ k _ h
    · exact h
  | occIns k v =>
    simp only [step, occInsert]
    split
    · split
      · exact nodupKeys_put_at _ _ _ _ h
      · exact h
    · exact h
  | occRem k =>
    simp only [step, occRemove]
    split
    · split
      · exact nodupKeys_erase_at _ _ _ h
      · exact h
    · exact h
  | vacIns k v =>
    simp only [step, vacInsert]
    split
    · exact h
    · exact nodupKeys_put_at _ _ _ _ h
  | push => rw [step_push]; exact nodupKeys_intoChild r h
  | pop =>
    simp only [step]
    cases r with
    | nil => exact nodupKeys_new
    | cons s p =>
      cases p with
      | nil => simpa [intoParent] using h
      | cons s' p' => rw [nodupKeys_cons] at h; simpa [intoParent] using h.2
  | parGet d k => simp only [step]; split <;> exact h
  | parIns d k v =>
    simp only [step]
    split
    · exact nodupKeys_under r d (insert · k v) h (nodupKeys_insert _ k v (nodupKeys_drop r d h))
    · exact h
  | multi ks d | multiP ks d =>
    simp only [step]
    split
    · exact nodupKeys_writeAll _ _ _ h
    · exact h
  | gset k v =>
    simp only [step]
    cases ht : tryBorrow r k with
    | error e => exact h
    | ok x =>
      obtain ⟨r1, i⟩ := x
      obtain ⟨c, _, _, _, _, rfl⟩ := tryBorrow_ok r r1 k false i ht
      exact nodupKeys_modify_at _ _ _ _ (nodupKeys_setValue _ k v (nodupKeys_modify_at r i k _ h))
  | gget k =>
    simp only [step]
    cases ht : tryBorrowMut r k with
    | error e => exact h
    | ok x =>
      obtain ⟨r1, i⟩ := x
      obtain ⟨c, _, _, _, _, rfl⟩ := tryBorrow_ok r r1 k true i ht
      exact nodupKeys_modify_at _ _ _ _ (nodupKeys_modify_at r i k _ h)

end MahfModel.Registry
