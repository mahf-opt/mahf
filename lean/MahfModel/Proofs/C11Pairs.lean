/- C11: individuals are (solution, objective) pairs. -/
import MahfModel.Proofs.C11Rank
namespace MahfModel.Selection

variable {F : Type} [LinearOrder F]

theorem sameInd_iff (a b : Ind F) : sameInd a b = true ↔ a = b := by
  rcases a with ⟨ta, oa⟩
  rcases b with ⟨tb, ob⟩
  cases oa <;> cases ob <;> simp [sameInd, eqF_iff]

theorem pool_length (pop : Pop F) (ind : Ind F) :
    (pop.filter (fun j => !sameInd j ind)).length + pop.count ind = pop.length := by
  have hf : (fun j => !sameInd j ind) = fun j => decide ¬ (j == ind) = true := funext fun j => by
    rw [Bool.eq_iff_iff.mpr ((sameInd_iff j ind).trans beq_iff_eq.symm)]; cases j == ind <;> rfl
  rw [hf, ← List.countP_eq_length_filter, List.count, Nat.add_comm]
  exact (List.length_eq_countP_add_countP _).symm

end MahfModel.Selection
