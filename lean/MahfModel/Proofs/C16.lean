/- Soundness of the stack-effect analysis for every execution of the abstract interpreter. -/
import MahfModel.Model.Templates
namespace MahfModel.Tpl

/-- What the analysis promises about one terminating execution. -/
def Good (k : Int) (s s' : St) : Prop :=
  s'.height = s.height + k ∧ (s.passesBalanced = true → s'.passesBalanced = true)

theorem exec_sound_all (o : Oracle) (fuel : Nat) :
    (∀ c s s' k, effect c = some k → exec o fuel c s = some s' → Good k s s') ∧
    (∀ cs s s' k, effects cs = some k → execs o fuel cs s = some s' → Good k s s') ∧
    (∀ b s s', effect b = some 0 → loopGo o fuel b s = some s' → Good 0 s s') := by
  induction fuel with
  | zero => exact ⟨fun _ _ _ _ _ h => (nomatch h), fun _ _ _ _ _ h => (nomatch h), fun _ _ _ _ h => (nomatch h)⟩
  | succ fuel ih =>
    obtain ⟨ih1, ih2, ih3⟩ := ih
    refine ⟨fun c s s' k he h => ?_, fun cs s s' k he h => ?_, fun b s s' hb h => ?_⟩
    · cases c with
      | leaf kind =>
        simp only [effect] at he
        simp only [exec, he] at h
        split at h <;> cases h
        exact ⟨rfl, id⟩
      | seq cs => exact ih2 cs s s' k he h
      | loop b =>
        simp only [effect] at he
        split at he
        · next hb => cases he; exact ih3 b s s' hb h
        · cases he
      | branch t e =>
        simp only [effect] at he
        simp only [exec] at h
        split at he
        · next a b ha hb =>
          split at he
          · next hab =>
            cases he
            split at h
            · exact ih1 t { s with tick := s.tick + 1 } s' k ha h
            · exact ih1 e { s with tick := s.tick + 1 } s' k (hab ▸ hb) h
          · cases he
        · cases he
      | scope b => exact ih1 b s s' k he h
    · cases cs with
      | nil => cases he; cases h; exact ⟨(Int.add_zero _).symm, id⟩
      | cons c rest =>
        simp only [effects] at he
        simp only [execs] at h
        split at he
        · next a b ha hb =>
          cases he
          split at h
          · cases h
          · next s1 h1 =>
            have g1 := ih1 c s s1 a ha h1
            have g2 := ih2 rest s1 s' b hb h
            exact ⟨by rw [g2.1, g1.1, Int.add_assoc], g2.2 ∘ g1.2⟩
        · cases he
    · simp only [loopGo] at h
      split at h
      · split at h
        · cases h
        · next s1 h1 =>
          have g1 := ih1 b _ s1 0 hb h1
          have g2 := ih3 b _ s' hb h
          have hh : s1.height = s.height := by simpa using g1.1
          exact ⟨by simpa [hh] using g2.1, fun hp => g2.2 (by simp [g1.2 hp, hh])⟩
      · cases h; exact ⟨(Int.add_zero _).symm, id⟩

theorem exec_sound (o : Oracle) (fuel : Nat) (c : Comp) (s s' : St) (k : Int) :
    effect c = some k → exec o fuel c s = some s' → Good k s s' :=
  (exec_sound_all o fuel).1 c s s' k

theorem execs_sound (o : Oracle) : ∀ (fuel : Nat) (cs : Comps) (s s' : St) (k : Int),
    effects cs = some k → execs o fuel cs s = some s' → Good k s s' :=
  fun fuel => (exec_sound_all o fuel).2.1

theorem loop_sound (o : Oracle) : ∀ (fuel : Nat) (b : Comp) (s s' : St),
    effect b = some 0 → loopGo o fuel b s = some s' → Good 0 s s' :=
  fun fuel => (exec_sound_all o fuel).2.2

theorem balanced_run (o : Oracle) (fuel : Nat) (c : Comp) (s' : St) (hb : balanced c = true)
    (h : exec o fuel c { height := 0, tick := 0, passesBalanced := true } = some s') :
    s'.height = 1 ∧ s'.passesBalanced = true := by
  have := exec_sound o fuel c _ s' 1 (by simpa [balanced] using hb) h
  exact ⟨by simpa using this.1, this.2 rfl⟩

end MahfModel.Tpl
