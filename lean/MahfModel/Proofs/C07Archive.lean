/- The elitist archive: insertion sort by key is a sorted permutation; the first `k` of ANY arrangement sorted by objective value
(`take_sorted_spec`); one archive update as a relation `Keeps` (the deterministic model here, every legal witness in `Proofs/C07Ties`)
and the invariant `ArchInv` of an archive history (the `k` best of everything shown) that `Keeps` hands on (`Keeps.inv`). -/
import MahfModel.Proofs.C07
namespace MahfModel.PopMachine

variable {O : Type} [LinearOrder O]

/-! ### insertion sort by key, k smallest -/

section SortSec
variable {α : Type} (key : α → O)

theorem insertByKey_sorted (x : α) (l : List α) (h : l.Pairwise (fun a b => key a ≤ key b)) :
    (insertByKey key x l).Pairwise (fun a b => key a ≤ key b) := by
  induction l with
  | nil => exact List.pairwise_singleton _ _
  | cons y ys ih =>
    obtain ⟨hy, hys⟩ := List.pairwise_cons.mp h
    rw [insertByKey]
    split
    · rename_i hlt
      refine List.pairwise_cons.mpr ⟨fun z hz => ?_, ih hys⟩
      rcases List.mem_cons.mp ((insertByKey_perm key x ys).mem_iff.mp hz) with rfl | hz
      · exact le_of_lt hlt
      · exact hy z hz
    · rename_i hlt
      have hxy : key x ≤ key y := not_lt.mp hlt
      exact List.pairwise_cons.mpr ⟨List.forall_mem_cons.mpr ⟨hxy, fun z hz => le_trans hxy (hy z hz)⟩, h⟩

theorem sortByKey_sorted (l : List α) : (sortByKey key l).Pairwise (fun a b => key a ≤ key b) := by
  induction l with
  | nil => simp [sortByKey]
  | cons x xs ih => exact insertByKey_sorted key x _ ih

end SortSec

theorem keyed_sort (all : List (Ind O)) (kl : List (Ind O × O)) (h : keyed all = some kl) :
    ((sortByKey (·.2) kl).map (·.1)).Perm all ∧ ((sortByKey (·.2) kl).map (·.1)).Pairwise objLe := by
  obtain ⟨hk1, hk2⟩ := keyed_spec all kl h
  have hperm := sortByKey_perm (fun x : Ind O × O => x.2) kl
  refine ⟨hk1 ▸ hperm.map _, List.pairwise_map.mpr ((sortByKey_sorted (fun x : Ind O × O => x.2) kl).imp_of_mem ?_)⟩
  intro a b ha hb hab
  exact ⟨a.2, b.2, hk2 a (hperm.mem_iff.mp ha), hk2 b (hperm.mem_iff.mp hb), hab⟩

/-- Decidable version of `objLt`. -/
def ltB (a b : Ind O) : Bool :=
  match a.obj, b.obj with
  | some x, some y => decide (x < y)
  | _, _ => false

theorem ltB_iff (a b : Ind O) : ltB a b = true ↔ objLt a b := by
  unfold ltB objLt
  cases ha : a.obj <;> cases hb : b.obj <;> simp

/-- The first `k` elements of ANY arrangement `s` of `all` that is sorted by objective value (what the archive
keeps): a sub-multiset of `all` of the right length, nothing left out is strictly better than anything kept,
and a kept element has fewer than `k` strictly better elements in `all` (the counting fact histories need). -/
theorem take_sorted_spec (all s : List (Ind O)) (k : Nat) (hp : s.Perm all) (hs : s.Pairwise objLe) :
    (s.take k ++ s.drop k).Perm all ∧ (s.take k).length = min k all.length ∧
      (∀ x ∈ s.take k, ∀ y ∈ s.drop k, ¬ objLt y x) ∧
      ∀ x ∈ s.take k, all.countP (fun z => ltB z x) < k := by
  have hsplit : (s.take k ++ s.drop k).Pairwise objLe := by rw [List.take_append_drop]; exact hs
  have hcross := (List.pairwise_append.mp hsplit).2.2
  refine ⟨by rw [List.take_append_drop]; exact hp, by rw [List.length_take, hp.length_eq],
    fun x hx y hy => (hcross x hx y hy).not_objLt, fun x hx => ?_⟩
  -- nothing behind position `k` is strictly better than `x`, and `x` itself is among the first `k`
  have hd : (s.drop k).countP (fun z => ltB z x) = 0 :=
    List.countP_eq_zero.mpr fun z hz h => (hcross x hx z hz).not_objLt ((ltB_iff z x).mp h)
  have ht : (s.take k).countP (fun z => ltB z x) < (s.take k).length :=
    Nat.lt_of_le_of_ne List.countP_le_length fun h =>
      have hlt := (ltB_iff x x).mp (List.countP_eq_length.mp h x hx)
      hlt.le.not_objLt hlt
  have hk : (s.take k).length ≤ k := by rw [List.length_take]; exact Nat.min_le_left _ _
  have : s.countP (fun z => ltB z x) = (s.take k).countP (fun z => ltB z x) + (s.drop k).countP (fun z => ltB z x) := by
    rw [← List.countP_append, List.take_append_drop]
  rw [← hp.countP_eq, this, hd]
  omega

theorem pairwise_of_length_lt_two {α : Type} (R : α → α → Prop) : ∀ (l : List α), l.length < 2 → l.Pairwise R
  | [], _ => List.Pairwise.nil
  | [_], _ => List.pairwise_singleton _ _
  | _ :: _ :: _, h => absurd h (by simp)

/-- One archive update, whatever order the sort gives to equal keys: the first `k` of some arrangement of archive and
population that is sorted by objective value. The stable-sort model and the witness model are both instances. -/
def Keeps (k : Nat) (arch pop arch' : List (Ind O)) : Prop :=
  ∃ s : List (Ind O), s.Perm (arch ++ pop) ∧ s.Pairwise objLe ∧ arch' = s.take k

theorem archiveUpdate_keeps (arch pop arch' : List (Ind O)) (k : Nat) (h : archiveUpdate arch pop k = some arch') :
    Keeps k arch pop arch' := by
  simp only [archiveUpdate] at h
  split at h
  · -- fewer than two elements: nothing is compared
    rename_i hlen
    cases h
    exact ⟨arch ++ pop, List.Perm.refl _, pairwise_of_length_lt_two _ _ hlen, rfl⟩
  · obtain ⟨kl, hk, rfl⟩ := Option.map_eq_some_iff.mp h
    exact ⟨_, (keyed_sort _ kl hk).1, (keyed_sort _ kl hk).2, List.map_take⟩

/-- Invariant of an archive history: kept ++ omitted is everything shown, the archive is as full as
it can be, nothing omitted is strictly better than something kept. -/
def ArchInv (k : Nat) (arch rest shown : List (Ind O)) : Prop :=
  (arch ++ rest).Perm shown ∧ arch.length = min k shown.length ∧ ∀ x ∈ arch, ∀ y ∈ rest, ¬ objLt y x

theorem ArchInv.nil (k : Nat) : ArchInv k ([] : List (Ind O)) [] [] :=
  ⟨List.Perm.refl _, (Nat.min_zero k).symm, fun _ hx => (nomatch hx)⟩

-- `omega` proves the next two, but is slow to check on nested `min`; hence the case split on `k ≤ n`.
theorem min_min_add (k n m : Nat) : min k (min k n + m) = min k (n + m) := by
  rcases Nat.le_total k n with h | h
  · rw [Nat.min_eq_left h, Nat.min_eq_left (Nat.le_add_right k m), Nat.min_eq_left (Nat.le_trans h (Nat.le_add_right n m))]
  · rw [Nat.min_eq_right h]

theorem eq_of_eq_min_of_add_pos {k a n m : Nat} (ha : a = min k n) (h1 : a + m = n) (h2 : 0 < m) : a = k := by
  rcases Nat.le_total k n with h | h
  · rw [ha, Nat.min_eq_left h]
  · rw [Nat.min_eq_right h] at ha; omega

/-- The step of an archive history: what an update keeps of the `k` best shown so far and a population is the `k` best
of everything shown. -/
theorem Keeps.inv {k : Nat} {arch pop arch' rest shown : List (Ind O)} (h : Keeps k arch pop arch')
    (hinv : ArchInv k arch rest shown) (hev : ∀ i ∈ shown ++ pop, i.obj.isSome) :
    ∃ rest', ArchInv k arch' rest' (shown ++ pop) := by
  obtain ⟨s, hp, hs, rfl⟩ := h
  obtain ⟨hperm, hlen, hdom⟩ := hinv
  obtain ⟨hp1, hl1, hd1, hc1⟩ := take_sorted_spec _ s k hp hs
  have hsub : ∀ i ∈ arch ++ rest, i.obj.isSome := fun i hi => hev i (List.mem_append_left _ (hperm.mem_iff.mp hi))
  refine ⟨s.drop k ++ rest, ?_, ?_, ?_⟩
  · rw [← List.append_assoc]
    refine (hp1.append_right rest).trans ?_
    rw [List.append_assoc]
    refine (List.Perm.append_left arch List.perm_append_comm).trans ?_
    rw [← List.append_assoc]
    exact hperm.append_right pop
  · rw [hl1, List.length_append, List.length_append, hlen, min_min_add]
  · intro x hx y hy
    rcases List.mem_append.mp hy with hy | hy
    · exact hd1 x hx y hy
    · intro hlt
      -- `y` was omitted earlier, so the archive was full; every old member is ≤ y < x
      have hfull : arch.length = k :=
        eq_of_eq_min_of_add_pos hlen (List.length_append ▸ hperm.length_eq) (List.length_pos_of_mem hy)
      have hall : arch.countP (fun z => ltB z x) = arch.length :=
        List.countP_eq_length.mpr fun a ha => (ltB_iff a x).mpr
          ((objLe_of_not_objLt (hsub a (List.mem_append_left _ ha)) (hsub y (List.mem_append_right _ hy))
            (hdom a ha y hy)).trans_lt hlt)
      have hcount := hc1 x hx
      rw [List.countP_append, hall, hfull] at hcount
      exact Nat.not_lt.mpr (Nat.le_add_right k _) hcount

/-- What one update keeps is the `k` best of what it had and what it was shown. -/
theorem Keeps.archInv {k : Nat} {arch pop arch' : List (Ind O)} (h : Keeps k arch pop arch') :
    ∃ rest, ArchInv k arch' rest (arch ++ pop) := by
  obtain ⟨s, hp, hs, rfl⟩ := h
  obtain ⟨h1, h2, h3, _⟩ := take_sorted_spec _ s k hp hs
  exact ⟨_, h1, h2, h3⟩

/-- Feeding a sequence of populations to an archive of capacity `k`. -/
def archFeed (k : Nat) : List (Ind O) → List (List (Ind O)) → Option (List (Ind O))
  | a, [] => some a
  | a, p :: ps =>
    match archiveUpdate a p k with
    | none => none
    | some a' => archFeed k a' ps

theorem archFeed_inv (k : Nat) (pops : List (List (Ind O))) (arch rest shown final : List (Ind O))
    (hinv : ArchInv k arch rest shown) (hev : ∀ i ∈ shown ++ pops.flatten, i.obj.isSome)
    (h : archFeed k arch pops = some final) :
    ∃ rest', ArchInv k final rest' (shown ++ pops.flatten) := by
  induction pops generalizing arch rest shown with
  | nil => cases h; exact ⟨rest, by rw [List.flatten_nil, List.append_nil]; exact hinv⟩
  | cons p ps ih =>
    rw [archFeed] at h
    split at h
    · cases h
    · rename_i a' ha
      rw [List.flatten_cons, ← List.append_assoc] at hev ⊢
      obtain ⟨rest', hinv'⟩ := (archiveUpdate_keeps arch p a' k ha).inv hinv fun i hi => hev i (List.mem_append_left _ hi)
      exact ih a' rest' _ hinv' hev h

end MahfModel.PopMachine
