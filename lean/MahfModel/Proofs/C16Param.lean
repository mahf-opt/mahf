/- The analyses of `Model/Templates*.lean` on the templates as functions of their parameters
(`Model/TemplatesParam.lean`): closed forms for ALL parameter values.  First, for any analysis `F` that runs a block as a
chain of `bind`s: `sq_append`, and `isSome_of_loop` for the shape every template has (instantiated with `sizeOf` here, with
`safeOf` in `Proofs/C16GuardParam`); then `tplT_cases`, the elimination principle of `tplT`, and the verdicts. -/
import MahfModel.Proofs.C16SizeDomain
import MahfModel.Model.TemplatesParam
import MahfModel.Model.TemplatesLoops
namespace MahfModel.Tpl

theorem sizeOf_loop_self {B : Itv} {d : Nat} {body : SComp} {st : AbsStack}
    (hb : Tpl.sizeOf B (d + 1) body st = some st) (hok : (d != 0 || topWithin B st) = true) :
    Tpl.sizeOf B d (.loop body) st = some st :=
  sizeOf_loop .. ▸ loopCheck_self hb hok

theorem sizeOf_loop_exact (d n : Nat) (body : SComp)
    (hb : Tpl.sizeOf ⟨n, some n⟩ (d + 1) body [⟨n, some n⟩] = some [⟨n, some n⟩]) :
    Tpl.sizeOf ⟨n, some n⟩ d (.loop body) [⟨n, some n⟩] = some [⟨n, some n⟩] :=
  sizeOf_loop_self hb (by simp only [topWithin, Itv.le_refl, Bool.or_true])

section
variable {F : SComp → AbsStack → Option AbsStack}
  (hcons : ∀ c cs st, F (sq (c :: cs)) st = (F c st).bind (F (sq cs))) (hnil : ∀ st, F (sq []) st = some st)
include hcons hnil

theorem sq_append (l₁ l₂ : List SComp) (st : AbsStack) : F (sq (l₁ ++ l₂)) st = (F (sq l₁) st).bind (F (sq l₂)) := by
  induction l₁ generalizing st with
  | nil => rw [hnil]; rfl
  | cons c cs ih =>
    rw [List.cons_append, hcons, hcons]
    cases F c st with
    | none => rfl
    | some s => exact ih s

/-- The shape of every template: a prefix `pre`, then a block that after `mid` ends in the main loop. -/
theorem isSome_of_loop {pre mid : List SComp} {body : SComp} {s inv : AbsStack}
    (hp : F (sq (pre ++ mid)) [] = some s) (hl : F (.loop body) s = some inv) :
    (F (sq (pre ++ [sq (mid ++ [.loop body])])) []).isSome = true := by
  have one : ∀ c, F (sq [c]) = F c := fun c => funext fun st => by
    rw [hcons, funext hnil]; cases F c st <;> rfl
  rw [sq_append hcons hnil] at hp ⊢
  obtain ⟨s1, h1, hp⟩ := Option.bind_eq_some_iff.1 hp
  rw [h1, Option.bind_some, one, sq_append hcons hnil, hp, Option.bind_some, one, hl]
  rfl

end

theorem sizeOf_sq_cons (B : Itv) (d : Nat) (c : SComp) (cs : List SComp) (st : AbsStack) :
    Tpl.sizeOf B d (sq (c :: cs)) st = (Tpl.sizeOf B d c st).bind (Tpl.sizeOf B d (sq cs)) := by
  simp only [sq, SComps.ofList, Tpl.sizeOf, sizesOf]
  cases Tpl.sizeOf B d c st <;> rfl

theorem sizeWithin_of_loop {lo : Nat} {hi : Option Nat} {pre mid : List SComp} {body : SComp} {s inv : AbsStack}
    (hp : Tpl.sizeOf ⟨lo, hi⟩ 0 (sq (pre ++ mid)) [] = some s)
    (hl : Tpl.sizeOf ⟨lo, hi⟩ 0 (.loop body) s = some inv) :
    sizeWithin (sq (pre ++ [sq (mid ++ [.loop body])])) lo hi = true :=
  isSome_of_loop (sizeOf_sq_cons _ 0) (fun _ => rfl) hp hl

/-- Finishes `sizeWithin (sq (prefix ++ [sq [… loop …]])) lo hi` once the loop is known (`hl`). -/
macro "size_finish" hl:ident : tactic =>
  `(tactic| (generalize SComp.loop _ = L at $hl:ident ⊢
             simp [sizeWithin, Tpl.sizeOf, sizesOf, sizeStep, opOf, astep, Itv.exact, $hl:ident]))

theorem tplT_cases {P : Tid → List Nat → SComp → Prop} {cool : Bool}
    (real_ga : ∀ n ts, P .real_ga [n, ts] (gaS .RandomSpread .NormalMutation .Saturation n ts))
    (binary_ga : ∀ n ts, P .binary_ga [n, ts] (gaS .RandomBitstring .BitFlipMutation .Noop n ts))
    (real_es : ∀ mu lam, P .real_es [mu, lam] (esS mu lam))
    (real_de : ∀ n y, P .real_de [n, y] (deS n y))
    (real_pso : ∀ n, P .real_pso [n] (psoS n))
    (real_sa : P .real_sa [] (saS .RandomSpread .NormalMutation .Saturation))
    (permutation_sa : ∀ d, P .permutation_sa [d] (saS .RandomPermutation .SwapMutation .Noop))
    (real_ls : ∀ k, P .real_ls [k] (realLsS k))
    (permutation_ls : ∀ k d, P .permutation_ls [k, d] (permLsS k))
    (real_ils : ∀ k d, P .real_ils [k, d] (ilsS .RandomSpread .PartialRandomSpread .NormalMutation .Saturation k))
    (permutation_ils : ∀ k d e, P .permutation_ils [k, d, e]
      (ilsS .RandomPermutation .ScrambleMutation .SwapMutation .Noop k))
    (real_rs : P .real_rs [] (rsS .RandomSpread .PartialRandomSpread))
    (permutation_rs : P .permutation_rs [] (rsS .RandomPermutation .ScrambleMutation))
    (real_rw : P .real_rw [] (rwS .RandomSpread .NormalMutation .Saturation))
    (permutation_rw : ∀ d, P .permutation_rw [d] (rwS .RandomPermutation .SwapMutation .Noop))
    (real_iwo : ∀ i m mn mx d, P .real_iwo [i, m, mn, mx, d] (iwoS i m mn mx))
    (real_fa : ∀ n, P .real_fa [n] (faS n cool))
    (real_bh : ∀ n, P .real_bh [n] (bhS n))
    (real_cro : ∀ n d, P .real_cro [n, d] (croS n))
    (ant_system : ∀ ants, P .ant_system [ants] (acoS .AsPheromoneUpdate ants))
    (max_min_ant_system : ∀ ants, P .max_min_ant_system [ants] (acoS .MinMaxPheromoneUpdate ants))
    {name : Tid} {ps : List Nat} {t : SComp} (h : tplT name ps cool = some t) : P name ps t := by
  unfold tplT at h
  split at h
  all_goals cases h
  all_goals apply_assumption

/-! Stack balance and loop counters do not depend on the parameters at all. -/

theorem tpl_balanced_all (name : Tid) (ps : List Nat) (cool : Bool) (t : SComp)
    (h : tplT name ps cool = some t) : balanced t.erase = true := by
  apply tplT_cases (P := fun _ _ t => balanced t.erase = true) (h := h)
  case real_fa => intro n; cases cool <;> rfl
  all_goals intros; rfl

theorem tpl_iters_all (name : Tid) (ps : List Nat) (cool : Bool) (t : SComp) (c ci : LCond)
    (h : tplT name ps cool = some t) : itersExact (t.toL c ci) = true := by
  apply tplT_cases (P := fun _ _ t => itersExact (t.toL c ci) = true) (h := h)
  case' real_fa => intro n; cases cool
  all_goals
    intros
    simp only [gaS, esS, deS, psoS, saS, lsLoop, realLsS, permLsS, ilsS, rsS, rwS, iwoS, faS, bhS, croReaction, croS, acoS,
      sq, SComps.ofList, l0, evalUpd, List.cons_append, List.nil_append, SComp.toL, SComps.toLs, itersExact,
      directLoops, directLoopsL, scopesOk, scopesOkL, Bool.false_eq_true, ↓reduceIte]
    rfl

section
attribute [local simp] sq SComps.ofList l0 evalUpd Tpl.sizeOf sizesOf sizeStep opOf astep Itv.exact stackJoin Itv.join
  Itv.hiMax Itv.hiMin Itv.hiAdd Itv.hiLe Itv.mulC Itv.divC Itv.add Itv.capC Itv.meet

theorem ils_outer (pre : List SComp) (ls : SComp)
    (hpre : Tpl.sizeOf ⟨1, some 1⟩ 1 (sq pre) [⟨1, some 1⟩] = some [⟨1, some 1⟩])
    (hin : Tpl.sizeOf ⟨1, some 1⟩ 1 ls [⟨1, some 1⟩, ⟨1, some 1⟩] = some [⟨1, some 1⟩, ⟨1, some 1⟩]) :
    Tpl.sizeOf ⟨1, some 1⟩ 1 (sq (pre ++ [l0 .All, .scope (sq [sq [ls]]), l0 .BestIndividualUpdate,
      .leaf .MuPlusLambda 1 0, l0 .Logger])) [⟨1, some 1⟩] = some [⟨1, some 1⟩] := by
  rw [sq_append (sizeOf_sq_cons _ 1) (fun _ => rfl), hpre, Option.bind_some]
  simp [hin]

theorem tpl_size_all (name : Tid) (ps : List Nat) (cool : Bool) (t : SComp) (lo : Nat) (hi : Option Nat)
    (hn1 : name ≠ .real_iwo) (hn2 : name ≠ .real_cro)
    (h : tplT name ps cool = some t) (hp : prescribedT name ps = some (lo, hi)) :
    sizeWithin t lo hi = true := by
  revert hn1 hn2 lo hi
  apply tplT_cases (P := fun name ps t => ∀ lo hi, name ≠ .real_iwo → name ≠ .real_cro →
    prescribedT name ps = some (lo, hi) → sizeWithin t lo hi = true) (h := h)
  all_goals intros
  case real_iwo | real_cro => contradiction
  all_goals rename_i hp; cases hp
  -- no parameter reaches the tree of these six: the verdict is a closed fact, evaluated
  case real_sa | permutation_sa | real_rs | permutation_rs | real_rw | permutation_rw => decide +kernel
  case real_ga | binary_ga | real_es | real_de | permutation_ls =>
    exact sizeWithin_of_loop (mid := []) rfl (sizeOf_loop_exact 0 _ _ (by simp))
  case real_ls => exact sizeWithin_of_loop (pre := [_, _, _, _]) (mid := []) rfl (sizeOf_loop_exact 0 1 _ (by simp))
  case real_pso =>
    exact sizeWithin_of_loop (mid := [_]) rfl (sizeOf_loop_exact 0 _ _ rfl)
  case real_bh => exact sizeWithin_of_loop (mid := []) rfl (sizeOf_loop_exact 0 _ _ rfl)
  case real_fa => exact sizeWithin_of_loop (mid := []) rfl (sizeOf_loop_exact 0 _ _ (by cases cool <;> rfl))
  case real_ils | permutation_ils =>
    -- the scoped local-search loop sits on two singletons (working copy, current solution); nested, it has no bound to meet
    exact sizeWithin_of_loop (mid := []) rfl (sizeOf_loop_exact 0 1 _ (ils_outer _ _ rfl
      (sizeOf_loop_self (by simp) rfl)))
  case ant_system ants _ _ | max_min_ant_system ants _ _ =>
    exact sizeWithin_of_loop (pre := [l0 .Empty]) (mid := []) rfl
      ((sizeOf_loop ..).trans (loopCheck_aco ants (fun _ => by simp) (by simp [topWithin, Itv.le])))

end

end MahfModel.Tpl
