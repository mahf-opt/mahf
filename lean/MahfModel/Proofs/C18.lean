/- C18: the zips of the velocity and best updates (`stepParticle`, `velUpd`, `dimsOk`, `pbestUpd`, `pbestPanics`) leave surplus
entries alone; their length and index lemmas use no arithmetic, and each stands under the operations its function mentions.  On a
linear order: `clamp`, the index lemma `pbestUpd_step` (the old best or a strictly better candidate) from which the member forms are read off, and `minBy`. -/
import MahfModel.Model.Pso
import Mathlib.Algebra.Order.Field.Basic
namespace MahfModel.Pso

section zips
variable {F : Type} (w c1 c2 vmax : F)
variable (g : List F) (xs : List (Part F)) (vs : List (List F)) (ps : List (Part F)) (rs : List (List (F × F)))

theorem dimsOk_get
    (h : dimsOk g xs vs ps = true) (k : Nat) (x p : Part F) (v : List F)
    (hx : xs[k]? = some x) (hv : vs[k]? = some v) (hp : ps[k]? = some p) :
    v.length ≤ x.pos.length ∧ v.length ≤ p.pos.length ∧ v.length ≤ g.length := by
  induction xs generalizing vs ps k with
  | nil => cases hx
  | cons _ xs ih =>
    rcases vs with _ | ⟨_, vs⟩
    · cases hv
    rcases ps with _ | ⟨_, ps⟩
    · cases hp
    simp only [dimsOk, Bool.and_eq_true, decide_eq_true_eq] at h
    cases k with
    | zero => cases hx; cases hv; cases hp; exact ⟨h.1.1.1, h.1.1.2, h.1.2⟩
    | succ k => exact ih vs ps h.2 k hx hv hp

theorem dimsOk_of (d : Nat) (g : List F) (hg : g.length = d) (xs : List (Part F)) (vs : List (List F)) (ps : List (Part F))
    (hx : ∀ x ∈ xs, x.pos.length = d) (hv : ∀ v ∈ vs, v.length = d) (hp : ∀ p ∈ ps, p.pos.length = d) :
    dimsOk g xs vs ps = true := by
  induction xs generalizing vs ps with
  | nil => rfl
  | cons x xs ih =>
    rcases vs with _ | ⟨v, vs⟩
    · rfl
    rcases ps with _ | ⟨p, ps⟩
    · rfl
    have hvl := hv v List.mem_cons_self
    simp only [dimsOk, Bool.and_eq_true, decide_eq_true_eq]
    exact ⟨⟨⟨(hvl.trans (hx x List.mem_cons_self).symm).le, (hvl.trans (hp p List.mem_cons_self).symm).le⟩,
      (hvl.trans hg.symm).le⟩, ih vs ps (fun a h => hx a (List.mem_cons_of_mem _ h))
        (fun a h => hv a (List.mem_cons_of_mem _ h)) (fun a h => hp a (List.mem_cons_of_mem _ h))⟩

theorem pbestPanics_false (bs cs : List (Part F)) (hb : ∀ b ∈ bs, b.ev = true) (hc : ∀ c ∈ cs, c.ev = true) :
    pbestPanics bs cs = false := by
  induction bs generalizing cs with
  | nil => rfl
  | cons b bs ih =>
    rcases cs with _ | ⟨c, cs⟩
    · rfl
    simp only [pbestPanics, hb b List.mem_cons_self, hc c List.mem_cons_self, Bool.and_self, Bool.not_true,
      Bool.false_or]
    exact ih cs (fun a h => hb a (List.mem_cons_of_mem _ h)) (fun a h => hc a (List.mem_cons_of_mem _ h))

variable [LT F] [DecidableLT F]

theorem pbestUpd_length (bs cs : List (Part F)) : (pbestUpd bs cs).length = bs.length := by
  fun_induction pbestUpd bs cs
  · rename_i ih; exact congrArg (· + 1) ih
  · rfl

theorem pbestRun_append (init : List (Part F)) (hs : List (List (Part F))) (h : List (Part F)) :
    pbestRun init (hs ++ [h]) = pbestUpd (pbestRun init hs) h := by
  induction hs generalizing init with
  | nil => rfl
  | cons a as ih => exact ih _

variable [Add F] [Sub F] [Mul F] [Neg F]

theorem stepParticle_length (v x p g : List F) (r : List (F × F)) :
    (stepParticle w c1 c2 vmax v x p g r).1.length = v.length ∧
    (stepParticle w c1 c2 vmax v x p g r).2.length = x.length := by
  fun_induction stepParticle w c1 c2 vmax v x p g r
  · rename_i ih; exact ⟨congrArg (· + 1) ih.1, congrArg (· + 1) ih.2⟩
  · exact ⟨rfl, rfl⟩

theorem stepParticle_get (v x p g : List F) (r : List (F × F)) (i : Nat)
    (a b c d r1 r2 : F) (hv : v[i]? = some a) (hx : x[i]? = some b) (hp : p[i]? = some c) (hg : g[i]? = some d)
    (hr : r[i]? = some (r1, r2)) :
    (stepParticle w c1 c2 vmax v x p g r).1[i]? = some (stepComp w c1 c2 vmax r1 r2 a b c d).1 ∧
    (stepParticle w c1 c2 vmax v x p g r).2[i]? = some (stepComp w c1 c2 vmax r1 r2 a b c d).2 := by
  induction v generalizing x p g r i with
  | nil => cases hv
  | cons _ vs ih =>
    rcases x with _ | ⟨_, xs⟩
    · cases hx
    rcases p with _ | ⟨_, ps⟩
    · cases hp
    rcases g with _ | ⟨_, gs⟩
    · cases hg
    rcases r with _ | ⟨⟨_, _⟩, rs⟩
    · cases hr
    cases i with
    | zero => cases hv; cases hx; cases hp; cases hg; cases hr; exact ⟨rfl, rfl⟩
    | succ i => exact ih xs ps gs rs i hv hx hp hg hr

theorem velUpd_length :
    (velUpd w c1 c2 vmax g xs vs ps rs).1.length = xs.length ∧ (velUpd w c1 c2 vmax g xs vs ps rs).2.length = vs.length := by
  fun_induction velUpd w c1 c2 vmax g xs vs ps rs
  · rename_i ih; exact ⟨congrArg (· + 1) ih.1, congrArg (· + 1) ih.2⟩
  · exact ⟨List.length_map _, rfl⟩

theorem velUpd_get (k : Nat) (x p : Part F) (v : List F) (r : List (F × F))
    (hx : xs[k]? = some x) (hv : vs[k]? = some v) (hp : ps[k]? = some p) (hr : rs[k]? = some r) :
    (velUpd w c1 c2 vmax g xs vs ps rs).1[k]? =
      some { x with pos := (stepParticle w c1 c2 vmax v x.pos p.pos g r).2, ev := false } ∧
    (velUpd w c1 c2 vmax g xs vs ps rs).2[k]? = some (stepParticle w c1 c2 vmax v x.pos p.pos g r).1 := by
  induction xs generalizing vs ps rs k with
  | nil => cases hx
  | cons _ xs ih =>
    rcases vs with _ | ⟨_, vs⟩
    · cases hv
    rcases ps with _ | ⟨_, ps⟩
    · cases hp
    rcases rs with _ | ⟨_, rs⟩
    · cases hr
    cases k with
    | zero => cases hx; cases hv; cases hp; cases hr; exact ⟨rfl, rfl⟩
    | succ k => exact ih vs ps rs k hx hv hp hr

theorem velUpd_dims (d : Nat)
    (hx : ∀ x ∈ xs, x.pos.length = d) (hv : ∀ v ∈ vs, v.length = d) :
    (∀ x' ∈ (velUpd w c1 c2 vmax g xs vs ps rs).1, x'.pos.length = d) ∧
    (∀ v' ∈ (velUpd w c1 c2 vmax g xs vs ps rs).2, v'.length = d) := by
  fun_induction velUpd w c1 c2 vmax g xs vs ps rs
  · rename_i x xs v vs p ps r rs _ _ ih
    obtain ⟨ih1, ih2⟩ := ih (fun y hy => hx y (List.mem_cons_of_mem _ hy)) (fun y hy => hv y (List.mem_cons_of_mem _ hy))
    exact ⟨List.forall_mem_cons.mpr ⟨(stepParticle_length _ _ _ _ _ _ _ _ _).2.trans (hx x List.mem_cons_self), ih1⟩,
      List.forall_mem_cons.mpr ⟨(stepParticle_length _ _ _ _ _ _ _ _ _).1.trans (hv v List.mem_cons_self), ih2⟩⟩
  · exact ⟨fun x' h' => by obtain ⟨y, hy, rfl⟩ := List.mem_map.mp h'; exact hx y hy, hv⟩

theorem velStep_ok (draws : List (List (F × F))) (sw sw' : Swarm F)
    (h : velStep c1 c2 vmax draws sw = (.ok, sw')) :
    sw.vs.length = sw.xs.length ∧ sw.pbest.length = sw.xs.length ∧
    ∃ g, sw.gbest = some g ∧ dimsOk g.pos sw.xs sw.vs sw.pbest = true ∧
      sw' = { sw with xs := (velUpd sw.w c1 c2 vmax g.pos sw.xs sw.vs sw.pbest draws).1,
                      vs := (velUpd sw.w c1 c2 vmax g.pos sw.xs sw.vs sw.pbest draws).2 } := by
  revert h
  fun_cases velStep c1 c2 vmax draws sw <;> intro h <;> cases h
  rename_i h1 h2 g hg hd _
  exact ⟨by simpa using h1, by simpa using h2, g, hg, hd, rfl⟩

end zips

section order
variable {F : Type} [LinearOrder F]

theorem clamp_eq (lo hi v : F) : clamp lo hi v = min hi (max v lo) := by
  rw [max_def_lt, min_def_lt]; rfl

theorem clamp_bounds (lo hi v : F) (h : lo ≤ hi) : lo ≤ clamp lo hi v ∧ clamp lo hi v ≤ hi :=
  clamp_eq lo hi v ▸ ⟨le_min h (le_max_right _ _), min_le_left _ _⟩

theorem pbestUpd_step (bs cs : List (Part F)) (k : Nat) (b : Part F) (hb : bs[k]? = some b) :
    ∃ b', (pbestUpd bs cs)[k]? = some b' ∧ (b' = b ∨ cs[k]? = some b' ∧ b'.obj < b.obj) ∧
      ∀ c, cs[k]? = some c → b'.obj ≤ c.obj := by
  induction bs generalizing cs k with
  | nil => cases hb
  | cons b0 bs ih =>
    rcases cs with _ | ⟨c0, cs⟩
    · exact ⟨b, hb, .inl rfl, fun c hc => nomatch hc⟩
    cases k with
    | succ k => exact ih cs k hb
    | zero =>
      cases hb
      by_cases hlt : c0.obj < b.obj
      · exact ⟨c0, congrArg some (if_pos hlt), .inr ⟨rfl, hlt⟩, fun c hc => by cases hc; exact le_refl _⟩
      · exact ⟨b, congrArg some (if_neg hlt), .inl rfl, fun c hc => by cases hc; exact not_lt.mp hlt⟩

theorem pbestUpd_mem (bs cs : List (Part F)) : ∀ p ∈ pbestUpd bs cs, p ∈ bs ∨ p ∈ cs := by
  intro p hp
  obtain ⟨k, hk⟩ := List.getElem?_of_mem hp
  have hkb : k < bs.length := pbestUpd_length bs cs ▸ (List.getElem?_eq_some_iff.mp hk).1
  obtain ⟨b', h1, hor, -⟩ := pbestUpd_step bs cs k _ (List.getElem?_eq_getElem hkb)
  cases hk.symm.trans h1
  rcases hor with rfl | ⟨hc, -⟩
  · exact .inl (List.getElem_mem hkb)
  · exact .inr (List.mem_of_getElem? hc)

theorem pbestUpd_mem_left (bs cs : List (Part F)) (b : Part F) (hb : b ∈ bs)
    (h : ∀ c ∈ cs, ¬ c.obj < b.obj) : b ∈ pbestUpd bs cs := by
  obtain ⟨k, hk⟩ := List.getElem?_of_mem hb
  obtain ⟨b', h1, hor, -⟩ := pbestUpd_step bs cs k b hk
  rcases hor with rfl | ⟨hc, hlt⟩
  · exact List.mem_of_getElem? h1
  · exact absurd hlt (h b' (List.mem_of_getElem? hc))

theorem pbestUpd_mem_right (bs cs : List (Part F)) (c : Part F) (hc : c ∈ cs) (hl : cs.length ≤ bs.length)
    (h : ∀ b ∈ bs, c.obj < b.obj) : c ∈ pbestUpd bs cs := by
  obtain ⟨k, hk⟩ := List.getElem?_of_mem hc
  have hkb : k < bs.length := (List.getElem?_eq_some_iff.mp hk).1.trans_le hl
  obtain ⟨b', h1, hor, hle⟩ := pbestUpd_step bs cs k _ (List.getElem?_eq_getElem hkb)
  rcases hor with rfl | ⟨hc', -⟩
  · exact absurd (hle c hk) (not_le.mpr (h _ (List.getElem_mem hkb)))
  · cases hk.symm.trans hc'; exact List.mem_of_getElem? h1

theorem minBy_of_ne_nil (xs : List (Part F)) (h : xs ≠ []) :
    ∃ m, minBy xs = some m ∧ m ∈ xs ∧ ∀ x ∈ xs, m.obj ≤ x.obj := by
  induction xs with
  | nil => exact absurd rfl h
  | cons a as ih =>
    rw [minBy]
    rcases as with _ | ⟨b, bs⟩
    · exact ⟨a, rfl, List.mem_cons_self, fun x hx => by cases List.mem_singleton.mp hx; exact le_refl _⟩
    · obtain ⟨m, hm, hin, hle⟩ := ih (List.cons_ne_nil b bs)
      rw [hm]
      by_cases hc : m.obj < a.obj
      · exact ⟨m, if_pos hc, List.mem_cons_of_mem _ hin, List.forall_mem_cons.mpr ⟨le_of_lt hc, hle⟩⟩
      · exact ⟨a, if_neg hc, List.mem_cons_self,
          List.forall_mem_cons.mpr ⟨le_refl _, fun x hx => (not_lt.mp hc).trans (hle x hx)⟩⟩

end order

variable {F : Type} [Field F] [LinearOrder F] [IsStrictOrderedRing F]

-- stated on the ordered field of the property statements; the proof needs the order only
set_option linter.unusedSectionVars false in
theorem clamp_id (lo hi v : F) (h1 : lo ≤ v) (h2 : v ≤ hi) : clamp lo hi v = v := by
  rw [clamp_eq, max_eq_left h1, min_eq_right h2]

end MahfModel.Pso
