/- C02: `FlagInv`, every cell's `RefCell` flag says which guards live on it, and its one-cell update lemma
`FlagInv.update`, of which granting, releasing and a flag-neutral write are instances. `Eff` lists these and a `&mut`
step without live guards as what a request can do; `Eff.inv` is what the machine modules use. Rests on the chain and on
key uniqueness, not on the refinement. -/
import MahfModel.Model.Borrow
import MahfModel.Proofs.C01Nodup
namespace MahfModel.Borrow
open MahfModel.Registry

/-- Guard `g` is a shared (`excl = false`) / exclusive (`excl = true`) guard on the cell `(i, k)`. -/
def onCell (i : Nat) (k : Key) (excl : Bool) (g : Guard) : Bool := g.idx == i && g.key == k && (g.excl == excl)

/-- Number of live shared guards on the cell `(i, k)`. -/
def sharedOn (gs : List Guard) (i : Nat) (k : Key) : Nat := gs.countP (onCell i k false)

/-- Number of live exclusive guards on the cell `(i, k)`. -/
def exclOn (gs : List Guard) (i : Nat) (k : Key) : Nat := gs.countP (onCell i k true)

/-- In a reachable machine state every cell's `RefCell` flag says exactly which guards are alive on it. -/
structure FlagInv (m : M) : Prop where
  ne : m.reg ≠ []
  nk : nodupKeys m.reg
  ids : ∀ g ∈ m.guards, g.id < m.next
  nd : (m.guards.map (·.id)).Nodup
  present : ∀ i k c, cellAt m.reg i k = some c →
    c.readers = sharedOn m.guards i k ∧ (c.writer = true ↔ exclOn m.guards i k = 1) ∧
      exclOn m.guards i k ≤ 1 ∧ (c.writer = true → c.readers = 0)
  absent : ∀ i k, cellAt m.reg i k = none → sharedOn m.guards i k = 0 ∧ exclOn m.guards i k = 0

theorem FlagInv.flag (m : M) (h : FlagInv m) (i : Nat) (k : Key) (c : Cell) (hc : cellAt m.reg i k = some c) :
    (c.writer = true ↔ exclOn m.guards i k ≠ 0) ∧ c.readers = sharedOn m.guards i k ∧ exclOn m.guards i k ≤ 1 := by
  obtain ⟨p1, p2, p3, _⟩ := h.present i k c hc
  exact ⟨⟨fun hw => by rw [p2.mp hw]; exact Nat.one_ne_zero,
    fun hx => p2.mpr (Nat.le_antisymm p3 (Nat.pos_of_ne_zero hx))⟩, p1, p3⟩

theorem FlagInv.ite_writer (m : M) (h : FlagInv m) (i : Nat) (k : Key) (c : Cell) (hc : cellAt m.reg i k = some c)
    {α : Type} (a b : α) : (if c.writer = true then a else b) = if exclOn m.guards i k = 0 then b else a := by
  obtain ⟨w1, _, _⟩ := h.flag m i k c hc
  by_cases hx : exclOn m.guards i k = 0
  · rw [if_pos hx, if_neg (fun hw => w1.mp hw hx)]
  · rw [if_neg hx, if_pos (w1.mpr hx)]

theorem FlagInv.inv_of_no_guards (m : M) (h : FlagInv m) (hg : m.guards = []) : Inv m.reg := by
  refine ⟨h.ne, quiet_of_cells m.reg h.nk ?_⟩
  intro i k c hc
  obtain ⟨h1, h2, _, _⟩ := h.present i k c hc
  simp only [hg, sharedOn, exclOn, List.countP_nil] at h1 h2
  refine ⟨h1, ?_⟩
  cases hw : c.writer with
  | false => rfl
  | true => exact absurd (h2.mp hw) (by decide)

theorem flagInv_of_inv (r : Reg) (n : Nat) (h : Inv r) (hn : nodupKeys r) :
    FlagInv { reg := r, guards := [], next := n } :=
  { ne := h.1, nk := hn, ids := by simp, nd := by simp
    present := by
      intro i k c hc
      obtain ⟨h1, h2⟩ := quiet_cell r i k c h.2 hc
      simp [sharedOn, exclOn, h1, h2]
    absent := by intro i k _; simp [sharedOn, exclOn] }

theorem flagInv_init : FlagInv M.init := flagInv_of_inv new 0 inv_new nodupKeys_new

/-- A `&mut` step, possible only while no guard is alive: the invariant follows from the registry's. -/
theorem FlagInv.exclusive (m : M) (h : FlagInv m) (hg : m.guards.isEmpty = true) (r' : Reg)
    (hr : Inv m.reg → Inv r' ∧ nodupKeys r') : FlagInv { m with reg := r' } := by
  have hg' : m.guards = [] := List.isEmpty_iff.mp hg
  obtain ⟨h1, h2⟩ := hr (h.inv_of_no_guards m hg')
  rw [hg']; exact flagInv_of_inv r' m.next h1 h2

theorem onCell_self (g : Guard) (e : Bool) : onCell g.idx g.key e g = (g.excl == e) := by simp [onCell]

theorem onCell_other (g : Guard) (j : Nat) (q : Key) (e : Bool) (h : ¬ (j = g.idx ∧ q = g.key)) :
    onCell j q e g = false := by
  cases hd : onCell j q e g with
  | false => rfl
  | true => simp [onCell] at hd; exact absurd ⟨hd.1.1.symm, hd.1.2.symm⟩ h

/-- The invariant after a change of one cell and of the guard list that leaves the guards on all other cells as
they were: what remains to be shown is that the changed cell's flag says which of the new guards are on it. -/
theorem FlagInv.update (m : M) (h : FlagInv m) (i : Nat) (k : Key) (f : Cell → Cell) (gs : List Guard) (n : Nat)
    (hids : ∀ g ∈ gs, g.id < n) (hnd : (gs.map (·.id)).Nodup)
    (hoth : ∀ j q e, ¬ (j = i ∧ q = k) → gs.countP (onCell j q e) = m.guards.countP (onCell j q e))
    (hcell : ∀ c, cellAt m.reg i k = some c →
      (f c).readers = sharedOn gs i k ∧ ((f c).writer = true ↔ exclOn gs i k = 1) ∧ exclOn gs i k ≤ 1 ∧
        ((f c).writer = true → (f c).readers = 0))
    (hnone : cellAt m.reg i k = none → sharedOn gs i k = 0 ∧ exclOn gs i k = 0) :
    FlagInv { reg := modifyAt m.reg i (·.modify k f), guards := gs, next := n } := by
  refine { ne := modifyAt_ne_nil _ _ _ h.ne,
           nk := nodupKeys_modify_at _ i k f h.nk,
           ids := hids, nd := hnd, present := ?_, absent := ?_ }
  · intro j q c' hc'
    simp only [cellAt_modify_at] at hc'
    by_cases hjq : j = i ∧ q = k
    · obtain ⟨rfl, rfl⟩ := hjq
      cases hc : cellAt m.reg j q with
      | none => simp [hc] at hc'
      | some c =>
        simp only [hc, and_self, if_true, Option.map_some, Option.some.injEq] at hc'
        subst hc'; exact hcell c hc
    · simp only [hjq, if_false] at hc'
      simp only [sharedOn, exclOn, hoth j q _ hjq]
      exact h.present j q c' hc'
  · intro j q hc'
    simp only [cellAt_modify_at] at hc'
    by_cases hjq : j = i ∧ q = k
    · obtain ⟨rfl, rfl⟩ := hjq
      cases hc : cellAt m.reg j q with
      | none => exact hnone hc
      | some c => simp [hc] at hc'
    · simp only [hjq, if_false] at hc'
      simp only [sharedOn, exclOn, hoth j q _ hjq]
      exact h.absent j q hc'

theorem grant_inv (m : M) (h : FlagInv m) (i : Nat) (k : Key) (c : Cell) (excl : Bool)
    (hc : cellAt m.reg i k = some c) (hw : c.writer = false) (hr : excl = true → c.readers = 0) :
    FlagInv { reg := modifyAt m.reg i (·.modify k (fun _ => grantedCell c excl)),
              guards := ⟨m.next, i, k, excl⟩ :: m.guards, next := m.next + 1 } := by
  obtain ⟨p1, p2, p3, p4⟩ := h.present i k c hc
  have hex0 : exclOn m.guards i k = 0 :=
    Nat.lt_one_iff.mp (Nat.lt_of_le_of_ne p3 fun h1 => by have := p2.mpr h1; rw [hw] at this; cases this)
  apply h.update m i k
  · exact List.forall_mem_cons.mpr ⟨Nat.lt_succ_self _, fun g hg => Nat.lt_succ_of_lt (h.ids g hg)⟩
  · simp only [List.map_cons, List.nodup_cons]
    refine ⟨fun hmem => ?_, h.nd⟩
    obtain ⟨g, hg, hgid⟩ := List.mem_map.mp hmem
    exact Nat.lt_irrefl _ (hgid ▸ h.ids g hg)
  · intro j q e hjq
    rw [List.countP_cons, onCell_other ⟨m.next, i, k, excl⟩ j q e hjq]; rfl
  · intro c0 hc0
    rw [hc] at hc0; cases hc0
    simp only [sharedOn, exclOn, List.countP_cons, onCell_self ⟨m.next, i, k, excl⟩] at p1 hex0 ⊢
    cases excl with
    | true => simp [grantedCell, hex0, ← p1, hr rfl]
    | false => simp [grantedCell, hex0, hw, ← p1]
  · intro hn; rw [hc] at hn; cases hn

/-- Ids are unique: a live guard is the only one with its id. -/
theorem filter_id (gs : List Guard) (gd : Guard) (hmem : gd ∈ gs) (hnd : (gs.map (·.id)).Nodup) :
    gs.filter (fun g => g.id == gd.id) = [gd] := by
  induction gs with
  | nil => simp at hmem
  | cons g t ih =>
    simp only [List.map_cons, List.nodup_cons] at hnd
    rcases List.mem_cons.mp hmem with rfl | hmem
    · rw [List.filter_cons_of_pos (by simp)]
      exact congrArg _ (List.filter_eq_nil_iff.mpr fun g hg e => hnd.1 (List.mem_map.mpr ⟨g, hg, by simpa using e⟩))
    · rw [List.filter_cons_of_neg (by simpa using fun (e : g.id = gd.id) => hnd.1 (e ▸ List.mem_map.mpr ⟨gd, hmem, rfl⟩))]
      exact ih hmem hnd.2

theorem findGuard_mem (gs : List Guard) (gd : Guard) (hmem : gd ∈ gs) (hnd : (gs.map (·.id)).Nodup) :
    findGuard gs gd.id = some gd := by
  rw [findGuard, ← List.head?_filter, filter_id gs gd hmem hnd]; rfl

theorem countP_dropGuard (gs : List Guard) (gd : Guard) (P : Guard → Bool) (hmem : gd ∈ gs)
    (hnd : (gs.map (·.id)).Nodup) :
    (dropGuard gs gd.id).countP P + (if P gd then 1 else 0) = gs.countP P := by
  rw [List.countP_eq_countP_filter_add gs P (fun g => g.id != gd.id), dropGuard]
  simp only [bne, Bool.not_not, filter_id gs gd hmem hnd, List.countP_cons, List.countP_nil, Nat.zero_add]

theorem findGuard_some (gs : List Guard) (id : Nat) (gd : Guard) (h : findGuard gs id = some gd) :
    gd ∈ gs ∧ gd.id = id := by
  simp only [findGuard] at h
  exact ⟨List.mem_of_find?_eq_some h, by simpa using List.find?_some h⟩

theorem countP_onCell_pos (gs : List Guard) (gd : Guard) (h : gd ∈ gs) :
    0 < gs.countP (onCell gd.idx gd.key gd.excl) :=
  List.countP_pos_iff.mpr ⟨gd, h, by simp [onCell_self]⟩

theorem FlagInv.guard_cell (m : M) (h : FlagInv m) (gd : Guard) (hmem : gd ∈ m.guards) :
    ∃ c, cellAt m.reg gd.idx gd.key = some c := by
  cases hc : cellAt m.reg gd.idx gd.key with
  | some c => exact ⟨c, rfl⟩
  | none =>
    obtain ⟨h1, h2⟩ := h.absent gd.idx gd.key hc
    have := countP_onCell_pos m.guards gd hmem
    cases he : gd.excl <;> simp only [he, sharedOn, exclOn] at * <;> omega

/-- A cell's flag after dropping one of the guards it counts: `n b` / `n' b` are the guards of kind `b` (`true`:
exclusive) on the cell before / after, and `e` is the kind that was dropped. -/
theorem release_flags (c : Cell) (n n' : Bool → Nat) (e : Bool) (p1 : c.readers = n false)
    (p2 : c.writer = true ↔ n true = 1) (p3 : n true ≤ 1) (p4 : c.writer = true → c.readers = 0)
    (hn : ∀ b, n' b + (if (e == b) = true then 1 else 0) = n b) (hpos : 0 < n e) :
    (c.release e).readers = n' false ∧ ((c.release e).writer = true ↔ n' true = 1) ∧ n' true ≤ 1 ∧
      ((c.release e).writer = true → (c.release e).readers = 0) := by
  have hs := hn false
  have hx := hn true
  cases e with
  | true =>
    -- the only exclusive guard goes: no reader was there, no guard is left
    have hs' : n' false = n false := hs
    have h1 : n true = 1 := Nat.le_antisymm p3 hpos
    have hx' : n' true = 0 := Nat.succ.inj (hx.trans h1)
    exact ⟨p1.trans hs'.symm, ⟨fun h => (nomatch h), fun h => (nomatch hx'.symm.trans h)⟩, hx' ▸ Nat.zero_le 1,
      fun h => (nomatch h)⟩
  | false =>
    -- one reader goes: there was no writer, and there is none now
    have hs' : n' false + 1 = n false := hs
    have he' : n' true = n true := hx
    have hw : ¬ c.writer = true := fun hw => Nat.lt_irrefl 0 ((p4 hw).symm.trans p1 ▸ hpos)
    exact ⟨congrArg (· - 1) (p1.trans hs'.symm), ⟨fun h => absurd h hw, fun h => absurd (p2.mpr (he' ▸ h)) hw⟩,
      he' ▸ p3, fun h => absurd h hw⟩

/-- Dropping the only guard on a cell leaves none (`n`, `n'`, `e` as in `release_flags`). -/
theorem last_guard_dropped {n n' : Bool → Nat} (e : Bool) (hn : ∀ b, n' b + (if (e == b) = true then 1 else 0) = n b)
    (hone : n true + n false = 1) : n' true = 0 ∧ n' false = 0 := by
  rw [← hn true, ← hn false] at hone
  cases e
  · exact Nat.add_eq_zero_iff.mp (Nat.succ.inj hone)
  · exact Nat.add_eq_zero_iff.mp (Nat.succ.inj ((Nat.add_right_comm (n' true) (n' false) 1).trans hone))

theorem release_inv (m : M) (h : FlagInv m) (gd : Guard) (hmem : gd ∈ m.guards) :
    FlagInv { m with reg := releaseAt m.reg gd.idx gd.key gd.excl, guards := dropGuard m.guards gd.id } := by
  obtain ⟨c, hc⟩ := h.guard_cell m gd hmem
  obtain ⟨p1, p2, p3, p4⟩ := h.present gd.idx gd.key c hc
  have hcnt := fun P => countP_dropGuard m.guards gd P hmem h.nd
  apply h.update m gd.idx gd.key
  · exact fun g hg => h.ids g (List.mem_filter.mp hg).1
  · exact h.nd.sublist ((List.filter_sublist).map _)
  · intro j q e hjq
    have := hcnt (onCell j q e)
    rw [onCell_other gd j q e hjq] at this
    exact this
  · intro c0 hc0
    rw [hc] at hc0; cases hc0
    exact release_flags c (fun b => m.guards.countP (onCell gd.idx gd.key b)) _ gd.excl p1 p2 p3 p4
      (fun b => onCell_self gd b ▸ hcnt (onCell gd.idx gd.key b)) (countP_onCell_pos m.guards gd hmem)
  · intro hn; rw [hc] at hn; cases hn

theorem sameFlags_inv (m : M) (h : FlagInv m) (i : Nat) (k : Key) (f : Cell → Cell)
    (hf : ∀ c, cellAt m.reg i k = some c → (f c).readers = c.readers ∧ (f c).writer = c.writer) :
    FlagInv { m with reg := modifyAt m.reg i (·.modify k f) } :=
  h.update m i k f m.guards m.next h.ids h.nd (fun _ _ _ _ => rfl)
    (fun c hc => by obtain ⟨f1, f2⟩ := hf c hc; rw [f1, f2]; exact h.present i k c hc)
    (h.absent i k)

/-- What one request can do to the machine; `w`: it may change a value. -/
inductive Eff (m : M) : Bool → M → Prop
  | same (w : Bool) : Eff m w m
  | grant (w : Bool) (i : Nat) (k : Key) (c : Cell) (e : Bool) (hc : cellAt m.reg i k = some c)
      (hw : c.writer = false) (hr : e = true → c.readers = 0) :
      Eff m w { reg := modifyAt m.reg i (·.modify k fun _ => grantedCell c e),
                guards := ⟨m.next, i, k, e⟩ :: m.guards, next := m.next + 1 }
  | release (w : Bool) (gd : Guard) (h : gd ∈ m.guards) :
      Eff m w { m with reg := releaseAt m.reg gd.idx gd.key gd.excl, guards := dropGuard m.guards gd.id }
  | write (i : Nat) (k : Key) (f : Cell → Cell)
      (hf : ∀ c, cellAt m.reg i k = some c → (f c).readers = c.readers ∧ (f c).writer = c.writer) :
      Eff m true { m with reg := modifyAt m.reg i (·.modify k f) }
  | excl (r' : Reg) (hg : m.guards.isEmpty = true) (hr : Inv m.reg → nodupKeys m.reg → Inv r' ∧ nodupKeys r') :
      Eff m true { m with reg := r' }

theorem Eff.inv {m m' : M} {w : Bool} (e : Eff m w m') (h : FlagInv m) : FlagInv m' := by
  cases e with
  | same => exact h
  | grant _ i k c e hc hw hr => exact grant_inv m h i k c e hc hw hr
  | release _ gd hmem => exact release_inv m h gd hmem
  | write i k f hf => exact sameFlags_inv m h i k f hf
  | excl r' hg hr => exact h.exclusive m hg r' (fun hI => hr hI h.nk)

theorem Eff.abs {m m' : M} (e : Eff m false m') : abs m'.reg = abs m.reg := by
  cases e with
  | same => rfl
  | grant _ i k c e hc =>
    exact abs_modify_sameval _ i k _ fun c0 hc0 => by rw [hc] at hc0; cases hc0; cases e <;> rfl
  | release _ gd =>
    simp only [releaseAt]
    exact abs_modify_sameval _ _ _ _ (fun c _ => by simp only [Cell.release]; split <;> rfl)

end MahfModel.Borrow
