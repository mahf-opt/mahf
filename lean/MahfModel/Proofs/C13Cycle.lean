/- C13: the cycle table computed by `cycle_crossover` is closed under the successor map; the children are those of the
   uniform crossover under the mask "cycle number even", hence the children of two permutations are permutations. -/
import MahfModel.Proofs.C13CycleTable
import MahfModel.Proofs.C13Cross
import Mathlib.Data.List.Perm.Basic
import Mathlib.Data.List.Nodup
namespace MahfModel.Variation
open Cycle
variable {α : Type} [DecidableEq α]

/-- successor map of two parents: position in `p1` of the gene `p2` has at `j`. -/
def sigOf (p1 p2 : List α) (j : Nat) : Nat :=
  match p2[j]? with
  | some x => p1.idxOf x
  | none => 0

theorem sigOf_eq (p1 p2 : List α) (j : Nat) (hj : j < p2.length) : sigOf p1 p2 j = p1.idxOf p2[j] := by
  rw [sigOf, List.getElem?_eq_getElem hj]

section SigOf
variable {p1 p2 : List α} (hp : p1.Perm p2)
include hp

theorem sigOf_lt (j : Nat) (hj : j < p1.length) : sigOf p1 p2 j < p1.length :=
  sigOf_eq p1 p2 j (hp.length_eq ▸ hj) ▸ List.idxOf_lt_length_of_mem (hp.mem_iff.mpr (List.getElem_mem _))

theorem getElem?_sigOf (j : Nat) (hj : j < p1.length) : p1[sigOf p1 p2 j]? = p2[j]? := by
  rw [List.getElem?_eq_getElem (sigOf_lt hp j hj), List.getElem?_eq_getElem (hp.length_eq ▸ hj)]
  simp only [sigOf_eq p1 p2 j (hp.length_eq ▸ hj), List.getElem_idxOf]

theorem sigOf_inj (h2 : p2.Nodup) (i j : Nat) (hi : i < p1.length) (hj : j < p1.length)
    (e : sigOf p1 p2 i = sigOf p1 p2 j) : i = j :=
  (List.getElem?_inj (hp.length_eq ▸ hi) h2).mp (by rw [← getElem?_sigOf hp i hi, ← getElem?_sigOf hp j hj, e])
end SigOf

theorem position_eq (p1 : List α) (x : α) (h : x ∈ p1) : position p1 x = some (p1.idxOf x) := by
  unfold position
  rw [List.findIdx?_eq_some_iff_findIdx_eq]
  exact ⟨List.idxOf_lt_length_of_mem h, rfl⟩

section Loops
variable (p1 p2 : List α) {n : Nat} (hl2 : p2.length = n) (hmem : ∀ x ∈ p2, x ∈ p1)
include hl2 hmem

/-- One pass of the while loop, with the table lookup, `parent2[pos]` and the `unwrap` resolved. -/
theorem ccWhile_succ (cn : Int) (fuel pos : Nat) (cyc : List Int) (hp : pos < cyc.length) (hn : cyc.length = n) :
    ccWhile p1 p2 cn (fuel + 1) pos cyc =
      if gd cyc pos < 0 then ccWhile p1 p2 cn fuel (sigOf p1 p2 pos) (cyc.set pos cn) else some cyc := by
  have hp2 : pos < p2.length := by omega
  rw [ccWhile, List.getElem?_eq_getElem hp, List.getElem?_eq_getElem hp2, gd_eq_getElem cyc pos hp]
  dsimp only
  rw [position_eq p1 p2[pos] (hmem _ (List.getElem_mem hp2)), sigOf_eq p1 p2 pos hp2]

variable (hlt : ∀ j, j < n → sigOf p1 p2 j < n)
  (hinj : ∀ i j, i < n → j < n → sigOf p1 p2 i = sigOf p1 p2 j → i = j)
include hlt hinj

theorem ccWhile_of_J (cn : Int) (hcn : 0 ≤ cn) (c0 : List Int) (s : Nat) :
    ∀ (fuel : Nat) (pos : Nat) (cur : List Int), J (sigOf p1 p2) n c0 s cn pos cur → negs cur < fuel →
    ∃ cyc', ccWhile p1 p2 cn fuel pos cur = some cyc' ∧ Inv (sigOf p1 p2) n cyc' ∧
      (∀ j, j < n → 0 ≤ gd c0 j → gd cyc' j = gd c0 j) ∧ 0 ≤ gd cyc' s := by
  intro fuel
  induction fuel with
  | zero => intro pos cur _ h; omega
  | succ f ih =>
    intro pos cur hJ hf
    have hp : pos < cur.length := hJ.len ▸ hJ.pos_lt
    rw [ccWhile_succ p1 p2 hl2 hmem cn f pos cur hp hJ.len]
    split
    next hc =>
      have hn := negs_set cur pos cn hp hc hcn
      exact ih _ _ (hJ.step hlt hinj hcn hc) (by omega)
    next hc => exact ⟨cur, rfl, hJ.exit hinj hc⟩

theorem ccWhile_spec (cn : Int) (hcn : 0 ≤ cn) (c0 : List Int) (h0 : Inv (sigOf p1 p2) n c0) (s : Nat) (hs : s < n)
    (fuel : Nat) (hf : negs c0 < fuel) :
    ∃ cyc', ccWhile p1 p2 cn fuel s c0 = some cyc' ∧ Inv (sigOf p1 p2) n cyc' ∧
      (∀ j, j < n → 0 ≤ gd c0 j → gd cyc' j = gd c0 j) ∧ 0 ≤ gd cyc' s := by
  by_cases hc : gd c0 s < 0
  · exact ccWhile_of_J p1 p2 hl2 hmem hlt hinj cn hcn c0 s fuel s c0 (J.first h0 hs hc) hf
  · obtain ⟨f, rfl⟩ : ∃ f, fuel = f + 1 := ⟨fuel - 1, by omega⟩
    exact ⟨c0, by rw [ccWhile_succ p1 p2 hl2 hmem cn f s c0 (h0.len ▸ hs) h0.len, if_neg hc], h0, fun _ _ _ => rfl,
      Int.not_lt.mp hc⟩

theorem ccFor_spec (starts : List Nat) : ∀ (cn : Int) (cyc : List Int), 0 ≤ cn → Inv (sigOf p1 p2) n cyc →
    (∀ s ∈ starts, s < n) →
    ∃ cyc', ccFor p1 p2 starts cn cyc = some cyc' ∧ Inv (sigOf p1 p2) n cyc' ∧
      (∀ j, j < n → 0 ≤ gd cyc j → gd cyc' j = gd cyc j) ∧ (∀ s ∈ starts, 0 ≤ gd cyc' s) := by
  induction starts with
  | nil => intro cn cyc _ h _; exact ⟨cyc, rfl, h, fun _ _ _ => rfl, by simp⟩
  | cons s rest ih =>
    intro cn cyc hcn h hs
    have hsn : s < n := hs s (by simp)
    obtain ⟨c1, e1, i1, k1, m1⟩ := ccWhile_spec p1 p2 hl2 hmem hlt hinj cn hcn cyc h s hsn (cyc.length + 1)
      (Nat.lt_succ_of_le List.countP_le_length)
    obtain ⟨c2, e2, i2, k2, m2⟩ := ih (cn + 1) c1 (by omega) i1 (fun x hx => hs x (by simp [hx]))
    refine ⟨c2, by simp [ccFor, e1, e2], i2, ?_, ?_⟩
    · intro j hj hj0
      have a := k1 j hj hj0
      exact (k2 j hj (a.symm ▸ hj0)).trans a
    · intro x hx
      rcases List.mem_cons.mp hx with rfl | hx
      · rw [k2 x hsn m1]; exact m1
      · exact m2 x hx
end Loops

/-- The table `cycle_crossover` computes: every position numbered, the numbers constant along the successor map. -/
theorem ccFor_closed (p1 p2 : List α) (hp : p1.Perm p2) (h2 : p2.Nodup) :
    ∃ cyc, ccFor p1 p2 (List.range p1.length) 1 (List.replicate p1.length (-1)) = some cyc ∧
      cyc.length = p1.length ∧ ∀ j, j < p1.length → gd cyc (sigOf p1 p2 j) = gd cyc j := by
  obtain ⟨cyc, efor, hinv, _, hmarked⟩ := ccFor_spec p1 p2 hp.length_eq.symm (fun x hx => hp.mem_iff.mpr hx) (sigOf_lt hp)
    (sigOf_inj hp h2) (List.range p1.length) 1 (List.replicate p1.length (-1)) (by omega) (inv_init _ p1.length)
    (by intro s hs; simpa using hs)
  exact ⟨cyc, efor, hinv.len, fun j hj => hinv.closed j hj (hmarked j (List.mem_range.mpr hj))⟩

omit [DecidableEq α] in
/-- The children of the cycle crossover are those of the uniform crossover under the mask "cycle number even". -/
theorem ccChildren_eq_uxSpec (p1 p2 : List α) (cyc : List Int) :
    ccChildren p1 p2 cyc = uxSpec p1 p2 (cyc.map fun n => !(n % 2 != 0)) := by
  induction p1 generalizing p2 cyc with
  | nil => simp [ccChildren, uxSpec]
  | cons a as ih =>
    match p2, cyc with
    | [], _ | _ :: _, [] => simp [ccChildren, uxSpec]
    | b :: bs, n :: ns =>
      rw [ccChildren, ih]
      cases h : n % 2 != 0 <;> simp [uxSpec, h]

omit [DecidableEq α] in
/-- A child that takes, cycle by cycle, the genes of one parent is a permutation. -/
theorem child_perm (p1 p2 c : List α) (h1 : p1.Nodup) (hp : p1.Perm p2) (sig : Nat → Nat)
    (hlt : ∀ j, j < p1.length → sig j < p1.length) (hget : ∀ j, j < p1.length → p1[sig j]? = p2[j]?)
    (pick : Nat → Bool) (hpick : ∀ j, j < p1.length → pick (sig j) = pick j)
    (hc : c.length = p1.length)
    (hck : ∀ k, k < p1.length → c[k]? = if pick k then p1[k]? else p2[k]?) : c.Perm p1 := by
  have h2 : p2.Nodup := hp.nodup_iff.mp h1
  have hl : p1.length = p2.length := hp.length_eq
  have hnd : c.Nodup := by
    rw [List.nodup_iff_injective_getElem]
    intro ⟨i, hi⟩ ⟨j, hj⟩ e
    have e' : c[i]? = c[j]? := by rw [List.getElem?_eq_getElem hi, List.getElem?_eq_getElem hj]; exact congrArg some e
    rw [hck i (hc ▸ hi), hck j (hc ▸ hj)] at e'
    apply Fin.ext
    cases hpi : pick i <;> cases hpj : pick j <;> simp only [hpi, hpj, if_true, if_false, Bool.false_eq_true] at e'
    · exact (List.getElem?_inj (hl ▸ hc ▸ hi) h2).mp e'
    · -- `p2[i] = p1[j]`, so `j = sig i` lies on the cycle of `i`
      rw [← hget i (hc ▸ hi)] at e'
      have := hpick i (hc ▸ hi)
      rw [(List.getElem?_inj (hlt i (hc ▸ hi)) h1).mp e', hpi, hpj] at this
      cases this
    · rw [← hget j (hc ▸ hj)] at e'
      have := hpick j (hc ▸ hj)
      rw [← (List.getElem?_inj (hc ▸ hi) h1).mp e', hpi, hpj] at this
      cases this
    · exact (List.getElem?_inj (hc ▸ hi) h1).mp e'
  have hsub : c ⊆ p1 := by
    intro x hx
    obtain ⟨k, hk, rfl⟩ := List.getElem_of_mem hx
    have := hck k (hc ▸ hk)
    rw [List.getElem?_eq_getElem hk] at this
    split at this
    · exact List.mem_of_getElem? this.symm
    · exact hp.mem_iff.mpr (List.mem_of_getElem? this.symm)
  exact (List.subperm_of_subset hnd hsub).perm_of_length_le (Nat.le_of_eq hc.symm)

theorem validPermutation_iff (l : List α) : validPermutation l = true ↔ l.Nodup := by
  induction l with
  | nil => simp [validPermutation]
  | cons a t ih => simp [validPermutation, ih]

theorem cycleCrossover_spec (p1 p2 : List α) (h1 : p1.Nodup) (hp : p1.Perm p2) :
    ∃ c1 c2, cycleCrossover p1 p2 = some (c1, c2) ∧ c1.length = p1.length ∧ c2.length = p1.length ∧
      (∀ k : Nat, k < p1.length →
        (c1[k]? = p1[k]? ∧ c2[k]? = p2[k]?) ∨ (c1[k]? = p2[k]? ∧ c2[k]? = p1[k]?)) ∧
      c1.Perm p1 ∧ c2.Perm p1 := by
  have h2 : p2.Nodup := hp.nodup_iff.mp h1
  have hl : p1.length = p2.length := hp.length_eq
  obtain ⟨cyc, efor, hlen, hclosed⟩ := ccFor_closed p1 p2 hp h2
  obtain ⟨l1, l2, hchk⟩ := uxSpec_positionwise p1 p2 (cyc.map fun n => !(n % 2 != 0)) hl (by rw [List.length_map, hlen])
  -- the mask in terms of the cycle numbers, which are constant along `sig`
  have hmask : ∀ k (hk : k < p1.length), (cyc.map fun n => !(n % 2 != 0))[k]'(by rw [List.length_map, hlen]; exact hk) =
      !(gd cyc k % 2 != 0) := fun k hk => by rw [List.getElem_map, gd_eq_getElem cyc k (hlen.symm ▸ hk)]
  refine ⟨_, _, ?_, l1, l2, fun k hk => conserved_of_pick (hchk k hk).1 (hchk k hk).2, ?_, ?_⟩
  · unfold cycleCrossover
    have v1 : validPermutation p1 = true := (validPermutation_iff p1).mpr h1
    have v2 : validPermutation p2 = true := (validPermutation_iff p2).mpr h2
    have e0 : ¬ (p1.length ≠ p2.length) := by simp [hl]
    simp only [e0, if_false, v1, v2, Bool.not_true, Bool.false_eq_true, efor, ccChildren_eq_uxSpec]
  · -- child 1: cycle number odd ↦ parent 1
    refine child_perm p1 p2 _ h1 hp (sigOf p1 p2) (sigOf_lt hp) (getElem?_sigOf hp) (fun k => gd cyc k % 2 != 0)
      (fun j hj => by simp only [hclosed j hj]) l1 fun k hk => ?_
    rw [(hchk k hk).1, hmask k hk]
    cases gd cyc k % 2 != 0 <;> rfl
  · refine child_perm p1 p2 _ h1 hp (sigOf p1 p2) (sigOf_lt hp) (getElem?_sigOf hp) (fun k => !(gd cyc k % 2 != 0))
      (fun j hj => by simp only [hclosed j hj]) l2 fun k hk => ?_
    rw [(hchk k hk).2, hmask k hk]

end MahfModel.Variation
