/-
C03 over the shipped conditions (`Model/ConfigReal`) — vocabulary, on the pattern of `Proofs/C03Seq`: `RStmt.all` of a
sequence, the sequencing operators `rcbind` / `rcthen` with the equations of the interpreters through them, induction over
trees (`RCond.ind` / `RComp.ind`).
-/
import MahfModel.Model.ConfigReal
namespace MahfModel.ConfigReal
open MahfModel.Config

theorem RStmt.all_seq {φ : ROp → Bool} {a b : RStmt} (ha : a.all φ = true) (hb : b.all φ = true) :
    (RStmt.seq a b).all φ = true :=
  Bool.and_eq_true_iff.mpr ⟨ha, hb⟩

theorem RStmt.all_true (p : RStmt) : p.all (fun _ => true) = true := by
  induction p with
  | skip | atom => rfl
  | seq a b iha ihb | ite _ a b iha ihb => exact RStmt.all_seq iha ihb
  | loop _ b ih | inScope b ih => exact ih

/-! ### Sequencing of condition evaluations

As in `Proofs/C03Seq.lean`, with the third outcome: a missing source ends the component with a
`StateError` (`counter`). -/

def rcbind (x : St × RCRes) (k : Bool → St → St × RCRes) : St × RCRes :=
  match x with
  | (σ, .val b) => k b σ
  | (σ, .err ph id) => (σ, .err ph id)
  | (σ, .missing) => (σ, .missing)

def rcthen (x : St × RCRes) (k : Bool → St → St × Res) : St × Res :=
  match x with
  | (σ, .val b) => k b σ
  | (σ, .err ph id) => (σ, .err ph id)
  | (σ, .missing) => (σ, .counter)

theorem rcondEval_not (s : Script) (c : RCond) (σ : St) :
    rcondEval s (.not c) σ = rcbind (rcondEval s c σ) fun b σ1 => (σ1, .val (!b)) := by
  rw [rcondEval]; rcases rcondEval s c σ with ⟨σ1, _ | _ | _⟩ <;> rfl

theorem rcondEval_all_cons (s : Script) (c : RCond) (cs : RConds) (σ : St) :
    rcondEval s (.all (.cons c cs)) σ =
      rcbind (rcondEval s c σ) fun b σ1 => rcbind (rcondEval s (.all cs) σ1) fun b' σ2 => (σ2, .val (b && b')) := by
  show revalAll s (.cons c cs) σ = rcbind _ fun b σ1 => rcbind (revalAll s cs σ1) _
  rw [revalAll]; rcases rcondEval s c σ with ⟨σ1, b | _ | _⟩ <;> simp only [rcbind]
  rcases revalAll s cs σ1 with ⟨σ2, _ | _ | _⟩ <;> rfl

theorem rcondEval_any_cons (s : Script) (c : RCond) (cs : RConds) (σ : St) :
    rcondEval s (.any (.cons c cs)) σ =
      rcbind (rcondEval s c σ) fun b σ1 => rcbind (rcondEval s (.any cs) σ1) fun b' σ2 => (σ2, .val (b || b')) := by
  show revalAny s (.cons c cs) σ = rcbind _ fun b σ1 => rcbind (revalAny s cs σ1) _
  rw [revalAny]; rcases rcondEval s c σ with ⟨σ1, b | _ | _⟩ <;> simp only [rcbind]
  rcases revalAny s cs σ1 with ⟨σ2, _ | _ | _⟩ <;> rfl

theorem rwhileN_succ (cond : St → St × RCRes) (body : St → St × Res) (n : Nat) (σ : St) :
    rwhileN cond body (n + 1) σ =
      rcthen (cond σ) fun b σ1 => if b then andThen (body σ1) (rwhileN cond body n) else (σ1, .ok) := by
  rw [rwhileN]; rcases cond σ with ⟨σ1, ⟨_ | _⟩ | _ | _⟩ <;> rfl

theorem rloopN_succ (cond : St → St × RCRes) (body : St → St × Res) (n : Nat) (σ : St) :
    rloopN cond body (n + 1) σ =
      rcthen (cond σ) fun b σ1 =>
        if b then andThen (andThen (body σ1) bump) (rloopN cond body n) else (σ1, .ok) := by
  rw [rloopN]; rcases cond σ with ⟨σ1, ⟨_ | _⟩ | _ | _⟩ <;> rfl

theorem rsrun_ite (s : Script) (trg : RConds) (f : Nat) (c : RCond) (t e : RStmt) (σ : St) :
    rsrun s trg f (.ite c t e) σ =
      rcthen (rcondEval s c σ) fun b σ1 => rsrun s trg f (if b then t else e) σ1 := by
  rw [rsrun]; rcases rcondEval s c σ with ⟨σ1, ⟨_ | _⟩ | _ | _⟩ <;> rfl

theorem rexec_branch (s : Script) (trg : RConds) (f : Nat) (c : RCond) (t e : RComp) (he : Bool) (σ : St) :
    rexec s trg f (.branch c t e he) σ =
      rcthen (rcondEval s c σ) fun b σ1 =>
        if b then rexec s trg f t σ1 else if he then rexec s trg f e σ1 else (σ1, .ok) := by
  rw [rexec]; rcases rcondEval s c σ with ⟨σ1, ⟨_ | _⟩ | _ | _⟩ <;> rfl

theorem rcthen_congr {x : St × RCRes} {k k' : Bool → St → St × Res} (h : ∀ b σ, k b σ = k' b σ) :
    rcthen x k = rcthen x k' :=
  congrArg (rcthen x) (funext fun b => funext (h b))

/-! ### Induction over trees (as in `Proofs/C03Seq.lean`: lists are blocks, `And`s, `Or`s) -/

theorem RCond.ind {P : RCond → Prop} (script : ∀ id, P (.script id)) (ltN : ∀ lens n, P (.ltN lens n))
    (everyN : ∀ n, P (.everyN n)) (chance : ∀ b, P (.chance b)) (not : ∀ c, P c → P (.not c))
    (all_nil : P (.all .nil)) (all_cons : ∀ c cs, P c → P (.all cs) → P (.all (.cons c cs)))
    (any_nil : P (.any .nil)) (any_cons : ∀ c cs, P c → P (.any cs) → P (.any (.cons c cs))) : ∀ c, P c :=
  RCond.rec (motive_2 := fun cs => P (.all cs) ∧ P (.any cs)) script ltN everyN chance (fun _ h => h.1)
    (fun _ h => h.2) not ⟨all_nil, any_nil⟩ fun c cs hc h => ⟨all_cons c cs hc h.1, any_cons c cs hc h.2⟩

theorem RComp.ind {P : RComp → Prop} (leaf : ∀ id acts, P (.leaf id acts)) (hold : ∀ id k acts, P (.hold id k acts))
    (logger : P .logger) (nil : P (.block .nil)) (cons : ∀ c cs, P c → P (.block cs) → P (.block (.cons c cs)))
    (loop : ∀ c b, P b → P (.loop c b)) (branch : ∀ c t e he, P t → P e → P (.branch c t e he))
    (scope : ∀ b, P b → P (.scope b)) : ∀ c, P c :=
  RComp.rec (motive_2 := fun cs => P (.block cs)) leaf hold logger (fun _ h => h) loop branch scope nil cons

end MahfModel.ConfigReal
