/- C14: from coordinates to solutions, populations and the driver `boundary_constraint`; the initialisers' list lemmas. -/
import MahfModel.Proofs.C14Loop
import MahfModel.Proofs.ListIndex
import Mathlib.Data.List.Forall2
namespace MahfModel.Boundary

/-! ### whole solutions: every coordinate related to ITS input and ITS range -/
section
variable {F : Type}

theorem zipDomainM_some (f : F → F × F → F) : ∀ (xs : List F) (ds : List (F × F)),
    zipDomainM (fun x d => some (f x d)) xs ds = some (zipDomain f xs ds)
  | [], [] => rfl
  | [], _ :: _ => rfl
  | _ :: _, [] => rfl
  | x :: xs, d :: ds => by rw [zipDomainM, zipDomainM_some f xs ds, zipDomain]

/-- Coordinates left to right through a state: the shape that `oneTailedSolution` and the lifted `zipDomainM`
(`zipOp`) share, so that one induction serves all four operators. -/
def zipS {S : Type} (g : F → F × F → S → Option (F × S)) : List F → List (F × F) → S → Option (List F × S)
  | x :: xs, d :: ds, s =>
    match g x d s with
    | none => none
    | some (y, s') =>
      match zipS g xs ds s' with
      | none => none
      | some (ys, s'') => some (y :: ys, s'')
  | xs, [], s => some (xs, s)
  | [], _, s => some ([], s)

theorem zipS_pointwise {S : Type} (g : F → F × F → S → Option (F × S)) (P : F × F → F → F → Prop)
    (hg : ∀ x d s y s', g x d s = some (y, s') → P d x y) (xs : List F) (ds : List (F × F)) (s : S)
    (ys : List F) (s' : S) (h : zipS g xs ds s = some (ys, s')) :
    ys.length = xs.length ∧
      ∀ k (hk : k < ys.length) (hx : k < xs.length) (hd : k < ds.length), P ds[k] xs[k] ys[k] := by
  fun_induction zipS g xs ds s generalizing ys with
  | case1 => cases h  -- the coordinate does not return
  | case2 => cases h  -- the rest does not return
  | case3 x xs d ds s y s1 h1 ys' s2 h2 ih =>  -- both return
    cases h
    obtain ⟨hl, hp⟩ := ih ys' h2
    refine ⟨congrArg Nat.succ hl, fun k hk hx hd => ?_⟩
    cases k with
    | zero => exact hg x d s y s1 h1
    | succ k =>
      exact hp k (Nat.lt_of_succ_lt_succ hk) (Nat.lt_of_succ_lt_succ hx) (Nat.lt_of_succ_lt_succ hd)
  -- domain exhausted
  | case4 => cases h; exact ⟨rfl, fun k _ _ hd => absurd hd (Nat.not_lt_zero k)⟩
  -- solution exhausted
  | case5 => cases h; exact ⟨rfl, fun k hk => absurd hk (Nat.not_lt_zero k)⟩

theorem zipS_fixed [LE F] {S : Type} (g : F → F × F → S → Option (F × S))
    (hfix : ∀ x d s, d.1 ≤ x → x ≤ d.2 → g x d s = some (x, s)) (ys : List F) (ds : List (F × F)) (s : S)
    (h : AllInside ds ys) : zipS g ys ds s = some (ys, s) := by
  induction ys generalizing ds with
  | nil => cases ds <;> rfl
  | cons y ys ih =>
    cases ds with
    | nil => rfl
    | cons d ds =>
      have h0 := h 0 (Nat.zero_lt_succ _) (Nat.zero_lt_succ _)
      simp only [zipS, hfix y d s h0.1 h0.2,
        ih ds fun k hk hd => h (k + 1) (Nat.succ_lt_succ hk) (Nat.succ_lt_succ hd)]

/-- `satOp`, `torOp` and `mirOp` with the coordinate operator as a variable (`satOp_eq`, `torOp_eq`, `mirOp_eq`). -/
def zipOp {S : Type} (f : F → F × F → Option F) (dom : List (F × F)) (sol : List F) (s : S) :
    Option (List F × S) :=
  (zipDomainM f sol dom).map (·, s)

theorem zipOp_eq_zipS {S : Type} (f : F → F × F → Option F) (dom : List (F × F)) (sol : List F) (s : S) :
    zipOp f dom sol s = zipS (fun x d s => (f x d).map (·, s)) sol dom s := by
  fun_induction zipS (fun x d s => (f x d).map (·, s)) sol dom s <;> simp_all [zipOp, zipDomainM]

theorem zipDomainM_length {f : F → F × F → Option F} {xs : List F} {ds : List (F × F)} (ys : List F)
    (h : zipDomainM f xs ds = some ys) : ys.length = xs.length :=
  (zipS_pointwise _ (fun _ _ _ => True) (fun _ _ _ _ _ _ => trivial) xs ds () ys ()
    ((zipOp_eq_zipS f ds xs ()).symm.trans (congrArg (Option.map (·, ())) h))).1

theorem zipDomainM_returns (f : F → F × F → Option F) (xs : List F) (ds : List (F × F))
    (hf : ∀ x, ∀ d ∈ ds, ∃ y, f x d = some y) : ∃ ys, zipDomainM f xs ds = some ys := by
  fun_induction zipDomainM f xs ds with
  -- both return
  | case1 => exact ⟨_, rfl⟩
  | case2 x xs d ds hn ih =>  -- a coordinate or the rest does not return
    obtain ⟨y, hy⟩ := hf x d List.mem_cons_self
    obtain ⟨ys, hys⟩ := ih fun x d hd => hf x d (List.mem_cons_of_mem _ hd)
    exact (hn y ys hy hys).elim
  -- domain exhausted
  | case3 => exact ⟨_, rfl⟩
  -- solution exhausted
  | case4 => exact ⟨_, rfl⟩
end

section
variable {F : Type} [Add F] [Sub F] [Mul F] [Div F] [LT F] [DecidableLT F] [OfNat F 3]

theorem oneTailedSolution_eq_zipS (xs : List F) (ds : List (F × F)) (script : List F) :
    oneTailedSolution xs ds script = zipS (fun x d sc => oneTailedLoop d.1 d.2 sc x) xs ds script := by
  fun_induction zipS (fun x d sc => oneTailedLoop d.1 d.2 sc x) xs ds script <;> simp only [oneTailedSolution, *]
end

/-! ### the driver -/
section
variable {F S : Type}

theorem constrainAll_forall₂ (op : List F → S → Option (List F × S)) (R : List F → List F → Prop)
    (hop : ∀ sol y s s', op sol s = some (y, s') → R sol y) (pop : List (List F)) (s : S)
    (pop' : List (List F)) (s' : S) (h : constrainAll op pop s = some (pop', s')) : List.Forall₂ R pop pop' := by
  fun_induction constrainAll op pop s generalizing pop' with
  -- empty population
  | case1 => cases h; exact .nil
  -- the operator does not return
  | case2 => cases h
  -- the rest does not return
  | case3 => cases h
  -- both return
  | case4 sol sols s y s1 h1 ys s2 h2 ih => cases h; exact .cons (hop _ _ _ _ h1) (ih ys h2)

/-- An operator that is a function of the solution and leaves the state alone: the driver is `List.map`. -/
theorem constrainAll_map (op : List F → S → Option (List F × S)) (φ : List F → List F) (s : S) :
    ∀ pop : List (List F), (∀ sol ∈ pop, op sol s = some (φ sol, s)) → constrainAll op pop s = some (pop.map φ, s)
  | [], _ => rfl
  | sol :: sols, h => by
    simp only [constrainAll, h sol List.mem_cons_self,
      constrainAll_map op φ s sols fun t ht => h t (List.mem_cons_of_mem _ ht), List.map_cons]

theorem boundaryConstraint_concat (op : List F → S → Option (List F × S)) (below : List (List (List F)))
    (top : List (List F)) (s : S) :
    boundaryConstraint op (below ++ [top]) s =
      match constrainAll op top s with
      | none => none
      | some (top', s') => some (below ++ [top'], s') := by
  simp only [boundaryConstraint, List.getLast?_append, List.getLast?_singleton, Option.some_or,
    List.dropLast_concat]
  rcases constrainAll op top s with _ | ⟨t, s1⟩ <;> rfl

theorem boundaryConstraint_nil (op : List F → S → Option (List F × S)) (s : S) :
    boundaryConstraint op [] s = none := rfl

theorem boundaryConstraint_some (op : List F → S → Option (List F × S)) (stack stack' : List (List (List F)))
    (s s' : S) (h : boundaryConstraint op stack s = some (stack', s')) :
    ∃ below top top', stack = below ++ [top] ∧ stack' = below ++ [top'] ∧
      constrainAll op top s = some (top', s') := by
  rcases List.eq_nil_or_concat' stack with rfl | ⟨below, top, rfl⟩
  · cases h
  · rw [boundaryConstraint_concat] at h
    split at h
    · cases h
    · next top' s1 hc => cases h; exact ⟨below, top, top', rfl, rfl, hc⟩
end

/-! ### operators that repair, through the driver -/
section
variable {F : Type} [LE F]

theorem constrainAll_repairs {S : Type} (op : List F → S → Option (List F × S)) (dom : List (F × F))
    (hop : ∀ sol y s s', op sol s = some (y, s') → Repaired dom sol y)
    (hfix : ∀ ys s, AllInside dom ys → op ys s = some (ys, s))
    (below : List (List (List F))) (top top' : List (List F)) (s s' : S)
    (hc : constrainAll op top s = some (top', s')) :
    List.Forall₂ (Repaired dom) top top' ∧
      ∀ s2 : S, boundaryConstraint op (below ++ [top']) s2 = some (below ++ [top'], s2) := by
  have hr := constrainAll_forall₂ op (Repaired dom) hop top s top' s' hc
  refine ⟨hr, fun s2 => ?_⟩
  rw [boundaryConstraint_concat, constrainAll_map op id s2 top' fun y hy => ?_, List.map_id]
  obtain ⟨i, hi, rfl⟩ := List.getElem_of_mem hy
  exact hfix _ s2 (List.Forall₂.get hr (hr.length_eq ▸ hi) hi).allInside

variable {S : Type} {f : F → F × F → Option F} {dom : List (F × F)} {sol : List F}

theorem zipOp_repaired (hR : ∀ x, ∀ d ∈ dom, ∀ y, f x d = some y → RepairedCoord d x y) {sol ys : List F}
    {s s' : S} (h : zipOp f dom sol s = some (ys, s')) : Repaired dom sol ys := by
  have hp := zipS_pointwise _ (fun d x y => d ∈ dom → RepairedCoord d x y)
    (fun x d s y s' hy hd => by
      obtain ⟨z, hz, he⟩ := Option.map_eq_some_iff.mp hy
      cases he; exact hR x d hd y hz)
    sol dom s ys s' (zipOp_eq_zipS f dom sol s ▸ h)
  exact ⟨hp.1, fun k hk hx hd => hp.2 k hk hx hd (List.getElem_mem hd)⟩

theorem zipOp_fixed (hfix : ∀ x d, d.1 ≤ x → x ≤ d.2 → f x d = some x) (ys : List F) (s : S)
    (h : AllInside dom ys) : zipOp f dom ys s = some (ys, s) := by
  rw [zipOp_eq_zipS]
  exact zipS_fixed _ (fun x d s h1 h2 => congrArg (Option.map (·, s)) (hfix x d h1 h2)) ys dom s h

theorem zipDomainM_in_bounds (hR : ∀ x, ∀ d ∈ dom, ∀ y, f x d = some y → RepairedCoord d x y)
    (hret : ∀ x, ∀ d ∈ dom, ∃ y, f x d = some y) (sol : List F) :
    ∃ ys, zipDomainM f sol dom = some ys ∧ ys.length = sol.length ∧ AllInside dom ys := by
  obtain ⟨ys, h⟩ := zipDomainM_returns f sol dom hret
  have hr := zipOp_repaired (s := ()) (s' := ()) hR (congrArg (Option.map (·, ())) h)
  exact ⟨ys, h, hr.1, hr.allInside⟩

theorem zipOp_population (hR : ∀ x, ∀ d ∈ dom, ∀ y, f x d = some y → RepairedCoord d x y)
    (hfix : ∀ x d, d.1 ≤ x → x ≤ d.2 → f x d = some x) (below : List (List (List F))) (top : List (List F)) (s : S)
    (hret : ∀ x, ∀ d ∈ dom, ∃ y, f x d = some y) :
    ∃ top', boundaryConstraint (zipOp f dom) (below ++ [top]) s = some (below ++ [top'], s) ∧
      List.Forall₂ (Repaired dom) top top' ∧
      ∀ s2 : S, boundaryConstraint (zipOp f dom) (below ++ [top']) s2 = some (below ++ [top'], s2) := by
  -- where every coordinate returns, `zipOp` is the function `getD` of its result
  have hc := constrainAll_map (zipOp f dom) (fun sol => (zipDomainM f sol dom).getD sol) s top fun sol _ => by
    obtain ⟨ys, h⟩ := zipDomainM_returns f sol dom hret
    rw [zipOp, h]; rfl
  exact ⟨_, by rw [boundaryConstraint_concat, hc], constrainAll_repairs (zipOp f dom) dom
    (fun _ _ _ _ => zipOp_repaired hR) (zipOp_fixed hfix) below top _ s s hc⟩
end

section
variable {F : Type} [Add F] [Sub F] [Mul F] [Div F] [OfNat F 3] [LinearOrder F]

theorem oneTailedSolution_fixed (ys : List F) (ds : List (F × F)) (script : List F) (h : AllInside ds ys) :
    oneTailedSolution ys ds script = some (ys, script) := by
  rw [oneTailedSolution_eq_zipS]
  exact zipS_fixed _ (fun x d sc => oneTailedLoop_inside d.1 d.2 sc x) ys ds script h
end

/-! ### the three deterministic operators are `zipOp`, on every carrier the model is defined on -/
section
variable {F S : Type} [LT F] [DecidableLT F]

theorem satOp_eq [LE F] [DecidableLE F] (dom : List (F × F)) : satOp (S := S) dom = zipOp saturation dom := by
  funext sol s
  unfold satOp zipOp
  cases zipDomainM saturation sol dom <;> rfl

theorem torOp_eq [Add F] [Sub F] [Mul F] [Div F] [OfNat F 0] [OfNat F 1] (floor : F → F) (dom : List (F × F)) :
    torOp (S := S) floor dom = zipOp (fun x d => some (toroidal floor x d)) dom := by
  funext sol s
  rw [zipOp, zipDomainM_some]; rfl

theorem mirOp_eq [Add F] [Sub F] [Mul F] [OfNat F 0] [OfNat F 2] (rem : F → F → F) (fuel : Nat) (dom : List (F × F)) :
    mirOp (S := S) rem fuel dom = zipOp (mirror rem fuel) dom := by
  funext sol s
  unfold mirOp zipOp
  cases zipDomainM (mirror rem fuel) sol dom <;> rfl
end

/-! ### initialisation: `shuffleBy` through the shared lemmas on `mapM (l[·]?)` -/

theorem shuffleBy_returns {α : Type} (σ : List Nat) (l : List α) (h : ∀ i ∈ σ, i < l.length) :
    ∃ r, shuffleBy σ l = some r :=
  mapM_getElem?_returns σ l h

theorem isPermOfRange_iff (σ : List Nat) (n : Nat) : isPermOfRange σ n = true ↔ σ.Perm (List.range n) :=
  List.isPerm_iff

theorem shuffleBy_perm {α : Type} (σ : List Nat) (l r : List α) (h : shuffleBy σ l = some r)
    (hσ : σ.Perm (List.range l.length)) : r.Perm l :=
  perm_of_mapM_getElem? σ l r h hσ

end MahfModel.Boundary
