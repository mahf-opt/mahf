/- C02: statements (`holding`, `with_inner_state`, registry operations) keep the invariant and key uniqueness
(`execStmt_inv`) and the columns of the types they avoid (`execStmt_frame`). -/
import MahfModel.Model.Borrow
import MahfModel.Proofs.C01Run
import MahfModel.Proofs.C01Nodup
import MahfModel.Proofs.C01Hold
namespace MahfModel.Borrow
open MahfModel.Registry

mutual
  theorem execStmt_inv (s : Stmt) (r : Reg) (h : Inv r) (hn : nodupKeys r) :
      Inv (execStmt r s).1 ∧ nodupKeys (execStmt r s).1 := by
    cases s with
    | op o =>
      simp only [execStmt]
      exact ⟨(Registry.step_refines r o h).1, step_nodupKeys r o hn⟩
    | hold k d ok body =>
      rw [RegistryH.execStmt_hold]
      exact RegistryH.holdingWith_keeps (fun r => Inv r ∧ nodupKeys r) _ r k d ok ⟨h, hn⟩
        (fun i => execProg_inv body _ (RegistryH.inv_heldOut r i k h) (RegistryH.nodupKeys_heldOut r i k hn))
        (fun r' j v h' => ⟨RegistryH.inv_putBack r' j k v h'.1, RegistryH.nodupKeys_putBack r' j k v h'.2⟩)
    | inner ok body =>
      simp only [execStmt]
      obtain ⟨i1, n1⟩ := execProg_inv body _ (inv_intoChild r h) (nodupKeys_intoChild r hn)
      rcases intoParent_cases _ i1 with ⟨c, s, p, hr, hip, hI⟩ | ⟨c, hr, hip⟩ <;> rw [hip]
      · rw [hr] at n1; exact ⟨hI, ((nodupKeys_cons _ _).mp n1).2⟩
      · exact ⟨inv_new, nodupKeys_new⟩
  theorem execProg_inv (p : Prog) (r : Reg) (h : Inv r) (hn : nodupKeys r) :
      Inv (execProg r p).1 ∧ nodupKeys (execProg r p).1 := by
    cases p with
    | nil => exact ⟨h, hn⟩
    | cons s rest =>
      simp only [execProg]
      have h1 := execStmt_inv s r h hn
      exact execProg_inv rest _ h1.1 h1.2
end

mutual
  /-- The program never names the type `q`: no operation on it, no raw push/pop, no nested `holding` of it
  or of the type whose marker it is. -/
  def Stmt.avoids (q : Key) : Stmt → Prop
    | .op o => q ∉ ROp.keys o ∧ ROp.flat o = true
    | .hold k _ _ body => k ≠ q ∧ markerOf k ≠ q ∧ Prog.avoids q body
    | .inner _ body => Prog.avoids q body
  def Prog.avoids (q : Key) : Prog → Prop
    | .nil => True
    | .cons s rest => Stmt.avoids q s ∧ Prog.avoids q rest
end

mutual
  theorem execStmt_frame (s : Stmt) (r : Reg) (q : Key) (hI : Inv r) (hn : nodupKeys r) (ha : Stmt.avoids q s) :
      vcol (execStmt r s).1 q = vcol r q := by
    cases s with
    | op o =>
      simp only [Stmt.avoids] at ha
      simp only [execStmt]
      exact (step_flat r o hI ha.2).2 q ha.1
    | hold k d ok body =>
      simp only [Stmt.avoids] at ha
      obtain ⟨hk, hmk, hb⟩ := ha
      rw [RegistryH.execStmt_hold]
      exact RegistryH.holdingWith_keeps (vcol · q = vcol r q) _ r k d ok rfl
        (fun i => (execProg_frame body _ q (RegistryH.inv_heldOut r i k hI) (RegistryH.nodupKeys_heldOut r i k hn) hb).trans
          (RegistryH.vcol_heldOut r i k q hk hmk))
        (fun r' j v h' => (RegistryH.vcol_putBack r' j k q v hk hmk).trans h')
    | inner ok body =>
      simp only [Stmt.avoids] at ha
      simp only [execStmt]
      have ih := execProg_frame body _ q (inv_intoChild r hI) (nodupKeys_intoChild r hn) ha
      have i1 := (execProg_inv body _ (inv_intoChild r hI) (nodupKeys_intoChild r hn)).1
      obtain ⟨p, c, hip, hv⟩ := intoParent_frame r _ q hI i1 ih
      rw [hip]; exact hv
  theorem execProg_frame (p : Prog) (r : Reg) (q : Key) (hI : Inv r) (hn : nodupKeys r) (ha : Prog.avoids q p) :
      vcol (execProg r p).1 q = vcol r q := by
    cases p with
    | nil => rfl
    | cons s rest =>
      simp only [Prog.avoids] at ha
      simp only [execProg]
      have h1 := execStmt_inv s r hI hn
      rw [execProg_frame rest _ q h1.1 h1.2 ha.2]
      exact execStmt_frame s r q hI hn ha.1
end

/-- The registry the body of `holding::<k>` runs on: marker in, value out. -/
def heldOut (r : Reg) (i : Nat) (k : Key) : Reg :=
  modifyAt (modifyAt r i (·.put (markerOf k) (fresh 0))) i (·.erase k)

end MahfModel.Borrow
