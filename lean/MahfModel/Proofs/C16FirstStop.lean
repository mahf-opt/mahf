/- What `firstStop` computes: the first pass index at which the condition is false (`firstStop_iff`).  No condition becomes
true again (`BCond.at_mono`), so the stopping index and the value of the condition at every pass index determine each other
(`firstStop_at`, `firstStop_of_at`).  `ceilDiv` is here for the closed forms, which are in `Props/C16Budget`. -/
import MahfModel.Proofs.C16BudgetFuel
namespace MahfModel.Tpl

/-- value of the condition after `j` passes, an opaque part read as `false` (as `firstStop` reads it) -/
def BCond.at (c : BCond) (e i : Nat) (v : Option Nat) (j : Nat) : Option Bool :=
  c.evalAt (some (i + j)) (v.map (· + j * e)) false

theorem BCond.at_zero (c : BCond) (e i : Nat) (v : Option Nat) : c.at e i v 0 = c.evalAt (some i) v false := by
  simp [BCond.at]

theorem BCond.at_succ (c : BCond) (e i : Nat) (v : Option Nat) (j : Nat) :
    c.at e (i + 1) (v.map (· + e)) j = c.at e i v (j + 1) := by
  rw [BCond.at, BCond.at, map_add_add, Nat.succ_mul, Nat.add_comm e, Nat.add_assoc, Nat.add_comm 1]

theorem BCond.and_at (a b : BCond) (e i : Nat) (v : Option Nat) (j : Nat) :
    (BCond.and a b).at e i v j = (a.at e i v j).bind fun x => (b.at e i v j).map (x && ·) :=
  BCond.evalAt_and ..

theorem BCond.or_at (a b : BCond) (e i : Nat) (v : Option Nat) (j : Nat) :
    (BCond.or a b).at e i v j = (a.at e i v j).bind fun x => (b.at e i v j).map (x || ·) :=
  BCond.evalAt_or ..

/-- At `p + 1` the right side says "true now, and the same one pass later", which is the recursion of `firstStop`. -/
theorem firstStop_iff (c : BCond) (e f i : Nat) (v : Option Nat) (p : Nat) :
    firstStop c e f i v = some p ↔
      p < f ∧ c.at e i v p = some false ∧ ∀ j, j < p → c.at e i v j = some true := by
  induction f generalizing i v p with
  | zero => exact ⟨nofun, fun h => nomatch h.1⟩
  | succ f ih =>
    rw [firstStop, ← BCond.at_zero c e]
    cases p with
    | zero =>
      simp only [Nat.zero_lt_succ, Nat.not_lt_zero, false_implies, implies_true, and_true, true_and]
      cases c.at e i v 0 with
      | none => exact ⟨nofun, nofun⟩
      | some r => cases r <;> simp
    | succ p =>
      simp only [Nat.forall_lt_succ_left, ← BCond.at_succ, Nat.succ_lt_succ_iff]
      cases c.at e i v 0 with
      | none => exact ⟨nofun, fun h => nomatch h.2.2.1⟩
      | some r =>
        cases r with
        | false => exact ⟨nofun, fun h => nomatch h.2.2.1⟩
        | true => simp only [Option.map_eq_some_iff, ih, Nat.add_right_cancel_iff, exists_eq_right, true_and]

theorem lift2_mono {f : Bool → Bool → Bool}
    (hf : ∀ xa xb ya yb, (ya = true → xa = true) → (yb = true → xb = true) → f ya yb = true → f xa xb = true)
    {A A' B B' : Option Bool} (ha : ∀ x, A = some x → ∃ y, A' = some y ∧ (y = true → x = true))
    (hb : ∀ x, B = some x → ∃ y, B' = some y ∧ (y = true → x = true)) (x : Bool)
    (h : (A.bind fun xa => B.map (f xa)) = some x) :
    ∃ y, (A'.bind fun ya => B'.map (f ya)) = some y ∧ (y = true → x = true) := by
  simp only [Option.bind_eq_some_iff, Option.map_eq_some_iff] at h ⊢
  obtain ⟨xa, hxa, xb, hxb, rfl⟩ := h
  obtain ⟨ya, hya, ia⟩ := ha xa hxa
  obtain ⟨yb, hyb, ib⟩ := hb xb hxb
  exact ⟨_, ⟨ya, hya, yb, hyb, rfl⟩, hf _ _ _ _ ia ib⟩

/-- No condition becomes true again (both counters only grow; an opaque part counts as false in `at`), and whether one
can be evaluated does not depend on the pass. -/
theorem BCond.at_mono (c : BCond) (e i : Nat) (v : Option Nat) (j j' : Nat) (hj : j ≤ j')
    (x : Bool) (h : c.at e i v j = some x) : ∃ y, c.at e i v j' = some y ∧ (y = true → x = true) := by
  induction c generalizing x with
  | iterLt n =>
    cases h
    exact ⟨_, rfl, fun h => decide_eq_true (Nat.lt_of_le_of_lt (Nat.add_le_add_left hj i) (of_decide_eq_true h))⟩
  | evalLt n =>
    cases v with
    | none => cases h
    | some v =>
      cases h
      exact ⟨_, rfl, fun h => decide_eq_true
        (Nat.lt_of_le_of_lt (Nat.add_le_add_left (Nat.mul_le_mul_right e hj) v) (of_decide_eq_true h))⟩
  | and a b iha ihb =>
    rw [BCond.and_at] at h ⊢
    exact lift2_mono (by decide) iha ihb x h
  | or a b iha ihb =>
    rw [BCond.or_at] at h ⊢
    exact lift2_mono (by decide) iha ihb x h
  | «opaque» => exact ⟨false, rfl, nofun⟩

theorem firstStop_at {c : BCond} {e f i : Nat} {v : Option Nat} {p : Nat}
    (h : firstStop c e f i v = some p) (j : Nat) : c.at e i v j = some (decide (j < p)) := by
  obtain ⟨_, h1, h2⟩ := (firstStop_iff c e f i v p).1 h
  rcases Nat.lt_or_ge j p with hj | hj
  · rw [h2 j hj, decide_eq_true hj]
  · obtain ⟨y, hy, hf⟩ := c.at_mono e i v p j hj false h1
    rw [hy, decide_eq_false (Nat.not_lt.2 hj)]
    cases y
    · rfl
    · cases hf rfl

theorem firstStop_lt {c : BCond} {e f i : Nat} {v : Option Nat} {p : Nat} (h : firstStop c e f i v = some p) : p < f :=
  ((firstStop_iff c e f i v p).1 h).1

theorem firstStop_of_at {c : BCond} {e f i : Nat} {v : Option Nat} {p : Nat} (hf : p < f)
    (h : ∀ j, c.at e i v j = some (decide (j < p))) : firstStop c e f i v = some p :=
  (firstStop_iff c e f i v p).2 ⟨hf, (h p).trans (by rw [decide_eq_false (Nat.lt_irrefl p)]),
    fun j hj => (h j).trans (by rw [decide_eq_true hj])⟩

/-- `⌈a / e⌉` -/
def ceilDiv (a e : Nat) : Nat := (a + e - 1) / e

end MahfModel.Tpl
