/- C15 — a step as a name → value map, and one logger execution: the push-fold of the fired rules is the first fired
entry of every name (`execRules_eq`), the specified step is `push_iteration` of it (`specStepO_eq`), so an execution in
which no trigger fails appends exactly the specified step (`loggerExec_of_noFail`, `loggerExec_ok`). Generic in names
and values. Core only. -/
import MahfModel.Model.Log
namespace MahfModel.Log

variable {N V : Type} [DecidableEq N]

theorem contains_iff (s : Step N V) (n : N) : contains s n = true ↔ n ∈ s.map Prod.fst := by
  simp only [contains, List.any_eq_true, decide_eq_true_eq, List.mem_map]

theorem lookup_cons (e : Entry N V) (s : Step N V) (n : N) :
    lookup (e :: s) n = if e.1 = n then some e.2 else lookup s n := by
  by_cases h : e.1 = n <;> simp [lookup, h]

theorem lookup_none_iff (s : Step N V) (n : N) : lookup s n = none ↔ n ∉ s.map Prod.fst := by
  simp only [lookup, Option.map_eq_none_iff, List.find?_eq_none, decide_eq_true_eq, List.mem_map, not_exists, not_and]

theorem lookup_isSome_iff (s : Step N V) (n : N) : (lookup s n).isSome = true ↔ n ∈ s.map Prod.fst := by
  rw [Option.isSome_iff_ne_none, Ne, lookup_none_iff, Decidable.not_not]

theorem lookup_append_of_not_mem (a b : Step N V) (n : N) (h : n ∉ a.map Prod.fst) :
    lookup (a ++ b) n = lookup b n := by
  induction a with
  | nil => rfl
  | cons e es ih =>
    rw [List.map_cons, List.mem_cons, not_or] at h
    rw [List.cons_append, lookup_cons, if_neg (Ne.symm h.1), ih h.2]

theorem lookup_some_iff (s : Step N V) (hnd : (s.map Prod.fst).Nodup) (n : N) (v : Option V) :
    lookup s n = some v ↔ (n, v) ∈ s := by
  induction s with
  | nil => simp [lookup]
  | cons e es ih =>
    rw [List.map_cons, List.nodup_cons] at hnd
    obtain ⟨m, w⟩ := e
    rw [lookup_cons, List.mem_cons, Prod.mk.injEq]
    by_cases hen : m = n
    · subst hen
      have : (m, v) ∉ es := fun h => hnd.1 (List.mem_map.2 ⟨(m, v), h, rfl⟩)
      simp only [if_true, Option.some.injEq, true_and, this, or_false, eq_comm]
    · simp only [hen, if_false, Ne.symm hen, false_and, false_or, ih hnd.2]

theorem sameMap_of_perm {s s' : Step N V} (h : s.Perm s') (hnd : (s.map Prod.fst).Nodup) : sameMap s s' :=
  fun n => Option.ext fun v => by
    rw [lookup_some_iff s hnd, lookup_some_iff s' ((h.map Prod.fst).nodup_iff.1 hnd), h.mem_iff]

theorem lookup_dedupAux (es : List (Entry N V)) (seen : List N) (n : N) (hn : n ∉ seen) :
    lookup (dedupAux seen es) n = lookup es n := by
  induction es generalizing seen with
  | nil => rfl
  | cons e es ih =>
    rw [dedupAux, lookup_cons]
    by_cases h : e.1 ∈ seen
    · rw [if_pos h, ih seen hn, if_neg fun he : e.1 = n => hn (he ▸ h)]
    · rw [if_neg h, lookup_cons]
      by_cases hen : e.1 = n
      · rw [if_pos hen, if_pos hen]
      · rw [if_neg hen, if_neg hen]
        exact ih _ (by simp [hn, Ne.symm hen])

theorem lookup_dedup (es : List (Entry N V)) (n : N) : lookup (dedup es) n = lookup es n :=
  lookup_dedupAux es [] n List.not_mem_nil

theorem dedupAux_names (es : List (Entry N V)) (seen : List N) :
    ((dedupAux seen es).map Prod.fst).Nodup ∧ ∀ n ∈ seen, n ∉ (dedupAux seen es).map Prod.fst := by
  induction es generalizing seen with
  | nil => exact ⟨List.nodup_nil, fun _ _ => List.not_mem_nil⟩
  | cons e es ih =>
    rw [dedupAux]
    split
    · exact ih seen
    · next h =>
      simp only [List.map_cons, List.nodup_cons, List.mem_cons, not_or]
      exact ⟨⟨(ih _).2 _ List.mem_cons_self, (ih _).1⟩,
        fun n hn => ⟨fun he => h (he ▸ hn), (ih _).2 n (List.mem_cons_of_mem _ hn)⟩⟩

def noFail (rules : List (Rule N V)) : Prop := ∀ r ∈ rules, r.trig = .fire ∨ r.trig = .skip

omit [DecidableEq N] in
theorem fired_cons (r : Rule N V) (rs : List (Rule N V)) :
    fired (r :: rs) = if r.trig = .fire then (r.name, r.value) :: fired rs else fired rs := by
  simp only [fired, List.filter_cons]
  split <;> simp_all

omit [DecidableEq N] in
theorem fired_append (a b : List (Rule N V)) : fired (a ++ b) = fired a ++ fired b := by
  simp only [fired, List.filter_append, List.map_append]

omit [DecidableEq N] in
theorem mem_fired (rules : List (Rule N V)) (e : Entry N V) :
    e ∈ fired rules ↔ ∃ r ∈ rules, r.trig = .fire ∧ (r.name, r.value) = e := by
  simp only [fired, List.mem_map, List.mem_filter, decide_eq_true_eq, and_assoc]

/-- The push-fold is "append the first occurrences not yet present"; `seen` is any list holding the
names taken so far. -/
theorem execRules_eq (rules : List (Rule N V)) (h : noFail rules) (acc : Step N V) (seen : List N)
    (hs : ∀ n, n ∈ seen ↔ n ∈ acc.map Prod.fst) :
    execRules rules acc = .ok (acc ++ dedupAux seen (fired rules)) := by
  induction rules generalizing acc seen with
  | nil => simp only [execRules, fired, List.filter_nil, List.map_nil, dedupAux, List.append_nil]
  | cons r rs ih =>
    have ih := ih fun x hx => h x (List.mem_cons_of_mem _ hx)
    rcases h r List.mem_cons_self with hf | hf
    · simp only [execRules, hf, fired_cons, if_true, dedupAux, push]
      by_cases hc : r.name ∈ seen
      · rw [if_pos hc, if_pos ((contains_iff _ _).2 ((hs _).1 hc))]
        exact ih acc seen hs
      · rw [if_neg hc, if_neg (by rw [contains_iff, ← hs]; exact hc), ih (acc ++ [(r.name, r.value)]) (r.name :: seen),
          List.append_assoc, List.singleton_append]
        intro n
        simp [hs, or_comm]
    · simp only [execRules, hf, fired_cons, reduceCtorEq, if_false]
      exact ih acc seen hs

theorem execRules_nil_eq (rules : List (Rule N V)) (h : noFail rules) :
    execRules rules [] = .ok (dedup (fired rules)) :=
  execRules_eq rules h [] [] fun _ => Iff.rfl

theorem execRules_ok_noFail (rules : List (Rule N V)) (acc s : Step N V)
    (h : execRules rules acc = .ok s) : noFail rules := by
  induction rules generalizing acc with
  | nil => exact fun _ hr => nomatch hr
  | cons r rs ih =>
    rw [execRules] at h
    refine List.forall_mem_cons.2 ?_
    cases ht : r.trig <;> rw [ht] at h
    · exact ⟨Or.inl rfl, ih _ h⟩
    · exact ⟨Or.inr rfl, ih _ h⟩
    · cases h
    · cases h

theorem specStepO_eq (iterName : N) (rules : List (Rule N V)) (it : Option V) :
    specStepO iterName rules it =
      if (dedup (fired rules)).isEmpty then none else some (pushIteration iterName it (dedup (fired rules))) := by
  simp only [specStepO, pushIteration]
  by_cases he : (dedup (fired rules)).isEmpty = true
  · rw [if_pos he, if_pos he]
  · rw [if_neg he, if_neg he]
    by_cases hc : contains (dedup (fired rules)) iterName = true
    · rw [if_pos hc, if_pos hc]
    · rw [if_neg hc, if_neg hc]
      cases it <;> rfl

theorem specStepO_some {iterName : N} {rules : List (Rule N V)} {it : Option V} {st : Step N V}
    (h : specStepO iterName rules it = some st) : st = pushIteration iterName it (dedup (fired rules)) := by
  rw [specStepO_eq] at h
  split at h <;> cases h
  rfl

theorem pushIteration_cases (iterName : N) (it : Option V) (s : Step N V) :
    pushIteration iterName it s = s ∨
    ∃ v, iterName ∉ s.map Prod.fst ∧ pushIteration iterName it s = (iterName, some v) :: s := by
  unfold pushIteration
  split
  · exact Or.inl rfl
  · next hc =>
    cases it with
    | none => exact Or.inl rfl
    | some v => exact Or.inr ⟨v, fun hm => hc ((contains_iff _ _).2 hm), rfl⟩

theorem pushIteration_nodup (iterName : N) (it : Option V) (s : Step N V) (h : (s.map Prod.fst).Nodup) :
    ((pushIteration iterName it s).map Prod.fst).Nodup := by
  rcases pushIteration_cases iterName it s with e | ⟨v, hn, e⟩ <;> rw [e]
  · exact h
  · exact List.nodup_cons.2 ⟨hn, h⟩

theorem lookup_pushIteration (iterName : N) (it : Option V) (s : Step N V) (n : N)
    (h : (lookup s n).isSome = true) : (lookup (pushIteration iterName it s) n).isSome = true := by
  rw [lookup_isSome_iff] at h ⊢
  rcases pushIteration_cases iterName it s with e | ⟨v, _, e⟩ <;> rw [e]
  · exact h
  · exact List.mem_cons_of_mem _ h

theorem loggerExec_of_noFail (iterName : N) (rules : List (Rule N V)) (it : Option V) (log : Log N V)
    (h : noFail rules) :
    loggerExec iterName rules it log = .ok (log ++ (specStepO iterName rules it).toList) := by
  rw [loggerExec, execRules_nil_eq rules h, specStepO_eq]
  by_cases he : (dedup (fired rules)).isEmpty = true <;> simp [he]

theorem loggerExec_ok (iterName : N) (rules : List (Rule N V)) (it : Option V) (log log' : Log N V)
    (h : loggerExec iterName rules it log = .ok log') :
    noFail rules ∧ log' = log ++ (specStepO iterName rules it).toList := by
  have hnf : noFail rules := by
    rw [loggerExec] at h
    cases he : execRules rules [] with
    | error e => rw [he] at h; cases h
    | ok step => exact execRules_ok_noFail rules [] step he
  exact ⟨hnf, (Except.ok.inj ((loggerExec_of_noFail iterName rules it log hnf).symm.trans h)).symm⟩

theorem runExecs_eq_foldlM (iterName : N) (execs : List (List (Rule N V) × Option V)) (log : Log N V) :
    runExecs iterName execs log = execs.foldlM (fun l e => loggerExec iterName e.1 e.2 l) log := by
  induction execs generalizing log with
  | nil => rfl
  | cons x xs ih =>
    rw [runExecs, List.foldlM_cons]
    cases loggerExec iterName x.1 x.2 log with
    | error e => rfl
    | ok l => exact ih l

end MahfModel.Log
