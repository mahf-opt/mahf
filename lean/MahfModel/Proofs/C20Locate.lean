/- C20: the list facts the clause proofs use (`zip` commutes with `set` and with `eraseIdx`),
and where the reactants are: `position` / `positionOther` are core's `findIdx?` / `find?`, so the index the code finds is a legal
witness (`legal1_first`, `legal2_first`), and every legal witness points at an individual equal to the reactant (`legal1_reactant`,
`legal2_reactants`); `ReactantAt` is that together with the molecule at the same index. -/
import MahfModel.Model.Cro
import MahfModel.Proofs.ListIndex
namespace MahfModel.Cro

section lists
variable {α : Type}

theorem set_self_of_getElem? (l : List α) (i : Nat) (x : α) (h : l[i]? = some x) : l.set i x = l := by
  obtain ⟨hl, rfl⟩ := List.getElem?_eq_some_iff.mp h
  exact List.set_getElem_self hl

theorem zip_set {β : Type} (l₁ : List α) (l₂ : List β) (i : Nat) (a : α) (b : β) :
    (l₁.set i a).zip (l₂.set i b) = (l₁.zip l₂).set i (a, b) := by
  induction l₁ generalizing l₂ i with
  | nil => simp
  | cons x xs ih =>
    cases l₂ with
    | nil => simp
    | cons y ys =>
      cases i with
      | zero => simp
      | succ i => simp [ih]

theorem zip_set_right {β : Type} (l₁ : List α) (l₂ : List β) (i : Nat) (x : α) (b : β) (h : l₁[i]? = some x) :
    l₁.zip (l₂.set i b) = (l₁.zip l₂).set i (x, b) := by
  rw [← zip_set, set_self_of_getElem? l₁ i x h]

theorem length_eraseIdx_congr {β : Type} {l₁ : List α} {l₂ : List β} (h : l₁.length = l₂.length) (j : Nat) :
    (l₁.eraseIdx j).length = (l₂.eraseIdx j).length := by
  rw [List.length_eraseIdx, List.length_eraseIdx, h]

theorem zip_eraseIdx {β : Type} (l₁ : List α) (l₂ : List β) (j : Nat) :
    (l₁.eraseIdx j).zip (l₂.eraseIdx j) = (l₁.zip l₂).eraseIdx j := by
  induction l₁ generalizing l₂ j with
  | nil => simp
  | cons x xs ih =>
    cases l₂ with
    | nil => cases j <;> simp
    | cons y ys =>
      cases j with
      | zero => simp
      | succ j => simp [ih]

end lists

section locate
variable {F : Type} [BEq F]

theorem position_eq_findIdx? (l : Pop F) (r : Ind F) : position l r = l.findIdx? (· == r) := by
  induction l with
  | nil => rfl
  | cons a as ih => rw [position, List.findIdx?_cons, ih]

theorem position_isAt {l : Pop F} {r : Ind F} {i : Nat} (h : position l r = some i) : isAt l i r = true := by
  obtain ⟨hi, hp, -⟩ := List.findIdx?_eq_some_iff_getElem.mp (position_eq_findIdx? l r ▸ h)
  simp only [isAt, List.getElem?_eq_getElem hi, hp]

theorem position_first (l : Pop F) (r : Ind F) (i : Nat) (h : position l r = some i) :
    ∀ k, k < i → ∀ y, l[k]? = some y → (y == r) = false := by
  obtain ⟨hi, -, hf⟩ := List.findIdx?_eq_some_iff_getElem.mp (position_eq_findIdx? l r ▸ h)
  intro k hk y hy
  obtain ⟨hl, rfl⟩ := List.getElem?_eq_some_iff.mp hy
  exact Bool.eq_false_iff.mpr (hf k hk)

theorem positionOtherFrom_eq_find? (l : Pop F) (k skip : Nat) (r : Ind F) :
    positionOtherFrom l k skip r = ((l.zipIdx k).find? fun p => p.2 != skip && p.1 == r).map (·.2) := by
  induction l generalizing k with
  | nil => rfl
  | cons a as ih =>
    rw [positionOtherFrom, List.zipIdx_cons, List.find?_cons, ih]
    cases k != skip && a == r <;> rfl

theorem positionOther_isAt {l : Pop F} {skip j : Nat} {r : Ind F} (h : positionOther l skip r = some j) :
    isAt l j r = true ∧ j ≠ skip := by
  rw [positionOther, positionOtherFrom_eq_find?, Option.map_eq_some_iff] at h
  obtain ⟨⟨x, j'⟩, hf, rfl⟩ := h
  have hp := List.find?_some hf
  obtain ⟨hj, hx⟩ := List.mem_zipIdx' (List.mem_of_find?_eq_some hf)
  rw [Bool.and_eq_true, bne_iff_ne] at hp
  exact ⟨by simp only [isAt, List.getElem?_eq_getElem hj, ← hx, hp.2], hp.1⟩

theorem isAt_some {pop : Pop F} {i : Nat} {r : Ind F} (h : isAt pop i r = true) :
    ∃ x, pop[i]? = some x ∧ (x == r) = true := by
  unfold isAt at h
  split at h
  · rename_i x hx; exact ⟨x, hx, h⟩
  · cases h

/-- The code's own choice (first match) is a legal witness, on every state. -/
theorem legal1_first (st : St F) : legal1 (firstIdx st) st = true := by
  obtain ⟨stack, mols, buffer⟩ := st
  unfold legal1
  split
  · rename_i a r pop rest hs
    simp only at hs
    simp only [firstIdx, hs]
    cases hp : position pop r with
    | none => rfl
    | some i => simp only [Option.getD_some, position_isAt hp, Bool.or_true]
  · rfl

theorem legal2_first (st : St F) : legal2 (firstIdx st) (secondIdx st) st = true := by
  obtain ⟨stack, mols, buffer⟩ := st
  unfold legal2
  split
  · rename_i a r1 r2 pop rest hs
    simp only at hs
    simp only [firstIdx, secondIdx, hs]
    cases hp : position pop r1 with
    | none => simp
    | some i =>
      cases hq : positionOther pop i r2 with
      | none => simp [hq]
      | some j =>
        obtain ⟨hj, hji⟩ := positionOther_isAt hq
        simp [hq, position_isAt hp, hj, Ne.symm hji]
  · rfl

theorem legal1_reactant {i i0 : Nat} {q pop : Pop F} {r : Ind F} {rest : List (Pop F)} {mols : List (Mol F)} {b : F}
    (hp : position pop r = some i0) (hl : legal1 i ⟨q :: [r] :: pop :: rest, mols, b⟩ = true) :
    ∃ x, pop[i]? = some x ∧ (x == r) = true := by
  simp only [legal1, hp, Option.isNone_some, Bool.false_or] at hl
  exact isAt_some hl

theorem legal2_reactants {i j i0 j0 : Nat} {q pop : Pop F} {r1 r2 : Ind F} {rest : List (Pop F)} {mols : List (Mol F)}
    {b : F} (hp : position pop r1 = some i0) (hq : positionOther pop i0 r2 = some j0)
    (hl : legal2 i j ⟨q :: [r1, r2] :: pop :: rest, mols, b⟩ = true) :
    (∃ x, pop[i]? = some x ∧ (x == r1) = true) ∧ (∃ y, pop[j]? = some y ∧ (y == r2) = true) ∧ i ≠ j := by
  simp only [legal2, hp, hq, Bool.and_eq_true, bne_iff_ne, ne_eq] at hl
  exact ⟨isAt_some hl.1.1, isAt_some hl.1.2, hl.2⟩

/-- The witness `i` points at `x`, equal to the reactant `r`, and at its molecule `m`. -/
structure ReactantAt (pop : Pop F) (mols : List (Mol F)) (i : Nat) (r x : Ind F) (m : Mol F) : Prop where
  ind : pop[i]? = some x
  eq : (x == r) = true
  mol : mols[i]? = some m

/-- A reactant at another index is still there after the pair at `i` has been replaced. -/
theorem ReactantAt.set_ne {pop : Pop F} {mols : List (Mol F)} {i j : Nat} {r y : Ind F} {m : Mol F}
    (hj : ReactantAt pop mols j r y m) (hij : i ≠ j) (x' : Ind F) (m' : Mol F) :
    ReactantAt (pop.set i x') (mols.set i m') j r y m :=
  ⟨(List.getElem?_set_ne hij).trans hj.ind, hj.eq, (List.getElem?_set_ne hij).trans hj.mol⟩

/-- A reactant at another index is still there after the molecule at `i` alone has been replaced (a rejected collision). -/
theorem ReactantAt.mols_set_ne {pop : Pop F} {mols : List (Mol F)} {i j : Nat} {r y : Ind F} {m : Mol F}
    (hj : ReactantAt pop mols j r y m) (hij : i ≠ j) (m' : Mol F) : ReactantAt pop (mols.set i m') j r y m :=
  ⟨hj.ind, hj.eq, (List.getElem?_set_ne hij).trans hj.mol⟩

end locate

end MahfModel.Cro
