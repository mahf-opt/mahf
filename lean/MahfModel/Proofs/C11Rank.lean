/- C11: comparisons of objective values over a linear order — `objective_bounds` as core's `max?` / `min?`, `all_eq`, and
`reverse_rank` as a strictly monotone function of the objective (`reverseRank_eq_map`), from which every statement about
rank-based weights is read off. -/
import MahfModel.Model.Selection
import Mathlib.Data.List.Nodup
import Mathlib.Data.Prod.Basic
import Mathlib.Order.MinMax
namespace MahfModel.Selection

/-! ### comparisons: bounds, all-equal, ranking (a linear order) -/
section order
variable {F : Type} [LinearOrder F]

theorem eqF_iff (a b : F) : eqF a b = true ↔ a = b := by
  simp only [eqF, Bool.and_eq_true, Bool.not_eq_true', decide_eq_false_iff_not, not_lt]
  exact ⟨fun h => le_antisymm h.2 h.1, fun h => by subst h; exact ⟨le_refl _, le_refl _⟩⟩

theorem eqF_eq_false {a b : F} (h : a ≠ b) : eqF a b = false :=
  Bool.eq_false_iff.mpr fun hc => h ((eqF_iff a b).mp hc)

/-- The scan keeps the running maximum and the running minimum: the `else if` loses nothing, since a new maximum
is no new minimum. -/
theorem boundsGo_eq (mx mn : F) (l : List F) (h : mn ≤ mx) : boundsGo mx mn l = (l.foldl max mx, l.foldl min mn) := by
  induction l generalizing mx mn with
  | nil => rfl
  | cons f rest ih =>
    rw [boundsGo, List.foldl_cons, List.foldl_cons]
    by_cases h1 : mx < f
    · rw [if_pos h1, ih f mn (h.trans h1.le), max_eq_right h1.le, min_eq_left (h.trans h1.le)]
    · rw [if_neg h1, max_eq_left (not_lt.mp h1)]
      by_cases h2 : f < mn
      · rw [if_pos h2, ih mx f (h2.le.trans h), min_eq_right h2.le]
      · rw [if_neg h2, ih mx mn h, min_eq_left (not_lt.mp h2)]

theorem objectiveBounds_eq_some_iff {objs : List F} {mx mn : F} :
    objectiveBounds objs = some (mx, mn) ↔ objs.max? = some mx ∧ objs.min? = some mn := by
  cases objs with
  | nil => exact ⟨nofun, nofun⟩
  | cons f rest =>
    rw [objectiveBounds, boundsGo_eq f f rest le_rfl]
    exact ⟨fun h => by cases h; exact ⟨rfl, rfl⟩, fun ⟨h1, h2⟩ => by cases h1; cases h2; rfl⟩

theorem objectiveBounds_spec {objs : List F} {mx mn : F} (h : objectiveBounds objs = some (mx, mn)) :
    (∀ o ∈ objs, mn ≤ o ∧ o ≤ mx) ∧ mx ∈ objs ∧ mn ∈ objs := by
  obtain ⟨h1, h2⟩ := objectiveBounds_eq_some_iff.mp h
  obtain ⟨a1, a2⟩ := List.max?_eq_some_iff.mp h1
  obtain ⟨b1, b2⟩ := List.min?_eq_some_iff.mp h2
  exact ⟨fun o ho => ⟨b2 o ho, a2 o ho⟩, a1, b1⟩

theorem allEq_iff (l : List F) : allEq l = true ↔ ∀ a ∈ l, ∀ b ∈ l, a = b := by
  induction l with
  | nil => simp [allEq]
  | cons a l ih =>
    cases l with
    | nil => simp [allEq]
    | cons b rest =>
      simp only [allEq, Bool.and_eq_true, eqF_iff, ih]
      constructor
      · rintro ⟨rfl, h⟩ x hx y hy
        have hsub : a :: a :: rest ⊆ a :: rest := List.cons_subset.mpr ⟨List.mem_cons_self, List.Subset.refl _⟩
        exact h x (hsub hx) y (hsub hy)
      · intro h
        refine ⟨h a (by simp) b (by simp), fun x hx y hy => h x (List.mem_cons_of_mem _ hx) y (List.mem_cons_of_mem _ hy)⟩

theorem enumFrom_eq_zipIdx {α : Type} (k : Nat) (l : List α) : enumFrom k l = (l.zipIdx k).map Prod.swap := by
  induction l generalizing k with
  | nil => rfl
  | cons a l ih => rw [enumFrom, ih, List.zipIdx_cons, List.map_cons]; rfl

theorem enumFrom_map_fst {α : Type} (k : Nat) (l : List α) :
    (enumFrom k l).map (·.1) = List.range' k l.length := by
  rw [enumFrom_eq_zipIdx, List.map_map]; exact List.zipIdx_map_snd k l

theorem enumFrom_map_snd {α : Type} (k : Nat) (l : List α) : (enumFrom k l).map (·.2) = l := by
  rw [enumFrom_eq_zipIdx, List.map_map]; exact List.zipIdx_map_fst k l

theorem mem_enumFrom {α : Type} {l : List α} {i : Nat} {a : α} : (i, a) ∈ enumFrom 0 l ↔ l[i]? = some a := by
  rw [enumFrom_eq_zipIdx, ← List.mk_mem_zipIdx_iff_getElem?]
  exact List.mem_map_of_injective Prod.swap_injective (a := (a, i))

theorem enumFrom_length {α : Type} (k : Nat) (l : List α) : (enumFrom k l).length = l.length := by
  rw [enumFrom_eq_zipIdx, List.length_map, List.length_zipIdx]

theorem leKey_trans (a b c : Nat × F) : leKey a b = true → leKey b c = true → leKey a c = true := by
  simp only [leKey, decide_eq_true_eq]; exact le_trans

theorem leKey_total (a b : Nat × F) : (leKey a b || leKey b a) = true := by
  simp only [leKey, Bool.or_eq_true, decide_eq_true_eq]; exact le_total _ _

theorem lookupRank_of_mem {t : List (Nat × Nat)} (hnd : (t.map (·.1)).Nodup) {i r : Nat} (h : (i, r) ∈ t) :
    lookupRank t i = r := by
  unfold lookupRank
  cases hf : t.find? (fun p => p.1 == i) with
  | none => exact absurd (List.find?_eq_none.mp hf _ h) (by simp)
  | some p =>
    have hp : p.1 = i := by simpa using List.find?_some hf
    rw [List.inj_on_of_nodup_map hnd (List.mem_of_find?_eq_some hf) h hp]

/-- Along a sorted list the scan numbers the keys by a function that is strictly monotone on them. -/
theorem rankScan_eq_map (prev : F) (r : Nat) (s : List (Nat × F))
    (hs : (prev :: s.map (·.2)).Pairwise (· ≤ ·)) :
    ∃ ρ : F → Nat, ρ prev = r ∧ (∀ a ∈ prev :: s.map (·.2), ∀ b ∈ s.map (·.2), a < b → ρ a < ρ b) ∧
      rankScan prev r s = s.map fun p => (p.1, ρ p.2) := by
  induction s generalizing prev r with
  | nil => exact ⟨fun _ => r, rfl, fun _ _ _ hb => absurd hb List.not_mem_nil, rfl⟩
  | cons x rest ih =>
    obtain ⟨i, o⟩ := x
    rw [List.map_cons, List.pairwise_cons] at hs
    obtain ⟨ρ, h1, h2, h3⟩ := ih o (if eqF prev o then r else r + 1) hs.2
    have hmin : ∀ b ∈ o :: rest.map (·.2), o ≤ b :=
      List.forall_mem_cons.mpr ⟨le_rfl, (List.pairwise_cons.mp hs.2).1⟩
    -- from `o` on the numbers are those of the rest of the scan; below `o` (at `prev`, if it differs) the number is `r`
    have hρ : ∀ b ∈ o :: rest.map (·.2), (if b < o then r else ρ b) = ρ b := fun b hb =>
      if_neg (not_lt.mpr (hmin b hb))
    -- a key below `o` can only be `prev`, and then `o` has opened a new group
    have hnew : ∀ a ∈ prev :: o :: rest.map (·.2), a < o → ρ o = r + 1 := fun a ha hao => by
      have : a = prev := (List.mem_cons.mp ha).resolve_right fun ha => absurd hao (not_lt.mpr (hmin a ha))
      rw [h1, eqF_eq_false (this ▸ hao).ne, if_neg Bool.false_ne_true]
    refine ⟨fun x => if x < o then r else ρ x, ?_, fun a ha b hb hab => ?_, ?_⟩
    · rcases (hs.1 o List.mem_cons_self).eq_or_lt with rfl | hlt
      · rw [(eqF_iff prev prev).mpr rfl, if_pos rfl] at h1
        exact (if_neg (lt_irrefl _)).trans h1
      · exact if_pos hlt
    · dsimp only
      rw [hρ b hb]
      rcases lt_or_ge a o with hao | hao
      · rw [if_pos hao]
        rcases (hmin b hb).eq_or_lt with rfl | h
        · exact (hnew a ha hao).ge
        · exact lt_of_lt_of_le (Nat.lt_succ_self r) ((hnew a ha hao).ge.trans
            (h2 o List.mem_cons_self b ((List.mem_cons.mp hb).resolve_left h.ne') h).le)
      · rw [if_neg (not_lt.mpr hao)]
        refine h2 a ?_ b ((List.mem_cons.mp hb).resolve_left (lt_of_le_of_lt hao hab).ne') hab
        rcases List.mem_cons.mp ha with rfl | ha
        · exact le_antisymm (hs.1 o List.mem_cons_self) hao ▸ List.mem_cons_self
        · exact ha
    · rw [rankScan, h3, List.map_cons]
      dsimp only
      rw [hρ o List.mem_cons_self, h1]
      exact congrArg _ (List.map_congr_left fun p hp => by
        rw [hρ p.2 (List.mem_cons_of_mem _ (List.mem_map_of_mem hp))])

/-- `reverse_rank` numbers the objectives by a function that is strictly monotone on them and starts at 1. -/
theorem reverseRank_eq_map (objs : List F) :
    ∃ ρ : F → Nat, (∀ a ∈ objs, ∀ b ∈ objs, a < b → ρ a < ρ b) ∧ (∀ a ∈ objs, 1 ≤ ρ a) ∧
      (∀ a ∈ objs, (∀ o ∈ objs, a ≤ o) → ρ a = 1) ∧ reverseRank objs = objs.map ρ := by
  have hperm : ((enumFrom 0 objs).mergeSort leKey).Perm (enumFrom 0 objs) := List.mergeSort_perm _ _
  have hsorted : (((enumFrom 0 objs).mergeSort leKey).map (·.2)).Pairwise (· ≤ ·) := List.pairwise_map.mpr
    ((List.pairwise_mergeSort (le := leKey) leKey_trans leKey_total (enumFrom 0 objs)).imp
      (fun h => by simpa [leKey] using h))
  have hkeys : ∀ a, a ∈ objs ↔ a ∈ ((enumFrom 0 objs).mergeSort leKey).map (·.2) := fun a => by
    rw [(hperm.map _).mem_iff, enumFrom_map_snd]
  unfold reverseRank
  generalize (enumFrom 0 objs).mergeSort leKey = s at *
  cases s with
  | nil =>
    have : objs = [] := List.eq_nil_iff_forall_not_mem.mpr fun a ha => nomatch (hkeys a).mp ha
    subst this
    exact ⟨fun _ => 1, nofun, nofun, nofun, rfl⟩
  | cons x rest =>
    obtain ⟨i0, o0⟩ := x
    -- the head of the sorted list is a minimum and opens group 1
    obtain ⟨ρ, h1, h2, h3⟩ := rankScan_eq_map o0 1 rest hsorted
    have hmin : ∀ a ∈ objs, o0 ≤ a := fun a ha =>
      (List.forall_mem_cons (p := (o0 ≤ ·))).mpr ⟨le_rfl, (List.pairwise_cons.mp hsorted).1⟩ a ((hkeys a).mp ha)
    have htail : ∀ a ∈ objs, o0 < a → a ∈ rest.map (·.2) := fun a ha hlt =>
      (List.mem_cons.mp ((hkeys a).mp ha)).resolve_left hlt.ne'
    have ht : rankSorted ((i0, o0) :: rest) = ((i0, o0) :: rest).map fun p => (p.1, ρ p.2) := by
      rw [rankSorted, h3, List.map_cons, h1]
    refine ⟨ρ, fun a ha b hb hab => h2 a ((hkeys a).mp ha) b (htail b hb (lt_of_le_of_lt (hmin a ha) hab)) hab,
      fun a ha => ?_, fun a ha hle => ?_, ?_⟩
    · rcases (hmin a ha).eq_or_lt with rfl | hlt
      · exact h1.ge
      · exact h1 ▸ (h2 o0 List.mem_cons_self a (htail a ha hlt) hlt).le
    · rw [← le_antisymm (hmin a ha) (hle o0 ((hkeys o0).mpr List.mem_cons_self)), h1]
    · -- the table is looked up by index, and its indices are those of the enumeration: distinct
      have hnd : ((rankSorted ((i0, o0) :: rest)).map (·.1)).Nodup := by
        rw [ht, List.map_map]
        exact (hperm.map (·.1)).nodup_iff.mpr (enumFrom_map_fst 0 objs ▸ List.nodup_range')
      refine List.ext_getElem (by simp) fun i hi _ => ?_
      have hi' : i < objs.length := by simpa using hi
      rw [List.getElem_map, List.getElem_range, List.getElem_map]
      refine lookupRank_of_mem hnd ?_
      rw [ht]
      exact List.mem_map.mpr ⟨(i, objs[i]), hperm.mem_iff.mpr (mem_enumFrom.mpr (List.getElem?_eq_getElem hi')), rfl⟩

theorem reverseRank_ge_one (objs : List F) : ∀ r ∈ reverseRank objs, 1 ≤ r := by
  obtain ⟨ρ, _, h1, _, e⟩ := reverseRank_eq_map objs
  rw [e]
  exact List.forall_mem_map.mpr h1

/-- Weights computed from the ranks by a map that is antitone on the ranks that occur are an antitone function
of the objective (`LinearRank` and `ExponentialRank` are of this shape). -/
theorem map_reverseRank_antitone {β : Type} [LE β] (objs : List F) (f : Nat → β)
    (hf : ∀ r ∈ reverseRank objs, ∀ r', r ≤ r' → f r' ≤ f r) :
    ∃ g : F → β, (reverseRank objs).map f = objs.map g ∧ ∀ a ∈ objs, ∀ b ∈ objs, a ≤ b → g b ≤ g a := by
  obtain ⟨ρ, hlt, _, _, e⟩ := reverseRank_eq_map objs
  refine ⟨f ∘ ρ, by rw [e, List.map_map], fun a ha b hb hab => hf _ (e ▸ List.mem_map_of_mem ha) _ ?_⟩
  rcases hab.eq_or_lt with rfl | h
  · exact le_rfl
  · exact (hlt a ha b hb h).le

end order

/-- Weights that are an antitone function of the objective, position by position: the form in which the
selection-pressure statements are written. -/
theorem antitone_map_getElem {F β : Type} [LE F] [LE β] {objs : List F} {ws : List β} {g : F → β} (hw : ws = objs.map g)
    (hg : ∀ a ∈ objs, ∀ b ∈ objs, a ≤ b → g b ≤ g a) :
    ws.length = objs.length ∧
    ∀ i j (hi : i < objs.length) (hj : j < objs.length) (hi' : i < ws.length) (hj' : j < ws.length),
      objs[i] ≤ objs[j] → ws[j] ≤ ws[i] := by
  subst hw
  refine ⟨List.length_map _, fun i j hi hj _ _ hle => ?_⟩
  rw [List.getElem_map, List.getElem_map]
  exact hg _ (List.getElem_mem hi) _ (List.getElem_mem hj) hle

end MahfModel.Selection
