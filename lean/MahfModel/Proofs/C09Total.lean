/- C09 — bit patterns against `f64::total_cmp`: the numeric order of two legal patterns read off their `total_cmp` keys
(`lt_of_totalKey_lt`), so that away from the two pairs of opposite zeros `Ord::cmp` is `total_cmp` (`objCmp_eq_totalCmp`);
the keys are injective. That the two orders differ on the zeros is `Props/C09Ord.lean`. Imports no Mathlib. -/
import MahfModel.Proofs.C09
import MahfModel.Proofs.C09Float
import MahfModel.Model.ObjectiveOrd
namespace MahfModel.Objective

theorem totalKey_neg (n : Nat) : totalKey (n + 2 ^ 63) = -(n : Int) - 1 := by
  unfold totalKey
  rw [if_neg (Nat.not_lt.mpr (Nat.le_add_left _ _)), Nat.add_sub_cancel]

/-- The numeric order of two legal patterns, read off the `total_cmp` keys: a smaller key never
means a larger value, and it means a strictly smaller value unless the two are the two zeros. -/
theorem lt_of_totalKey_lt (m n : Nat) (hm : m < 2 ^ 64) (hn : n < 2 ^ 64)
    (lm : legal (ofNatBits m) = true) (ln : legal (ofNatBits n) = true)
    (hk : totalKey m < totalKey n) (hz : ¬ (m = 2 ^ 63 ∧ n = 0)) :
    lt (ofNatBits m) (ofNatBits n) = true := by
  have key_pos : ∀ k, k ≤ 0x7ff0000000000000 → totalKey k = (k : Int) :=
    fun k hk => if_pos (Nat.lt_of_le_of_lt hk (by decide))
  rcases legal_bits_cases m hm lm with cm | ⟨m', rfl, cm⟩ <;>
    rcases legal_bits_cases n hn ln with cn | ⟨n', rfl, cn⟩
  · rw [key_pos m cm, key_pos n cn] at hk
    exact ofNatBits_mono_le m n (Int.ofNat_lt.mp hk) cn
  · -- impossible: a key ≥ 0 is not below a key < 0
    rw [key_pos m cm, totalKey_neg] at hk
    omega
  · -- a negated non-negative value is below every non-negative one, the two zeros excepted
    rw [ofNatBits_sign m' (Nat.lt_trans cm (by decide)), ofNatBits_nonneg m' cm]
    rcases Nat.eq_or_lt_of_le cn with rfl | cn'
    · rw [ofNatBits_pinf]; rfl
    · rw [ofNatBits_nonneg n cn']
      have h0 : 0 < m' ∨ 0 < n := by omega
      have := h0.imp (posVal_lt 0 m') (posVal_lt 0 n)
      simp only [negF, lt, decide_eq_true_eq]
      rw [show posVal 0 = 0 from rfl] at this
      omega
  · rw [totalKey_neg, totalKey_neg] at hk
    rw [ofNatBits_sign m' (Nat.lt_trans cm (by decide)), ofNatBits_sign n' (Nat.lt_trans cn (by decide))]
    exact lt_negF _ _ (ofNatBits_mono n' m' (by omega) cm)

theorem totalKey_inj (m n : Nat) (h : totalKey m = totalKey n) : m = n := by
  -- the two branches have disjoint ranges (≥ 0 and < 0) and each is injective, for any split point
  unfold totalKey at h
  generalize (2 : Nat) ^ 63 = S at h
  split at h <;> split at h <;> omega

/-- Away from the two pairs of opposite zeros the order of two legal patterns is the order of
their `total_cmp` keys. -/
theorem objCmp_eq_totalCmp (m n : Nat) (hm : m < 2 ^ 64) (hn : n < 2 ^ 64)
    (lm : legal (ofNatBits m) = true) (ln : legal (ofNatBits n) = true)
    (hz : ¬ ((m = 2 ^ 63 ∧ n = 0) ∨ (m = 0 ∧ n = 2 ^ 63))) :
    objCmp (ofNatBits m) (ofNatBits n) = .ok (totalCmp m n) := by
  unfold totalCmp
  rcases Int.lt_trichotomy (totalKey m) (totalKey n) with h | h | h
  · rw [Int.compare_eq_lt.mpr h, objCmp_lt_iff]
    exact lt_of_totalKey_lt m n hm hn lm ln h (fun hc => hz (.inl hc))
  · obtain rfl := totalKey_inj m n h
    rw [Int.compare_eq_eq.mpr rfl, objCmp_eq_iff]
    exact eq_self _ (legal_not_nan _ lm)
  · rw [Int.compare_eq_gt.mpr h, objCmp_gt_iff]
    exact lt_of_totalKey_lt n m hn hm ln lm h (fun hc => hz (.inr ⟨hc.2, hc.1⟩))

theorem zero_pattern (k : Nat) (hk : k < 2 ^ 64) (h : k % 2 ^ 63 = 0) : k = 0 ∨ k = 2 ^ 63 := by
  omega

theorem ofNatBits_negZero : ofNatBits (2 ^ 63) = .fin 0 := by decide +kernel

end MahfModel.Objective
