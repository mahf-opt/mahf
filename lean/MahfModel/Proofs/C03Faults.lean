/-
C03 — scripted faults. `Quiet` (a `Seq` relation, hence kept by every program) says that no fault fired before the
error a run returned; `Sim2` keeps a run in lock-step with the run of the fault-free script; together they give the
complete account `srun_fault_returned`: the first fault reached is the result. Traces are newest first here.
-/
import MahfModel.Proofs.C03Run
namespace MahfModel.Config

/-! ### No fault fires between two points of a trace (traces newest first) -/

/-- No scripted fault fires at any event of `tr` recorded after `base`: `Script.quietAfter` on traces kept
newest first (`clean_iff_quietAfter`). -/
def Clean (s : Script) (base tr : List Ev) : Prop :=
  ∀ newer e old, tr = newer ++ e :: old → base <:+ old → s.faulty e (old.count e) = false

theorem clean_refl (s : Script) (t : List Ev) : Clean s t t := by
  intro newer e old h hb
  have h1 := hb.length_le
  have h2 := congrArg List.length h
  rw [List.length_append, List.length_cons] at h2
  omega

theorem clean_cons {s : Script} {base old : List Ev} {e : Ev} (h : Clean s base old)
    (hf : s.faulty e (old.count e) = false) : Clean s base (e :: old) := by
  intro newer e' old' heq hb
  cases newer with
  | nil => cases heq; exact hf
  | cons x newer => exact h newer e' old' (List.cons.inj heq).2 hb

theorem clean_trans {s : Script} {a b c : List Ev} (h1 : Clean s a b) (h2 : Clean s b c) (hbc : b <:+ c) :
    Clean s a c := by
  intro newer e old heq ha
  rcases List.suffix_or_suffix_of_suffix hbc ⟨newer, heq.symm⟩ with h | ⟨m, hm⟩
  · rcases List.suffix_cons_iff.mp h with h | h
    · exact h1 [] e old h ha
    · exact h2 newer e old heq h
  · exact h1 m e old hm.symm ha

theorem clean_suffix {s : Script} {base t t' : List Ev} (h : Clean s base t) (ht : t' <:+ t) : Clean s base t' := by
  intro newer e old heq hb
  obtain ⟨m, hm⟩ := ht
  exact h (m ++ newer) e old (by rw [← hm, heq, List.append_assoc]) hb

theorem clean_iff_quietAfter (s : Script) (b t : List Ev) : Clean s b t ↔ s.quietAfter b.reverse t.reverse := by
  constructor
  · intro h pre e post heq hb
    have ht : t = post.reverse ++ e :: pre.reverse := by
      have := congrArg List.reverse heq
      simpa using this
    have hb' : b <:+ pre.reverse := by
      have := List.reverse_suffix.mpr hb
      simpa using this
    have := h post.reverse e pre.reverse ht hb'
    simpa using this
  · intro h newer e old heq hb
    have ht : t.reverse = old.reverse ++ e :: newer.reverse := by rw [heq]; simp
    have hb' : b.reverse <+: old.reverse := List.reverse_prefix.mpr hb
    have := h old.reverse e newer.reverse ht hb'
    simpa using this

theorem first_fault_unique {s : Script} {base T o1 o2 : List Ev} {e1 e2 : Ev}
    (h1 : e1 :: o1 <:+ T) (h2 : e2 :: o2 <:+ T) (b1 : base <:+ o1) (b2 : base <:+ o2)
    (c1 : Clean s base o1) (c2 : Clean s base o2)
    (f1 : s.faulty e1 (o1.count e1) = true) (f2 : s.faulty e2 (o2.count e2) = true) : e1 = e2 ∧ o1 = o2 := by
  rcases List.suffix_or_suffix_of_suffix h1 h2 with h | h <;> rcases List.suffix_cons_iff.mp h with h | ⟨m, hm⟩
  · exact List.cons.inj h
  · rw [c2 m e1 o1 hm.symm b1] at f1; cases f1
  · exact ⟨(List.cons.inj h).1.symm, (List.cons.inj h).2.symm⟩
  · rw [c1 m e2 o2 hm.symm b2] at f2; cases f2

/-! ### Single-run invariant: everything before the returned error was fault-free -/

/-- The run from `σ` ended with trace `tr`; if it returned the error `e` then `e` is the newest event
and no fault fired before it, otherwise no fault fired at all. -/
def Quiet (s : Script) (σ : St) (tr : List Ev) : Option Ev → Prop
  | none => σ.tr <:+ tr ∧ Clean s σ.tr tr
  | some e => ∃ old, tr = e :: old ∧ σ.tr <:+ old ∧ Clean s σ.tr old

theorem quiet_here (s : Script) (σ : St) : Quiet s σ σ.tr none := ⟨List.suffix_refl _, clean_refl s _⟩

theorem quiet_trans {s : Script} {σ σ1 : St} {tr : List Ev} {oe : Option Ev}
    (h1 : Quiet s σ σ1.tr none) (h2 : Quiet s σ1 tr oe) : Quiet s σ tr oe := by
  cases oe with
  | none => exact ⟨h1.1.trans h2.1, clean_trans h1.2 h2.2 h2.1⟩
  | some e =>
    obtain ⟨old, a, b, c⟩ := h2
    exact ⟨old, a, h1.1.trans b, clean_trans h1.2 c b⟩

theorem Quiet.suffix {s : Script} {σ : St} {tr : List Ev} {oe : Option Ev} (h : Quiet s σ tr oe) : σ.tr <:+ tr := by
  cases oe with
  | none => exact h.1
  | some e => obtain ⟨old, rfl, b, _⟩ := h; exact b.trans (List.suffix_cons _ _)

theorem Quiet.head {s : Script} {σ : St} {tr : List Ev} {e : Ev} (h : Quiet s σ tr (some e)) : tr.head? = some e := by
  obtain ⟨old, rfl, _⟩ := h; rfl

theorem step_quiet (s : Script) (ev : Ev) (eff : Reg → Option Reg) (σ : St) :
    Quiet s σ (step s ev eff σ).1.tr (step s ev eff σ).2.errEv := by
  simp only [step]
  split
  · exact ⟨σ.tr, rfl, List.suffix_refl _, clean_refl s _⟩
  · rename_i hf
    split
    · exact ⟨List.suffix_cons _ _, clean_cons (clean_refl s _) (Bool.eq_false_iff.mpr hf)⟩
    · exact ⟨σ.tr, rfl, List.suffix_refl _, clean_refl s _⟩

theorem evalLeaf_quiet (s : Script) (id : Nat) (σ : St) :
    Quiet s σ (evalLeaf s id σ).1.tr (evalLeaf s id σ).2.errEv := by
  simp only [evalLeaf]
  split
  · exact ⟨σ.tr, rfl, List.suffix_refl _, clean_refl s _⟩
  · rename_i hf
    exact ⟨List.suffix_cons _ _, clean_cons (clean_refl s _) (Bool.eq_false_iff.mpr hf)⟩

theorem seq_quiet (s : Script) : Seq fun σ σ' oe => Quiet s σ σ'.tr oe := ⟨quiet_here s, quiet_trans⟩

theorem condEval_quiet (s : Script) (c : Cond) (σ : St) : Quiet s σ (condEval s c σ).1.tr (condEval s c σ).2.errEv :=
  condEval_pres (seq_quiet s) s c (fun id _ => evalLeaf_quiet s id) σ

theorem evalAll_quiet (s : Script) : ∀ (cs : Conds) (σ : St),
      Quiet s σ (evalAll s cs σ).1.tr (evalAll s cs σ).2.errEv :=
  fun cs => condEval_quiet s (.all cs)

theorem evalAny_quiet (s : Script) : ∀ (cs : Conds) (σ : St),
      Quiet s σ (evalAny s cs σ).1.tr (evalAny s cs σ).2.errEv :=
  fun cs => condEval_quiet s (.any cs)

theorem inv_quiet (s : Script) : Inv s (fun _ => true) (fun _ => true) fun σ σ' oe => Quiet s σ σ'.tr oe where
  toSeq := seq_quiet s
  op o _ σ := by
    cases o with
    | prim ev acts => exact step_quiet s ev _ σ
    | merge id mg => exact step_quiet s _ _ σ
    | counter0 => exact quiet_here s σ
    | bump => simp only [opRun, bump]; split <;> exact quiet_here s σ
  cond c _ := condEval_quiet s c
  scope _ _ _ h := h

theorem srun_quiet (s : Script) (f : Nat) (p : Stmt) (σ : St) : Quiet s σ (srun s f p σ).1.tr (srun s f p σ).2.errEv :=
  srun_pres (inv_quiet s) f p (Stmt.all_true p) σ

theorem srun_trace (s : Script) (f : Nat) (p : Stmt) (σ : St) : σ.tr <:+ (srun s f p σ).1.tr :=
  (srun_quiet s f p σ).suffix

/-! ### The returned error is the last thing that happened -/

theorem evalAll_err_head (s : Script) : ∀ (cs : Conds) (σ σ' : St) (ph : Phase) (id : Nat),
      evalAll s cs σ = (σ', .err ph id) → σ'.tr.head? = some (ph, id) :=
  fun cs σ _ _ _ h => Quiet.head (h ▸ evalAll_quiet s cs σ)

theorem evalAny_err_head (s : Script) : ∀ (cs : Conds) (σ σ' : St) (ph : Phase) (id : Nat),
      evalAny s cs σ = (σ', .err ph id) → σ'.tr.head? = some (ph, id) :=
  fun cs σ _ _ _ h => Quiet.head (h ▸ evalAny_quiet s cs σ)

theorem srun_err_head (s : Script) (f : Nat) (p : Stmt) (σ : St) (ph : Phase) (id : Nat)
    (h : (srun s f p σ).2 = .err ph id) : (srun s f p σ).1.tr.head? = some (ph, id) :=
  Quiet.head (h ▸ srun_quiet s f p σ)

/-! ### Lock-step with the fault-free script -/

theorem noFaults_faulty (s : Script) (ev : Ev) (n : Nat) : s.noFaults.faulty ev n = false := rfl

theorem noFaults_value (s : Script) (id n : Nat) : s.noFaults.value id n = s.value id n := rfl

/-- A run with trace `tr` and returned error `oe` stopped at a fired fault: `oe` is the newest event `e`, and the
script injects a fault at that occurrence of `e`. -/
def FaultStop (s : Script) (tr : List Ev) (oe : Option Ev) : Prop :=
  ∃ e old, oe = some e ∧ tr = e :: old ∧ s.faulty e (old.count e) = true

/-- Lock-step of a run (trace `xtr`, error `xe`) with the fault-free run (trace `ytr`); `same` says the two
outcomes are equal. Either they are, or the first stopped at a fired fault at a point the second went through.
(`Sim`, further down, is the weaker statement with "stopped with an error"; `SimR` / `SimC` are this one for
component and condition outcomes.) -/
def Sim2 (s : Script) (xtr : List Ev) (xe : Option Ev) (same : Prop) (ytr : List Ev) : Prop :=
  same ∨ (FaultStop s xtr xe ∧ xtr <:+ ytr)

abbrev SimR (s : Script) (x y : St × Res) : Prop := Sim2 s x.1.tr x.2.errEv (x = y) y.1.tr
abbrev SimC (s : Script) (x y : St × CRes) : Prop := Sim2 s x.1.tr x.2.errEv (x = y) y.1.tr

theorem evalLeaf_sim2 (s : Script) (id : Nat) (σ : St) : SimC s (evalLeaf s id σ) (evalLeaf s.noFaults id σ) := by
  simp only [SimC, Sim2, evalLeaf, noFaults_faulty, noFaults_value]
  split
  · rename_i hf
    exact Or.inr ⟨⟨_, σ.tr, rfl, rfl, hf⟩, List.suffix_refl _⟩
  · exact Or.inl rfl

theorem sim2_keep {s : Script} {xtr ytr ytr' : List Ev} {xe : Option Ev} {P : Prop}
    (h : FaultStop s xtr xe ∧ xtr <:+ ytr) (hy : ytr <:+ ytr') : Sim2 s xtr xe P ytr' :=
  Or.inr ⟨h.1, h.2.trans hy⟩

theorem cres_err_of {v : CRes} {e : Ev} (h : v.errEv = some e) : v = .err e.1 e.2 := by
  cases v with
  | val _ => cases h
  | err ph id => cases h; rfl

theorem res_err_of {v : Res} {e : Ev} (h : v.errEv = some e) : v = .err e.1 e.2 := by
  cases v with
  | err ph id => cases h; rfl
  | _ => cases h

/-- Sequencing keeps the two runs in lock-step: identical so far, go on in lock-step; stopped, the
error is propagated while the fault-free side only extends its trace (`hm`). -/
theorem sim2_andThen {s : Script} {x y : St × Res} {k k0 : St → St × Res} (h : SimR s x y)
    (hk : ∀ σ, SimR s (k σ) (k0 σ)) (hm : ∀ σ, σ.tr <:+ (k0 σ).1.tr) :
    SimR s (andThen x k) (andThen y k0) := by
  rcases h with rfl | h
  · obtain ⟨σ1, r⟩ := x
    cases r
    · exact hk σ1
    all_goals exact Or.inl rfl
  · obtain ⟨σx, rx⟩ := x
    obtain ⟨e, _, he, _⟩ := h.1
    obtain rfl := res_err_of he
    obtain ⟨σy, ry⟩ := y
    cases ry
    · exact sim2_keep h (hm σy)
    all_goals exact Or.inr h

theorem sim2_cbind {s : Script} {x y : St × CRes} {k k0 : Bool → St → St × CRes} (h : SimC s x y)
    (hk : ∀ b σ, SimC s (k b σ) (k0 b σ)) (hm : ∀ b σ, σ.tr <:+ (k0 b σ).1.tr) :
    SimC s (cbind x k) (cbind y k0) := by
  rcases h with rfl | h
  · obtain ⟨σ1, b | _⟩ := x
    · exact hk b σ1
    · exact Or.inl rfl
  · obtain ⟨σx, rx⟩ := x
    obtain ⟨e, _, he, _⟩ := h.1
    obtain rfl := cres_err_of he
    obtain ⟨σy, b | _⟩ := y
    · exact sim2_keep h (hm b σy)
    · exact Or.inr h

theorem sim2_cthen {s : Script} {x y : St × CRes} {k k0 : Bool → St → St × Res} (h : SimC s x y)
    (hk : ∀ b σ, SimR s (k b σ) (k0 b σ)) (hm : ∀ b σ, σ.tr <:+ (k0 b σ).1.tr) :
    SimR s (cthen x k) (cthen y k0) := by
  rcases h with rfl | h
  · obtain ⟨σ1, b | _⟩ := x
    · exact hk b σ1
    · exact Or.inl rfl
  · obtain ⟨σx, rx⟩ := x
    obtain ⟨e, _, he, _⟩ := h.1
    obtain rfl := cres_err_of he
    obtain ⟨σy, b | _⟩ := y
    · exact sim2_keep h (hm b σy)
    · exact Or.inr h

theorem condEval_sim2 (s : Script) (c : Cond) : ∀ (σ : St), SimC s (condEval s c σ) (condEval s.noFaults c σ) := by
  induction c using Cond.ind with
  | leaf id => exact evalLeaf_sim2 s id
  | not c ih =>
    intro σ
    rw [condEval_not, condEval_not]
    exact sim2_cbind (ih σ) (fun _ _ => Or.inl rfl) fun _ _ => List.suffix_refl _
  | all_nil | any_nil => exact fun _ => Or.inl rfl
  | all_cons c cs ihc ihcs =>
    intro σ
    rw [condEval_all_cons, condEval_all_cons]
    exact sim2_cbind (ihc σ)
      (fun _ σ1 => sim2_cbind (ihcs σ1) (fun _ _ => Or.inl rfl) fun _ _ => List.suffix_refl _)
      fun _ σ1 => cbind_pres seq_suffix (evalAll_quiet s.noFaults cs σ1).suffix fun _ _ => List.suffix_refl _
  | any_cons c cs ihc ihcs =>
    intro σ
    rw [condEval_any_cons, condEval_any_cons]
    exact sim2_cbind (ihc σ)
      (fun _ σ1 => sim2_cbind (ihcs σ1) (fun _ _ => Or.inl rfl) fun _ _ => List.suffix_refl _)
      fun _ σ1 => cbind_pres seq_suffix (evalAny_quiet s.noFaults cs σ1).suffix fun _ _ => List.suffix_refl _

theorem evalAll_sim2 (s : Script) : ∀ (cs : Conds) (σ : St), SimC s (evalAll s cs σ) (evalAll s.noFaults cs σ) :=
  fun cs => condEval_sim2 s (.all cs)

theorem evalAny_sim2 (s : Script) : ∀ (cs : Conds) (σ : St), SimC s (evalAny s cs σ) (evalAny s.noFaults cs σ) :=
  fun cs => condEval_sim2 s (.any cs)

theorem opRun_sim2 (s : Script) (o : Op) (σ : St) : SimR s (opRun s o σ) (opRun s.noFaults o σ) := by
  have hstep : ∀ ev eff, SimR s (step s ev eff σ) (step s.noFaults ev eff σ) := by
    intro ev eff
    simp only [SimR, Sim2, step, noFaults_faulty]
    split
    · rename_i hf
      refine Or.inr ⟨⟨ev, σ.tr, rfl, rfl, hf⟩, ?_⟩
      simp only [Bool.false_eq_true, if_false]
      split <;> exact List.suffix_refl _
    · exact Or.inl rfl
  cases o with
  | prim ev acts => exact hstep ev _
  | counter0 => exact Or.inl rfl
  | bump => exact Or.inl rfl
  | merge id mg => exact hstep _ _

theorem whileN_sim2 {s : Script} {cond cond0 : St → St × CRes} {body body0 : St → St × Res}
    (hc : ∀ σ, SimC s (cond σ) (cond0 σ)) (hb : ∀ σ, SimR s (body σ) (body0 σ))
    (hc0 : ∀ σ, σ.tr <:+ (cond0 σ).1.tr) (hb0 : ∀ σ, σ.tr <:+ (body0 σ).1.tr) :
    ∀ (n : Nat) (σ : St), SimR s (whileN cond body n σ) (whileN cond0 body0 n σ) := by
  intro n
  induction n with
  | zero => exact fun _ => Or.inl rfl
  | succ n ih =>
    intro σ
    rw [whileN_succ, whileN_succ]
    refine sim2_cthen (hc σ) (fun b σ1 => ?_) fun b σ1 => ?_
    · cases b
      · exact Or.inl rfl
      · exact sim2_andThen (hb σ1) ih (whileN_pres seq_suffix hc0 hb0 n)
    · cases b
      · exact List.suffix_refl _
      · exact andThen_pres seq_suffix (hb0 σ1) (whileN_pres seq_suffix hc0 hb0 n)

theorem srun_sim2 (s : Script) (f : Nat) (p : Stmt) (σ : St) :
    SimR s (srun s f p σ) (srun s.noFaults f p σ) := by
  induction p generalizing σ with
  | skip => exact Or.inl rfl
  | atom o => exact opRun_sim2 s o σ
  | seq a b iha ihb => exact sim2_andThen (iha σ) ihb (srun_trace s.noFaults f b)
  | loop c b ih =>
    exact whileN_sim2 (condEval_sim2 s c) ih (fun σ => (condEval_quiet s.noFaults c σ).suffix) (srun_trace s.noFaults f b) f σ
  | ite c t e iht ihe =>
    rw [srun_ite, srun_ite]
    refine sim2_cthen (condEval_sim2 s c σ) (fun b σ1 => ?_) fun b σ1 => srun_trace s.noFaults f _ σ1
    cases b
    · exact ihe σ1
    · exact iht σ1
  | inScope b ih =>
    rcases ih (push σ) with h | h
    · exact Or.inl (congrArg (fun x : St × Res => (pop x.1, x.2)) h)
    · exact Or.inr h

/-- Either the two runs are identical, or the first stopped with an error at a point the second
went through. -/
def Sim {α : Type} (isErr : α → Prop) (x y : St × α) : Prop :=
  x = y ∨ (isErr x.2 ∧ x.1.tr <:+ y.1.tr)

def CRes.isErr (r : CRes) : Prop := ∃ ph id, r = .err ph id

theorem evalAll_sim (s : Script) : ∀ (cs : Conds) (σ : St),
      Sim CRes.isErr (evalAll s cs σ) (evalAll s.noFaults cs σ) :=
  fun cs σ => (evalAll_sim2 s cs σ).imp id fun ⟨⟨_, _, he, _⟩, ht⟩ => ⟨⟨_, _, cres_err_of he⟩, ht⟩

theorem evalAny_sim (s : Script) : ∀ (cs : Conds) (σ : St),
      Sim CRes.isErr (evalAny s cs σ) (evalAny s.noFaults cs σ) :=
  fun cs σ => (evalAny_sim2 s cs σ).imp id fun ⟨⟨_, _, he, _⟩, ht⟩ => ⟨⟨_, _, cres_err_of he⟩, ht⟩

/-- `Props.C03.fault_is_returned` on the structured program, traces newest first. -/
theorem srun_fault_returned (s : Script) (f : Nat) (p : Stmt) (σ : St) :
    (∀ newer e old, (srun s.noFaults f p σ).1.tr = newer ++ e :: old → σ.tr <:+ old → Clean s σ.tr old →
        s.faulty e (old.count e) = true →
        (srun s f p σ).2 = .err e.1 e.2 ∧ (srun s f p σ).1.tr = e :: old) ∧
    (Clean s σ.tr (srun s.noFaults f p σ).1.tr → srun s f p σ = srun s.noFaults f p σ) := by
  have hS := srun_sim2 s f p σ
  have hQ := srun_quiet s f p σ
  generalize srun s f p σ = x at hS hQ
  generalize srun s.noFaults f p σ = y at hS
  constructor
  · intro newer e old hy hb hc hf
    have hsuf : e :: old <:+ y.1.tr := ⟨newer, hy.symm⟩
    rcases hS with rfl | ⟨⟨e', old', he', htr', hf'⟩, hxy⟩
    · cases hxe : x.2.errEv with
      | none =>
        rw [hxe] at hQ
        rw [hQ.2 newer e old hy hb] at hf; cases hf
      | some e' =>
        rw [hxe] at hQ
        obtain ⟨old', htr', hb', hc'⟩ := hQ
        by_cases hf' : s.faulty e' (old'.count e') = true
        · obtain ⟨rfl, rfl⟩ := first_fault_unique hsuf (htr' ▸ List.suffix_refl _) hb hb' hc hc' hf hf'
          exact ⟨res_err_of hxe, htr'⟩
        · have hcl : Clean s σ.tr x.1.tr := htr' ▸ clean_cons hc' (Bool.eq_false_iff.mpr hf')
          rw [hcl newer e old hy hb] at hf; cases hf
    · rw [he'] at hQ
      obtain ⟨old'', htr'', hb', hc'⟩ := hQ
      obtain rfl : old'' = old' := (List.cons.inj (htr''.symm.trans htr')).2
      obtain ⟨rfl, rfl⟩ := first_fault_unique hsuf (htr' ▸ hxy) hb hb' hc hc' hf hf'
      exact ⟨res_err_of he', htr'⟩
  · intro hcl
    rcases hS with h | ⟨⟨e', old', he', htr', hf'⟩, ⟨m, hm⟩⟩
    · exact h
    · rw [he'] at hQ
      obtain ⟨old'', htr'', hb', _⟩ := hQ
      obtain rfl : old'' = old' := (List.cons.inj (htr''.symm.trans htr')).2
      rw [hcl m e' old'' (by rw [← hm, htr']) hb'] at hf'; cases hf'

end MahfModel.Config
