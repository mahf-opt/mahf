/- C15 — the compressed export: one step of `CompressedLog::from` leaves a name table under which, and under every
extension of which, the step decodes (`compressStep_dec`), hence `decompress (compress log) = log`; a reader's
`decodeStep` is `List.mapM`, so the order of a step's exported entries does not matter. Core only. -/
import MahfModel.Proofs.C15Log
import MahfModel.Proofs.ListIndex
namespace MahfModel.Log

variable {N V : Type} [DecidableEq N]

theorem addName_spec (names : List N) (n : N) (hnd : names.Nodup) :
    names <+: addName names n ∧ (addName names n).Nodup ∧ (addName names n)[names.idxOf n]? = some n := by
  unfold addName
  split
  · next h =>
    exact ⟨List.prefix_rfl, hnd, by rw [List.getElem?_eq_getElem (List.idxOf_lt_length_of_mem h), List.getElem_idxOf]⟩
  · next h =>
    refine ⟨List.prefix_append _ _, List.nodup_append.2 ⟨hnd, by simp, ?_⟩, by simp [List.idxOf_eq_length h]⟩
    rintro a ha b hb rfl
    exact h (List.mem_singleton.1 hb ▸ ha)

omit [DecidableEq N] in
theorem decodeStep_eq_mapM (names : List N) (m : List (Nat × Option V)) :
    decodeStep names m = m.mapM fun p => names[p.1]?.map (·, p.2) := by
  induction m with
  | nil => rfl
  | cons p m ih =>
    rw [decodeStep, ih, List.mapM_cons]
    cases names[p.1]? <;> cases List.mapM (m := Option) (fun p : Nat × Option V => names[p.1]?.map (·, p.2)) m <;> rfl

omit [DecidableEq N] in
theorem decodeStep_key {T : List N} {m : List (Nat × Option V)} {s : Step N V} (h : decodeStep T m = some s)
    {p : Nat × Option V} (hp : p ∈ m) : ∃ x ∈ s, T[p.1]? = some x.1 := by
  obtain ⟨x, hx, hxp⟩ := exists_mapM_of_mem _ m s (decodeStep_eq_mapM T m ▸ h) p hp
  obtain ⟨n, hn, rfl⟩ := Option.map_eq_some_iff.1 hxp
  exact ⟨_, hx, hn⟩

theorem compressStep_dec (s : Step N V) (names : List N) (hnd : names.Nodup) (hs : (s.map Prod.fst).Nodup) :
    names <+: (compressStep names s).1 ∧ (compressStep names s).1.Nodup ∧
    ∀ T', (compressStep names s).1 <+: T' → decodeStep T' (compressStep names s).2 = some s := by
  induction s generalizing names with
  | nil => exact ⟨List.prefix_rfl, hnd, fun _ _ => rfl⟩
  | cons e es ih =>
    obtain ⟨h0, hnd1, hk1⟩ := addName_spec names e.1 hnd
    rw [List.map_cons, List.nodup_cons] at hs
    obtain ⟨hp, hnd2, hdec⟩ := ih (addName names e.1) hnd1 hs.2
    refine ⟨h0.trans hp, hnd2, fun T' hT' => ?_⟩
    have hd := hdec T' hT'
    -- the key of `e` reads as its name in every table that extends the one with `e` added
    have hk : T'[names.idxOf e.1]? = some e.1 := by
      obtain ⟨t, rfl⟩ := hp.trans hT'
      rw [List.getElem?_append_left (List.getElem?_eq_some_iff.1 hk1).1, hk1]
    -- so no later entry has that key: it would decode to the name of `e`, which occurs once
    have hno : ((compressStep (addName names e.1) es).2.any fun p => p.1 == names.idxOf e.1) = false := by
      rw [List.any_eq_false]
      intro p hpm hpe
      obtain ⟨x, hx, hxp⟩ := decodeStep_key hd hpm
      rw [beq_iff_eq.1 hpe, hk] at hxp
      exact hs.1 (Option.some.inj hxp ▸ List.mem_map_of_mem hx)
    simp only [compressStep, putFirst, hno, decodeStep, hk, hd, Bool.false_eq_true, if_false]

theorem compressFrom_dec (log : Log N V) (names : List N) (hnd : names.Nodup)
    (hs : ∀ s ∈ log, (s.map Prod.fst).Nodup) :
    names <+: (compressFrom names log).1 ∧ (compressFrom names log).1.Nodup ∧
    ∀ T', (compressFrom names log).1 <+: T' → decodeAll T' (compressFrom names log).2 = some log := by
  induction log generalizing names with
  | nil => exact ⟨List.prefix_rfl, hnd, fun _ _ => rfl⟩
  | cons s rest ih =>
    obtain ⟨hp0, hnd1, hd0⟩ := compressStep_dec s names hnd (hs s List.mem_cons_self)
    obtain ⟨hp1, hnd2, hd1⟩ := ih (compressStep names s).1 hnd1 fun t ht => hs t (List.mem_cons_of_mem _ ht)
    exact ⟨hp0.trans hp1, hnd2, fun T' hT' => by
      simp only [compressFrom, decodeAll, hd1 T' hT', hd0 T' (hp1.trans hT')]⟩

theorem decompress_compress (log : Log N V) (h : ∀ s ∈ log, (s.map Prod.fst).Nodup) :
    decompress (compress log) = some log :=
  (compressFrom_dec log [] List.nodup_nil h).2.2 _ List.prefix_rfl

theorem exportJson_of_finite (finite : V → Bool) (log : Log N V)
    (h : ∀ s ∈ log, ∀ e ∈ s, ∀ v, e.2 = some v → finite v = true) : exportJson finite log = compress log :=
  congrArg compress <|
    (List.map_congr_left fun st hst => (List.map_congr_left fun e he => by
      obtain ⟨n, _ | x⟩ := e
      · rfl
      · simp [jsonValue, h st hst _ he x rfl]).trans (List.map_id st)).trans (List.map_id log)

theorem decodeStep_perm_sameMap (names : List N) {m m' : List (Nat × Option V)} {s : Step N V}
    (hp : m.Perm m') (hd : decodeStep names m = some s) (hn : (s.map Prod.fst).Nodup) :
    ∃ s', decodeStep names m' = some s' ∧ s.Perm s' ∧ sameMap s s' := by
  rw [decodeStep_eq_mapM] at hd ⊢
  obtain ⟨s', h1, h2⟩ := mapM_perm _ hp s hd
  exact ⟨s', h1, h2, sameMap_of_perm h2 hn⟩

end MahfModel.Log
