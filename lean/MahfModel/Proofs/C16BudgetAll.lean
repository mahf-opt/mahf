/- The pass-count prediction on the single-loop templates as functions of their parameters: for every parameter value
the run is `v0` evaluations followed by a loop with `e` evaluations per pass (`budgetOf`). -/
import MahfModel.Proofs.C16BudgetParam
namespace MahfModel.Tpl

/-- The tree of a single-loop template carries `v0` evaluations before the loop and `e` per pass: whatever the (static)
termination condition `c`, the prediction for a run on any state is one loop execution of `firstStop c e 0 v0` passes. -/
def SingleLoop (t : SComp) (c : BCond) (e v0 : Nat) : Prop :=
  ∃ b, toBTop t [c] = some b ∧
    ∀ (F p : Nat) (prior : Lvl), c.static = true → firstStop c e F 0 (some v0) = some p →
      predictRun F b prior = some (⟨some p, some (v0 + p * e)⟩, [(0, p)])

/-- The body of a template's loop as far as the counters go: no loop of its own level, `e` evaluations per pass,
and a prediction without loop executions — in one registry, hence (`predict_loopfree`) in all.  For a concrete tree
all three are computations, so `{}` proves it. -/
structure LoopBody (b : BComp) (e : Nat) : Prop where
  evals : evalsOf b = e := by simp [evalsOf, evalsOfL, bsq, BComps.ofList]
  direct : directB b = 0 := by rfl
  log : ∀ F, (predict F 1 b ⟨none, some 0⟩).map (·.2) = some [] := by intro; rfl

theorem LoopBody.predict_loop {b : BComp} {e : Nat} (hb : LoopBody b e) {c : BCond} (hc : c.static = true) {F v0 p : Nat}
    (hp : firstStop c e F 0 (some v0) = some p) :
    predict F 0 (.loop c b) ⟨some 0, some v0⟩ = some (⟨some p, some (v0 + p * e)⟩, [(0, p)]) := by
  obtain ⟨⟨l1, g⟩, h1, rfl⟩ := Option.map_eq_some_iff.1 (hb.log F)
  have h2 := predict_loopfree F 1 b _ l1 [] hb.direct h1 ⟨some 0, some v0⟩ rfl
  simp [predict, hc, hb.direct, h2, hb.evals, hp, repLog_nil]

theorem SingleLoop.evaluated {init : LeafKind} {n : Nat} {body : SComp} {b : BComp} {e : Nat}
    {inv : AbsStack} (c : BCond) (hl : toB (.loop body) [c] [⟨n, some n⟩] = some (.loop c b, inv, []))
    (hb : LoopBody b e) (hi : Pushes init n := by exact fun _ _ => rfl) :
    SingleLoop (sq ([.leaf init n 0] ++ evalUpd ++ [sq [.loop body]])) c e n := by
  refine ⟨_, toBTop_evaluated hi hl, fun F p prior hc hp => ?_⟩
  have h0 : binit (bsq [.leaf, .eval n, .leaf, bsq [.loop c b]]) prior = ⟨some 0, some 0⟩ :=
    binit_overwrites _ _ (by simp [bsq, BComps.ofList, directB, directBs]) (by simp [bsq, BComps.ofList, evalLeaves, evalLeavesL])
  have hX := hb.predict_loop hc hp
  rw [predictRun, h0]
  generalize BComp.loop c b = X at hX ⊢
  simp [bsq, BComps.ofList, predict, predicts, hX]

section templates
attribute [local simp] sq SComps.ofList l0 evalUpd toB toBs sizeStep opOf astep Itv.exact stackJoin leafB evalLeaf Itv.join
  Itv.hiMax Itv.hiMin Itv.hiAdd Itv.hiLe Itv.mulC Itv.divC Itv.add Itv.capC Itv.meet bsq BComps.ofList stackLe Itv.le

theorem SingleLoop.unevaluated {init : LeafKind} {a : Nat} {body : SComp} {b : BComp} {e : Nat}
    {inv : AbsStack} (c : BCond) (hl : toB (.loop body) [c] [⟨a, some a⟩] = some (.loop c b, inv, []))
    (hb : LoopBody b e) (he : 1 ≤ evalLeaves b) (hi : Pushes init a := by exact fun _ _ => rfl) :
    SingleLoop (sq [.leaf init a 0, sq [.loop body]]) c e 0 := by
  refine ⟨bsq [.leaf, bsq [.loop c b]], ?_, fun F p prior hc hp => ?_⟩
  · generalize SComp.loop body = X at hl ⊢
    simp [toBTop, ↓hi, hl]
  · have h0 : binit (bsq [.leaf, bsq [.loop c b]]) prior = ⟨some 0, some 0⟩ :=
      binit_overwrites _ _ (by simp [bsq, BComps.ofList, directB, directBs])
        (by simp [bsq, BComps.ofList, evalLeaves, evalLeavesL]; omega)
    have hX := hb.predict_loop hc hp
    rw [predictRun, h0]
    generalize BComp.loop c b = X at hX ⊢
    simp [bsq, BComps.ofList, predict, predicts, hX]

theorem ga_single {init mutn con : LeafKind} (n ts : Nat) (c : BCond) (hi : Pushes init n := by exact fun _ _ => rfl)
    (hm : Keeps mutn := by exact fun _ _ _ => rfl) (hk : Keeps con := by exact fun _ _ _ => rfl) :
    SingleLoop (gaS init mutn con n ts) c n n :=
  .evaluated c (hi := hi) (b := bsq [.leaf, .leaf, .branch (bsq [.leaf]) (bsq []), .leaf, .eval n, .leaf, .leaf, .leaf])
    (toB_loop_self (cs := [c]) (by simp [↓hm, ↓hk]))
    {}

theorem es_single (mu lam : Nat) (c : BCond) : SingleLoop (esS mu lam) c lam mu :=
  .evaluated c
    (b := bsq [.leaf, .leaf, .leaf, .eval lam, .leaf, .leaf, .leaf]) (toB_loop_self (cs := [c]) (by simp))
    {}

theorem de_single (n y : Nat) (c : BCond) : SingleLoop (deS n y) c n n :=
  .evaluated c
    (b := bsq [.leaf, .leaf, .leaf, .leaf, .eval n, .leaf, .leaf, .leaf]) (toB_loop_self (cs := [c]) (by simp))
    {}

theorem sa_single {init gen con : LeafKind} (c : BCond) (hi : Pushes init 1 := by exact fun _ _ => rfl)
    (hg : Keeps gen := by exact fun _ _ _ => rfl) (hk : Keeps con := by exact fun _ _ _ => rfl) :
    SingleLoop (saS init gen con) c 1 1 :=
  .evaluated c (hi := hi) (b := bsq [.leaf, .leaf, .leaf, .eval 1, .leaf, .leaf, .leaf, .leaf])
    (toB_loop_self (cs := [c]) (by simp [↓hg, ↓hk]))
    {}

theorem rs_single {init rnd : LeafKind} (c : BCond) (hi : Pushes init 1 := by exact fun _ _ => rfl)
    (hr : Keeps rnd := by exact fun _ _ _ => rfl) : SingleLoop (rsS init rnd) c 1 1 :=
  .evaluated c (hi := hi) (b := bsq [.leaf, .leaf, .eval 1, .leaf, .leaf, .leaf])
    (toB_loop_self (cs := [c]) (by simp [↓hr])) {}

theorem rw_single {init gen con : LeafKind} (c : BCond) (hi : Pushes init 1 := by exact fun _ _ => rfl)
    (hg : Keeps gen := by exact fun _ _ _ => rfl) (hk : Keeps con := by exact fun _ _ _ => rfl) :
    SingleLoop (rwS init gen con) c 1 0 :=
  .unevaluated c (hi := hi) (b := bsq [.leaf, .leaf, .leaf, .eval 1, .leaf, .leaf, .leaf])
    (toB_loop_self (cs := [c]) (by simp [↓hg, ↓hk]))
    {} (Nat.le_refl 1)

theorem bh_single (n : Nat) (c : BCond) : SingleLoop (bhS n) c (n + n) n :=
  .evaluated c
    (b := bsq [.leaf, .leaf, .eval n, .leaf, .leaf, .eval n, .leaf, .leaf]) (toB_loop_self (cs := [c]) (by simp))
    {}

theorem permLs_single (k : Nat) (c : BCond) : SingleLoop (permLsS k) c k 1 :=
  .evaluated c
    (lsLoop_toB (gen := .SwapMutation) (con := .Noop) k [c] [])
    {}

macro "top_simp" hl:ident : tactic =>
  `(tactic| (simp [toBTop, toB, toBs, sizeStep, opOf, astep, Itv.exact, leafB, evalLeaf, $hl:ident]; rfl))

macro "pred_simp" hc:ident hp:ident : tactic =>
  `(tactic| simp [predictRun, bsq, BComps.ofList, predict, predicts, binit, binits, directB, directBs, evalsOf, evalsOfL,
      quiet, quiets, $hc:ident, $hp:ident, repLog, repLog_nil, Nat.add_comm, Nat.mul_comm])

/-- `real_ls` updates the best individual a second time before the loop. -/
theorem realLs_single (k : Nat) (c : BCond) : SingleLoop (realLsS k) c k 1 := by
  have hl := lsLoop_toB (gen := .NormalMutation) (con := .Saturation) k [c] []
  simp only [realLsS, sq, SComps.ofList, List.cons_append, List.nil_append, evalUpd, l0, lsB] at hl ⊢
  generalize lsLoop _ _ k = L at hl ⊢
  refine ⟨_, by top_simp hl, ?_⟩
  intro F p prior hc hp
  cases prior
  pred_simp hc hp

/-- `real_pso` initialises velocities and bests between the first evaluation and the loop. -/
theorem pso_single (n : Nat) (c : BCond) : SingleLoop (psoS n) c n n := by
  have hl := toB_loop_self (cs := [c]) (cs' := []) (st := [⟨n, some n⟩]) (body := sq ([l0 .ParticleVelocitiesUpdate, l0 .Saturation] ++
      evalUpd ++ [l0 .Linear, sq [l0 .PersonalBestParticlesUpdate, l0 .GlobalBestParticleUpdate], l0 .Logger]))
    (b := bsq [.leaf, .leaf, .eval n, .leaf, .leaf, bsq [.leaf, .leaf], .leaf]) (by simp)
  simp only [psoS, sq, SComps.ofList, List.cons_append, List.nil_append, evalUpd, l0] at hl ⊢
  generalize SComp.loop _ = L at hl ⊢
  refine ⟨_, by top_simp hl, ?_⟩
  intro F p prior hc hp
  cases prior
  pred_simp hc hp

/-- Ant colony: the loop is entered on the empty population; the generation replaces it by `ants + 1` routes (loop
invariant `[0, ants + 1]`, found after one round), all of which are evaluated. -/
theorem aco_single {upd : LeafKind} (ants : Nat) (c : BCond) (hu : Keeps upd := by exact fun _ _ _ => rfl) :
    SingleLoop (acoS upd ants) c (ants + 1) 0 := by
  have hbody : ∀ x : Itv, toB (sq ([.leaf .AcoGeneration ants 0] ++ evalUpd ++ [l0 upd, l0 .Logger])) ([c] : List BCond).tail [x]
      = some (bsq [.leaf, .eval (ants + 1), .leaf, .leaf, .leaf], [⟨ants + 1, some (ants + 1)⟩], []) := fun x => by
    simp [↓hu]
  exact .unevaluated c (toB_loop (loopCheck_aco ants (fun x => by rw [hbody x]; rfl) rfl) (hbody _)) {} (Nat.le_refl 1)

end templates

/-- Evaluations per pass of the loop and before it, where the parameters determine them (not: invasive weed
optimisation — the number of seeds varies, firefly — the position update evaluates by itself, chemical reaction —
one or two molecules react; iterated local search has its own theorem). -/
def budgetOf : Tid → List Nat → Option (Nat × Nat)
  | .real_ga, [n, _] | .binary_ga, [n, _] | .real_de, [n, _] => some (n, n)
  | .real_es, [mu, lam] => some (lam, mu)
  | .real_pso, [n] => some (n, n)
  | .real_sa, [] | .permutation_sa, [_] | .real_rs, [] | .permutation_rs, [] => some (1, 1)
  | .real_ls, [k] | .permutation_ls, [k, _] => some (k, 1)
  | .real_rw, [] | .permutation_rw, [_] => some (1, 0)
  | .real_bh, [n] => some (n + n, n)
  | .ant_system, [ants] | .max_min_ant_system, [ants] => some (ants + 1, 0)
  | _, _ => none

/-- All 16 single-loop templates whose evaluation amounts the parameters determine, at every parameter value. -/
theorem tpl_single_loop_all (name : Tid) (ps : List Nat) (cool : Bool) (t : SComp) (e v0 : Nat) (c : BCond)
    (h : tplT name ps cool = some t) (hb : budgetOf name ps = some (e, v0)) : SingleLoop t c e v0 := by
  revert e v0
  apply tplT_cases (P := fun name ps t => ∀ e v0, budgetOf name ps = some (e, v0) → SingleLoop t c e v0) (h := h)
  case real_ga | binary_ga => intro n ts e v0 hb; cases hb; exact ga_single _ _ c
  case real_es => intro mu lam e v0 hb; cases hb; exact es_single _ _ c
  case real_de => intro n y e v0 hb; cases hb; exact de_single _ _ c
  case real_pso => intro n e v0 hb; cases hb; exact pso_single _ c
  case real_sa => intro e v0 hb; cases hb; exact sa_single c
  case permutation_sa => intro d e v0 hb; cases hb; exact sa_single c
  case real_ls => intro k e v0 hb; cases hb; exact realLs_single _ c
  case permutation_ls => intro k d e v0 hb; cases hb; exact permLs_single _ c
  case real_rs | permutation_rs => intro e v0 hb; cases hb; exact rs_single c
  case real_rw => intro e v0 hb; cases hb; exact rw_single c
  case permutation_rw => intro d e v0 hb; cases hb; exact rw_single c
  case real_bh => intro n e v0 hb; cases hb; exact bh_single _ c
  case ant_system | max_min_ant_system => intro ants e v0 hb; cases hb; exact aco_single _ c
  all_goals intros; contradiction   -- no `budgetOf`: iterated local search, invasive weed, firefly, chemical reaction

end MahfModel.Tpl
