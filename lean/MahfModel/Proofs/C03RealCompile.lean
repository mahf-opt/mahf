/-
C03 over the shipped conditions — the compiled programs `rinitProg` / `rreqProg` / `rexecProg`: the code-shaped
traversals are `rsrun` of them (`rrun_eq`), and side conditions on the tree become side conditions on the program
(`rprog_all`).
-/
import MahfModel.Proofs.C03RealSeq
import MahfModel.Proofs.C03Seq
import MahfModel.Proofs.C03Reg
namespace MahfModel.ConfigReal
open MahfModel.Config

/-! ### The code-shaped interpreter coincides with the structured program -/

theorem rcondPhase_eq (s : Script) (trg : RConds) (f : Nat) (ph : Phase) (c : RCond) :
    ∀ (σ : St), rcondPhase s ph c σ = rsrun s trg f (rcondProg ph c) σ := by
  induction c using RCond.ind with
  | script id => exact fun σ => congrArg (step s (ph, id) · σ) (effOf_nil ph).symm
  | ltN lens n =>
    intro σ
    show (if ph = .cinit then _ else _) = rsrun s trg f (if ph = .cinit then _ else _) σ
    split <;> rfl
  | everyN | chance | all_nil | any_nil => exact fun _ => rfl
  | not c ih => exact ih
  | all_cons c cs ihc ihcs | any_cons c cs ihc ihcs => exact fun σ => andThen_congr (ihc σ) ihcs

theorem rcondsPhase_eq (s : Script) (trg : RConds) (f : Nat) (ph : Phase) :
      ∀ (cs : RConds) (σ : St), rcondsPhase s ph cs σ = rsrun s trg f (rcondsProg ph cs) σ :=
  fun cs => rcondPhase_eq s trg f ph (.all cs)

theorem rinitC_eq (s : Script) (trg : RConds) (f : Nat) (c : RComp) :
    ∀ (σ : St), rinitC s trg c σ = rsrun s trg f (rinitProg c) σ := by
  induction c using RComp.ind with
  | leaf | hold | logger | nil | scope => exact fun _ => rfl
  | cons c cs ihc ihcs => exact fun σ => andThen_congr (ihc σ) ihcs
  | loop c b ih =>
    exact fun σ => show _ = andThen (rsrun s trg f (rcondProg .cinit c) (newCounter σ)) (rsrun s trg f (rinitProg b)) from
      andThen_congr (rcondPhase_eq s trg f .cinit c _) ih
  | branch c t e he iht ihe =>
    exact fun σ => andThen_congr (rcondPhase_eq s trg f .cinit c σ) fun σ1 => andThen_congr (iht σ1) fun σ2 =>
      match he with
      | true => ihe σ2
      | false => rfl

theorem rinitCs_eq (s : Script) (trg : RConds) (f : Nat) :
      ∀ (cs : RComps) (σ : St), rinitCs s trg cs σ = rsrun s trg f (rinitProgs cs) σ :=
  fun cs => rinitC_eq s trg f (.block cs)

theorem rreqC_eq (s : Script) (trg : RConds) (f : Nat) (c : RComp) :
    ∀ (σ : St), rreqC s c σ = rsrun s trg f (rreqProg c) σ := by
  induction c using RComp.ind with
  | leaf | hold | logger | nil | scope => exact fun _ => rfl
  | cons c cs ihc ihcs => exact fun σ => andThen_congr (ihc σ) ihcs
  | loop c b ih => exact fun σ => andThen_congr (rcondPhase_eq s trg f .creq c σ) ih
  | branch c t e he iht ihe =>
    exact fun σ => andThen_congr (rcondPhase_eq s trg f .creq c σ) fun σ1 => andThen_congr (iht σ1) fun σ2 =>
      match he with
      | true => ihe σ2
      | false => rfl

theorem rreqCs_eq (s : Script) (trg : RConds) (f : Nat) :
      ∀ (cs : RComps) (σ : St), rreqCs s cs σ = rsrun s trg f (rreqProgs cs) σ :=
  fun cs => rreqC_eq s trg f (.block cs)

theorem rloopN_eq_rwhileN (cond : St → St × RCRes) (body body' : St → St × Res)
    (h : ∀ σ, body' σ = andThen (body σ) bump) :
    ∀ (n : Nat) (σ : St), rloopN cond body n σ = rwhileN cond body' n σ := by
  intro n
  induction n with
  | zero => exact fun _ => rfl
  | succ n ih =>
    intro σ
    rw [rloopN_succ, rwhileN_succ]
    refine rcthen_congr fun b σ1 => ?_
    cases b
    · rfl
    · exact andThen_congr (h σ1).symm ih

theorem rexec_eq (s : Script) (trg : RConds) (f : Nat) (c : RComp) :
    ∀ (σ : St), rexec s trg f c σ = rsrun s trg f (rexecProg c) σ := by
  induction c using RComp.ind with
  | leaf | hold | logger | nil => exact fun _ => rfl
  | cons c cs ihc ihcs => exact fun σ => andThen_congr (ihc σ) ihcs
  | loop c b ih =>
    exact fun σ => andThen_congr (rcondPhase_eq s trg f .cinit c σ) fun σ1 =>
      rloopN_eq_rwhileN _ _ (rsrun s trg f (.seq (rexecProg b) (.atom .bump)))
        (fun σ2 => (andThen_congr (ih σ2) fun _ => rfl).symm) f σ1
  | branch c t e he iht ihe =>
    intro σ
    rw [rexec_branch, rexecProg, rsrun_ite]
    refine rcthen_congr fun b σ1 => ?_
    cases b
    · cases he
      · rfl
      · exact ihe σ1
    · exact iht σ1
  | scope b ih =>
    exact fun σ => congrArg (fun x : St × Res => (pop x.1, x.2)) <|
      andThen_congr (rinitC_eq s trg f b _) fun σ1 => andThen_congr (rreqC_eq s trg f b σ1) ih

theorem rexecs_eq (s : Script) (trg : RConds) (f : Nat) :
      ∀ (cs : RComps) (σ : St), rexecs s trg f cs σ = rsrun s trg f (rexecProgs cs) σ :=
  fun cs => rexec_eq s trg f (.block cs)

theorem rrun_eq (s : Script) (trg : RConds) (f : Nat) (c : RComp) (σ : St) :
    rrun s trg f c σ = rsrun s trg f (rprog c) σ :=
  andThen_congr (rinitC_eq s trg f c σ) fun σ1 => andThen_congr (rreqC_eq s trg f c σ1) (rexec_eq s trg f c)

/-! ### From side conditions on the tree to side conditions on its program -/

theorem rcondProg_all (φ : ROp → Bool) (hp : ∀ ev, φ (.prim ev []) = true) (h0 : ∀ l, φ (.progress0 l) = true)
    (ph : Phase) (c : RCond) : (rcondProg ph c).all φ = true := by
  induction c using RCond.ind with
  | script id => exact hp (ph, id)
  | ltN lens n => rw [rcondProg]; split; exact h0 lens; rfl
  | everyN | chance | all_nil | any_nil => rfl
  | not c ih => exact ih
  | all_cons c cs ihc ihcs | any_cons c cs ihc ihcs => exact RStmt.all_seq ihc ihcs

theorem rcondsProg_all (φ : ROp → Bool) (hp : ∀ ev, φ (.prim ev []) = true) (h0 : ∀ l, φ (.progress0 l) = true)
      (ph : Phase) : ∀ (cs : RConds), (rcondsProg ph cs).all φ = true :=
  fun cs => rcondProg_all φ hp h0 ph (.all cs)

theorem rcondProg_sat (A : Act → Bool) (H : Nat → Bool) (ph : Phase) (c : RCond) :
    (rcondProg ph c).all (ROp.sat A H) = true :=
  rcondProg_all _ (fun _ => rfl) (fun _ => rfl) ph c

theorem rinitProg_all (A : Act → Bool) (H : Nat → Bool) (c : RComp) :
    c.sat A H = true → (rinitProg c).all (ROp.sat A H) = true := by
  induction c using RComp.ind with
  | leaf => exact id
  | hold => exact fun h => (Bool.and_eq_true_iff.mp h).2
  | logger | nil | scope => exact fun _ => rfl
  | cons c cs ihc ihcs =>
    intro h
    have h := Bool.and_eq_true_iff.mp h
    exact RStmt.all_seq (ihc h.1) (ihcs h.2)
  | loop c b ih => exact fun h => RStmt.all_seq rfl (RStmt.all_seq (rcondProg_sat A H _ c) (ih h))
  | branch c t e he iht ihe =>
    intro h
    have h := Bool.and_eq_true_iff.mp h
    exact RStmt.all_seq (rcondProg_sat A H _ c) (RStmt.all_seq (iht h.1) (match he, h.2 with
      | true, h2 => ihe h2
      | false, _ => rfl))

theorem rinitProgs_all (A : Act → Bool) (H : Nat → Bool) :
      ∀ (cs : RComps), cs.sat A H = true → (rinitProgs cs).all (ROp.sat A H) = true :=
  fun cs => rinitProg_all A H (.block cs)

theorem rreqProg_all (A : Act → Bool) (H : Nat → Bool) (c : RComp) :
    c.sat A H = true → (rreqProg c).all (ROp.sat A H) = true := by
  induction c using RComp.ind with
  | leaf => exact id
  | hold => exact fun h => (Bool.and_eq_true_iff.mp h).2
  | logger | nil | scope => exact fun _ => rfl
  | cons c cs ihc ihcs =>
    intro h
    have h := Bool.and_eq_true_iff.mp h
    exact RStmt.all_seq (ihc h.1) (ihcs h.2)
  | loop c b ih => exact fun h => RStmt.all_seq (rcondProg_sat A H _ c) (ih h)
  | branch c t e he iht ihe =>
    intro h
    have h := Bool.and_eq_true_iff.mp h
    exact RStmt.all_seq (rcondProg_sat A H _ c) (RStmt.all_seq (iht h.1) (match he, h.2 with
      | true, h2 => ihe h2
      | false, _ => rfl))

theorem rreqProgs_all (A : Act → Bool) (H : Nat → Bool) :
      ∀ (cs : RComps), cs.sat A H = true → (rreqProgs cs).all (ROp.sat A H) = true :=
  fun cs => rreqProg_all A H (.block cs)

theorem rexecProg_all (A : Act → Bool) (H : Nat → Bool) (c : RComp) :
    c.sat A H = true → (rexecProg c).all (ROp.sat A H) = true := by
  induction c using RComp.ind with
  | leaf | hold => exact id
  | logger | nil => exact fun _ => rfl
  | cons c cs ihc ihcs =>
    intro h
    have h := Bool.and_eq_true_iff.mp h
    exact RStmt.all_seq (ihc h.1) (ihcs h.2)
  | loop c b ih => exact fun h => RStmt.all_seq (rcondProg_sat A H _ c) (RStmt.all_seq (ih h) rfl)
  | branch _ t e he iht ihe =>
    intro h
    have h := Bool.and_eq_true_iff.mp h
    exact Bool.and_eq_true_iff.mpr ⟨iht h.1, match he, h.2 with
      | true, h2 => ihe h2
      | false, _ => rfl⟩
  | scope b ih => exact fun h => RStmt.all_seq (rinitProg_all A H b h) (RStmt.all_seq (rreqProg_all A H b h) (ih h))

theorem rexecProgs_all (A : Act → Bool) (H : Nat → Bool) :
      ∀ (cs : RComps), cs.sat A H = true → (rexecProgs cs).all (ROp.sat A H) = true :=
  fun cs => rexecProg_all A H (.block cs)

theorem rprog_all (A : Act → Bool) (H : Nat → Bool) (c : RComp) (h : c.sat A H = true) :
    (rprog c).all (ROp.sat A H) = true :=
  RStmt.all_seq (rinitProg_all A H c h) (RStmt.all_seq (rreqProg_all A H c h) (rexecProg_all A H c h))

end MahfModel.ConfigReal
