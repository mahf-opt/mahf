/-
C03 — the registry: scopes as association lists, the operations that search innermost-first, and the column of a
key (`Reg.col`: what each scope holds under it), on which every operation is one list operation (`col_insert`,
`col_setv`, `col_remove`; the increment of the counter is a `setv`, `Reg.incr_eq`). What the actions of a leaf and the
exports of a merge hook do is a fold of these operations (`applyActs_pres`, `exportKeys_pres`).
-/
import MahfModel.Model.Config
namespace MahfModel.Config

theorem Scope.has_cons (e : Nat × Nat) (m : Scope) (k : Nat) : Scope.has (e :: m) k = (e.1 == k || m.has k) := rfl

theorem Scope.get?_cons (e : Nat × Nat) (m : Scope) (k : Nat) :
    Scope.get? (e :: m) k = if e.1 = k then some e.2 else m.get? k := by
  unfold Scope.get?; rw [List.find?_cons]
  by_cases h : e.1 = k
  · rw [if_pos h, beq_iff_eq.mpr h]; rfl
  · rw [if_neg h, beq_eq_false_iff_ne.mpr h]

theorem Scope.erase_cons (e : Nat × Nat) (m : Scope) (k : Nat) :
    Scope.erase (e :: m) k = if e.1 = k then m.erase k else e :: m.erase k := by
  unfold Scope.erase; rw [List.filter_cons]
  by_cases h : e.1 = k
  · rw [if_pos h, if_neg (by simp [h])]
  · rw [if_neg h, if_pos (by simp [h])]

theorem Scope.has_iff_get (m : Scope) (k : Nat) : m.has k = (m.get? k).isSome := by
  rw [Scope.has, Scope.get?, Option.isSome_map, Bool.eq_iff_iff, List.any_eq_true, List.find?_isSome]

theorem Scope.get_erase (m : Scope) (k k' : Nat) :
    (m.erase k).get? k' = if k = k' then none else m.get? k' := by
  induction m with
  | nil => exact (ite_self _).symm
  | cons e m ih =>
    rw [Scope.erase_cons]
    by_cases hkk : k = k'
    · rw [if_pos hkk] at ih ⊢
      by_cases h : e.1 = k
      · rw [if_pos h, ih]
      · rw [if_neg h, Scope.get?_cons, if_neg (hkk ▸ h), ih]
    · rw [if_neg hkk] at ih ⊢
      by_cases h : e.1 = k
      · rw [if_pos h, ih, Scope.get?_cons, if_neg (h ▸ hkk)]
      · rw [if_neg h, Scope.get?_cons, Scope.get?_cons, ih]

theorem Scope.get_put (m : Scope) (k v k' : Nat) :
    (m.put k v).get? k' = if k = k' then some v else m.get? k' := by
  unfold Scope.put; rw [Scope.get?_cons, Scope.get_erase]
  split <;> rfl

theorem Scope.has_put (m : Scope) (k v k' : Nat) : (m.put k v).has k' = (k == k' || m.has k') := by
  rw [Scope.has_iff_get, Scope.has_iff_get, Scope.get_put]
  by_cases h : k = k' <;> simp [h]

theorem Scope.has_erase (m : Scope) (k k' : Nat) : (m.erase k).has k' = (k != k' && m.has k') := by
  rw [Scope.has_iff_get, Scope.has_iff_get, Scope.get_erase]
  by_cases h : k = k' <;> simp [h]

/-- Apply `g` to the first entry of a column that is there. -/
def modFirst (g : Nat → Option Nat) : List (Option Nat) → List (Option Nat)
  | [] => []
  | some v :: l => g v :: l
  | none :: l => none :: modFirst g l

/-- The entry a lookup finds. -/
abbrev firstSome (l : List (Option Nat)) : Option Nat := l.findSome? id

theorem firstSome_modFirst (g : Nat → Nat) (l : List (Option Nat)) :
    firstSome (modFirst (fun v => some (g v)) l) = (firstSome l).map g := by
  induction l with
  | nil => rfl
  | cons x l ih => cases x; exact ih; rfl

theorem modFirst_of_none {l : List (Option Nat)} (h : firstSome l = none) (g : Nat → Option Nat) : modFirst g l = l := by
  induction l with
  | nil => rfl
  | cons x l ih =>
    cases x with
    | none => exact congrArg (none :: ·) (ih h)
    | some v => cases h

theorem firstSome_put {l : List (Option Nat)} (h : l ≠ []) (v : Nat) : firstSome (l.set 0 (some v)) = some v := by
  cases l with
  | nil => exact absurd rfl h
  | cons => rfl

namespace Reg

theorem get?_cons (m : Scope) (r : Reg) (k : Nat) : get? (m :: r) k = (m.get? k).or (r.get? k) := by
  rw [get?, Scope.has_iff_get]; cases m.get? k <;> rfl

theorem length_insert (r : Reg) (k v : Nat) : (r.insert k v).length = r.length := by
  cases r <;> rfl
theorem length_setv (r : Reg) (k v : Nat) : (r.setv k v).length = r.length := by
  -- cases: empty registry; the innermost scope has the key; it has not
  fun_induction setv r k v with
  | case1 | case2 => rfl
  | case3 m r k v _ ih => exact congrArg (· + 1) ih
theorem length_remove (r : Reg) (k : Nat) : (r.remove k).length = r.length := by
  -- cases: empty registry; the innermost scope has the key; it has not
  fun_induction remove r k with
  | case1 | case2 => rfl
  | case3 m r k _ ih => exact congrArg (· + 1) ih

theorem incr_cons (m : Scope) (r : Reg) :
    incr (m :: r) = match m.get? 0 with
      | some v => some (m.put 0 (v + 1) :: r)
      | none => (incr r).map (m :: ·) := by
  rw [incr]; cases m.get? 0 <;> simp only; cases incr r <;> rfl

theorem contains_iff_get (r : Reg) (k : Nat) : r.contains k = (r.get? k).isSome := by
  induction r with
  | nil => rfl
  | cons m r ih => rw [contains, get?_cons, ih, Scope.has_iff_get]; cases m.get? k <;> rfl

/-- The column of `k`: what each scope, innermost first, holds under `k`. Every operation of the registry is one
list operation on the column of its key and leaves the other columns alone. -/
def col (r : Reg) (k : Nat) : List (Option Nat) := r.map (·.get? k)

theorem get?_eq_col (r : Reg) (k : Nat) : r.get? k = firstSome (col r k) := by
  induction r with
  | nil => rfl
  | cons m r ih => rw [get?_cons, ih]; show _ = firstSome (m.get? k :: col r k); cases m.get? k <;> rfl

theorem col_insert (r : Reg) (k v k' : Nat) :
    col (r.insert k v) k' = if k = k' then (col r k').set 0 (some v) else col r k' := by
  cases r with
  | nil => exact (ite_self _).symm
  | cons m r =>
    show (m.put k v).get? k' :: col r k' = _
    rw [Scope.get_put]; split <;> rfl

/-- `op` searches for the innermost scope that has `k` and rewrites it by `g`. -/
theorem col_search (g : Scope → Scope) (k k' : Nat) (f : Nat → Option Nat)
    (hg : ∀ m v, m.get? k = some v → (g m).get? k' = if k = k' then f v else m.get? k')
    (op : Reg → Reg) (hop : ∀ m r, op (m :: r) = if m.has k then g m :: r else m :: op r) (h0 : op [] = []) (r : Reg) :
    col (op r) k' = if k = k' then modFirst f (col r k') else col r k' := by
  induction r with
  | nil => rw [h0]; exact (ite_self _).symm
  | cons m r ih =>
    rw [hop, Scope.has_iff_get]
    cases hm : m.get? k with
    | some v =>
      show (g m).get? k' :: col r k' = _
      rw [hg m v hm]; split
      · rename_i h; subst h; show _ = modFirst f (m.get? k :: col r k); rw [hm]; rfl
      · rfl
    | none =>
      show m.get? k' :: col (op r) k' = _
      rw [ih]; split
      · rename_i h; subst h; show _ = modFirst f (m.get? k :: col r k); rw [hm]; rfl
      · rfl

theorem col_setv (r : Reg) (k v k' : Nat) :
    col (r.setv k v) k' = if k = k' then modFirst (fun _ => some v) (col r k') else col r k' :=
  col_search (·.put k v) k k' _ (fun m _ _ => Scope.get_put m k v k') (·.setv k v) (fun _ _ => rfl) rfl r

theorem col_remove (r : Reg) (k k' : Nat) :
    col (r.remove k) k' = if k = k' then modFirst (fun _ => none) (col r k') else col r k' :=
  col_search (·.erase k) k k' _ (fun m _ _ => Scope.get_erase m k k') (·.remove k) (fun _ _ => rfl) rfl r

theorem get_insert (r : Reg) (k v k' : Nat) (hr : r ≠ []) :
    (r.insert k v).get? k' = if k = k' then some v else r.get? k' := by
  rw [get?_eq_col, get?_eq_col, col_insert]; split
  · exact firstSome_put (fun e => hr (List.map_eq_nil_iff.mp e)) v
  · rfl

theorem get_insert_ne (r : Reg) (k v k' : Nat) (h : k ≠ k') : (r.insert k v).get? k' = r.get? k' := by
  rw [get?_eq_col, get?_eq_col, col_insert, if_neg h]

theorem get_setv_ne (r : Reg) (k v k' : Nat) (h : k ≠ k') : (r.setv k v).get? k' = r.get? k' := by
  rw [get?_eq_col, get?_eq_col, col_setv, if_neg h]

theorem get_setv_same (r : Reg) (k v : Nat) :
    (r.setv k v).get? k = if (r.get? k).isSome then some v else none := by
  rw [get?_eq_col, get?_eq_col, col_setv, if_pos rfl, firstSome_modFirst]; cases firstSome (col r k) <;> rfl

theorem get_remove_ne (r : Reg) (k k' : Nat) (h : k ≠ k') : (r.remove k).get? k' = r.get? k' := by
  rw [get?_eq_col, get?_eq_col, col_remove, if_neg h]

theorem setv_of_get_none (r : Reg) (k v : Nat) (h : r.get? k = none) : r.setv k v = r := by
  induction r with
  | nil => rfl
  | cons m r ih =>
    rw [get?_cons, Option.or_eq_none_iff] at h
    rw [setv, Scope.has_iff_get, h.1, ih h.2]; rfl

theorem remove_of_get_none (r : Reg) (k : Nat) (h : r.get? k = none) : r.remove k = r := by
  induction r with
  | nil => rfl
  | cons m r ih =>
    rw [get?_cons, Option.or_eq_none_iff] at h
    rw [remove, Scope.has_iff_get, h.1, ih h.2]; rfl

theorem incr_eq (r : Reg) : r.incr = (r.get? 0).map fun v => r.setv 0 (v + 1) := by
  induction r with
  | nil => rfl
  | cons m r ih =>
    have hs : ∀ v, setv (m :: r) 0 v = if (m.get? 0).isSome then m.put 0 v :: r else m :: setv r 0 v :=
      fun _ => by rw [setv, Scope.has_iff_get]
    rw [incr_cons, get?_cons, funext hs, ih]
    cases m.get? 0 with
    | some v => rfl
    | none => cases get? r 0 <;> rfl

theorem incr_some {r r' : Reg} (h : r.incr = some r') : ∃ v, r.get? 0 = some v ∧ r' = r.setv 0 (v + 1) := by
  rw [incr_eq] at h
  obtain ⟨v, hv, rfl⟩ := Option.map_eq_some_iff.mp h
  exact ⟨v, hv, rfl⟩

theorem length_incr (r r' : Reg) (h : r.incr = some r') : r'.length = r.length := by
  obtain ⟨v, _, rfl⟩ := incr_some h; exact length_setv r 0 _

theorem get_incr (r r' : Reg) (k : Nat) (h : r.incr = some r') :
    r'.get? k = if k = 0 then (r.get? 0).map (· + 1) else r.get? k := by
  obtain ⟨v, hv, rfl⟩ := incr_some h
  split
  · rename_i hk; subst hk; rw [get_setv_same, hv]; rfl
  · rename_i hk; exact get_setv_ne r 0 _ k (Ne.symm hk)

theorem incr_isSome_iff (r : Reg) : r.incr.isSome = (r.get? 0).isSome := by
  rw [incr_eq, Option.isSome_map]

end Reg

theorem ne_nil_of_len {r r' : Reg} (h : r'.length = r.length) (hne : r ≠ []) : r' ≠ [] := by
  rintro rfl; cases r with
  | nil => exact hne rfl
  | cons _ _ => cases h

/-! ### The actions of a leaf and the exports of a merge hook: folds of the registry operations -/

theorem effOf_nil (ph : Phase) : effOf ph [] = some := by
  funext r; cases ph <;> rfl

theorem applyActs_pres {R : Reg → Reg → Prop} (hrefl : ∀ r, R r r) (htr : ∀ a b c, R a b → R b c → R a c)
    {A : Act → Bool} {ph : Phase} (ha : ∀ a, A a = true → ∀ r, R r (a.apply ph r))
    (acts : List Act) (h : acts.all A = true) (r : Reg) : R r (applyActs ph acts r) :=
  List.foldlRecOn acts _ (hrefl r) fun b hb a hm => htr _ _ _ hb (ha a (List.all_eq_true.1 h a hm) b)

theorem effOf_pres {R : Reg → Reg → Prop} (hrefl : ∀ r, R r r) {acts : List Act}
    (ha : ∀ ph r, R r (applyActs ph acts r)) {ph : Phase} {r r' : Reg} (h : effOf ph acts r = some r') : R r r' := by
  cases ph
  case init => exact Option.some.inj h ▸ ha .init r
  case exec => exact Option.some.inj h ▸ ha .exec r
  case req =>
    simp only [effOf, needEff] at h
    split at h
    · exact Option.some.inj h ▸ hrefl r
    · cases h
  all_goals exact Option.some.inj h ▸ hrefl r

theorem exportKeys_pres {Q : Reg → Prop} (m : Scope) (mg : List (Nat × Nat))
    (hQ : ∀ b v p, b ∈ mg.map (·.2) → Q p → Q (p.insert b v)) (p : Reg) (hp : Q p) : Q (exportKeys m mg p) :=
  List.foldlRecOn mg _ hp fun p hp ab hab => by
    cases m.get? ab.1 with
    | none => exact hp
    | some v => exact hQ ab.2 v p (List.mem_map_of_mem hab) hp

theorem length_apply (ph : Phase) (a : Act) (r : Reg) : (a.apply ph r).length = r.length := by
  cases a <;> simp only [Act.apply] <;> (try split) <;>
    first | rfl | exact Reg.length_insert _ _ _ | exact Reg.length_setv _ _ _ | exact Reg.length_remove _ _

theorem length_applyActs (ph : Phase) (acts : List Act) (r : Reg) :
    (applyActs ph acts r).length = r.length :=
  applyActs_pres (R := fun r r' => r'.length = r.length) (A := fun _ => true) (fun _ => rfl)
    (fun _ _ _ h1 h2 => h2.trans h1) (fun a _ r => length_apply ph a r) acts
    (List.all_eq_true.mpr fun _ _ => rfl) r

theorem effOf_length (ph : Phase) (acts : List Act) (r r' : Reg) (h : effOf ph acts r = some r') :
    r'.length = r.length :=
  effOf_pres (R := fun r r' => r'.length = r.length) (fun _ => rfl) (fun ph r => length_applyActs ph acts r) h

theorem exportKeys_length (m : Scope) (mg : List (Nat × Nat)) (p : Reg) :
    (exportKeys m mg p).length = p.length :=
  exportKeys_pres (Q := (·.length = p.length)) m mg (fun _ _ _ _ h => (Reg.length_insert _ _ _).trans h) p rfl

theorem exportKeys_nil (m : Scope) (mg : List (Nat × Nat)) : exportKeys m mg [] = [] :=
  List.eq_nil_of_length_eq_zero (exportKeys_length m mg [])

theorem mergeEff_length (mg : List (Nat × Nat)) (r r' : Reg) (h : mergeEff mg r = some r') :
    r'.length = r.length := by
  cases r with
  | nil => cases h; rfl
  | cons m p => cases h; exact congrArg (· + 1) (exportKeys_length m mg p)

theorem mergeEff_nil (r : Reg) : mergeEff [] r = some r := by
  cases r <;> rfl

theorem mergeEff_of_isEmpty {mg : List (Nat × Nat)} {r r' : Reg} (hmg : mg.isEmpty = true)
    (h : mergeEff mg r = some r') : r' = r := by
  rw [List.isEmpty_iff.mp hmg, mergeEff_nil] at h
  exact (Option.some.inj h).symm

end MahfModel.Config
