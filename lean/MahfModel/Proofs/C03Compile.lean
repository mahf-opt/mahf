/-
C03 — the compiled programs `initProg` / `reqProg` / `execProg`, by one walk over the tree each: the code-shaped
traversals are `srun` of them (`run_eq`); side conditions on the tree become side conditions on the program
(`prog_all`); and what the three static analyses `Stmt.straight` (the events of a straight-line program), `Stmt.ctr` /
`Stmt.flat` (where the loop counters are) say of them.
-/
import MahfModel.Proofs.C03Seq
import MahfModel.Proofs.C03Reg
namespace MahfModel.Config

/-! ### The code-shaped interpreter coincides with the structured program

Both sides unfold to the same `andThen` chains, so each case is the congruence of its parts. -/

theorem condPhase_eq (s : Script) (f : Nat) (ph : Phase) (c : Cond) :
    ∀ (σ : St), condPhase s ph c σ = srun s f (condProg ph c) σ := by
  induction c using Cond.ind with
  | leaf id => exact fun σ => congrArg (step s (ph, id) · σ) (effOf_nil ph).symm
  | not c ih => exact ih
  | all_nil | any_nil => exact fun _ => rfl
  | all_cons c cs ihc ihcs | any_cons c cs ihc ihcs => exact fun σ => andThen_congr (ihc σ) ihcs

theorem condsPhase_eq (s : Script) (f : Nat) (ph : Phase) :
      ∀ (cs : Conds) (σ : St), condsPhase s ph cs σ = srun s f (condsProg ph cs) σ :=
  fun cs => condPhase_eq s f ph (.all cs)

theorem initC_eq (s : Script) (f : Nat) (c : Comp) : ∀ (σ : St), initC s c σ = srun s f (initProg c) σ := by
  induction c using Comp.ind with
  | leaf | nil | scope | scopeW => exact fun _ => rfl
  | cons c cs ihc ihcs => exact fun σ => andThen_congr (ihc σ) ihcs
  | loop c b ih =>
    exact fun σ => show _ = andThen (srun s f (condProg .cinit c) (newCounter σ)) (srun s f (initProg b)) from
      andThen_congr (condPhase_eq s f .cinit c _) ih
  | branch c t e he iht ihe =>
    exact fun σ => andThen_congr (condPhase_eq s f .cinit c σ) fun σ1 => andThen_congr (iht σ1) fun σ2 =>
      match he with
      | true => ihe σ2
      | false => rfl

theorem initCs_eq (s : Script) (f : Nat) :
      ∀ (cs : Comps) (σ : St), initCs s cs σ = srun s f (initProgs cs) σ :=
  fun cs => initC_eq s f (.block cs)

theorem reqC_eq (s : Script) (f : Nat) (c : Comp) : ∀ (σ : St), reqC s c σ = srun s f (reqProg c) σ := by
  induction c using Comp.ind with
  | leaf | nil | scope | scopeW => exact fun _ => rfl
  | cons c cs ihc ihcs => exact fun σ => andThen_congr (ihc σ) ihcs
  | loop c b ih => exact fun σ => andThen_congr (condPhase_eq s f .creq c σ) ih
  | branch c t e he iht ihe =>
    exact fun σ => andThen_congr (condPhase_eq s f .creq c σ) fun σ1 => andThen_congr (iht σ1) fun σ2 =>
      match he with
      | true => ihe σ2
      | false => rfl

theorem reqCs_eq (s : Script) (f : Nat) :
      ∀ (cs : Comps) (σ : St), reqCs s cs σ = srun s f (reqProgs cs) σ :=
  fun cs => reqC_eq s f (.block cs)

/-- The loop of the code (`body; counter += 1` inlined) is the structured `while` over
`body; bump`. -/
theorem loopN_eq_whileN (cond : St → St × CRes) (body body' : St → St × Res)
    (h : ∀ σ, body' σ = andThen (body σ) bump) :
    ∀ (n : Nat) (σ : St), loopN cond body n σ = whileN cond body' n σ := by
  intro n
  induction n with
  | zero => exact fun _ => rfl
  | succ n ih =>
    intro σ
    rw [loopN, whileN]
    split <;> try rfl
    rw [h]
    exact andThen_congr rfl ih

/-- Restoring the registry and then merging (what the code does) is merging as the last statement
inside the still-open scope and then closing it (what the structured program does). -/
theorem closeMerge_eq (s : Script) (id : Nat) (mg : List (Nat × Nat)) (x : St × Res) :
    closeMerge s id mg x =
      (pop (andThen x (opRun s (.merge id mg))).1, (andThen x (opRun s (.merge id mg))).2) := by
  obtain ⟨⟨reg, tr⟩, r⟩ := x
  cases r <;> try rfl
  simp only [closeMerge, andThen, opRun, step, pop]
  by_cases hf : s.faulty (Phase.exec, id) (List.count (Phase.exec, id) tr) = true
  · simp only [hf, if_true]
  · cases reg with
    | nil => simp [hf, mergeEff, exportKeys_nil]
    | cons m p => simp [hf, mergeEff]

theorem exec_eq (s : Script) (f : Nat) (c : Comp) : ∀ (σ : St), exec s f c σ = srun s f (execProg c) σ := by
  induction c using Comp.ind with
  | leaf | nil => exact fun _ => rfl
  | cons c cs ihc ihcs => exact fun σ => andThen_congr (ihc σ) ihcs
  | loop c b ih =>
    exact fun σ => andThen_congr (condPhase_eq s f .cinit c σ) fun σ1 =>
      loopN_eq_whileN _ _ (srun s f (.seq (execProg b) (.atom .bump)))
        (fun σ2 => (andThen_congr (ih σ2) fun _ => rfl).symm) f σ1
  | branch c t e he iht ihe =>
    intro σ
    rw [exec_branch, execProg, srun_ite]
    refine cthen_congr fun b σ1 => ?_
    cases b
    · cases he
      · rfl
      · exact ihe σ1
    · exact iht σ1
  | scope b ih =>
    exact fun σ => congrArg (fun x : St × Res => (pop x.1, x.2)) <|
      andThen_congr (initC_eq s f b _) fun σ1 => andThen_congr (reqC_eq s f b σ1) ih
  | scopeW id si mg b ih =>
    intro σ
    rw [exec, closeMerge_eq, andThen_assoc]
    exact congrArg (fun x : St × Res => (pop x.1, x.2)) <| andThen_congr rfl fun σ0 =>
      andThen_congr (andThen_congr (initC_eq s f b σ0) fun σ1 => andThen_congr (reqC_eq s f b σ1) ih) fun _ => rfl

theorem execs_eq (s : Script) (f : Nat) :
      ∀ (cs : Comps) (σ : St), execs s f cs σ = srun s f (execProgs cs) σ :=
  fun cs => exec_eq s f (.block cs)

theorem run_eq (s : Script) (f : Nat) (c : Comp) (σ : St) :
    run s f c σ = srun s f (prog c) σ :=
  andThen_congr (initC_eq s f c σ) fun σ1 => andThen_congr (reqC_eq s f c σ1) (exec_eq s f c)

/-! ### From side conditions on the tree to side conditions on its program -/

theorem condProg_all (A : Act → Bool) (C : Cond → Bool) (L : Bool) (ph : Phase) (hph : ph ≠ .ceval) (c : Cond) :
    (condProg ph c).all (Op.sat A L) C = true := by
  induction c using Cond.ind with
  | leaf id => simp [condProg, Stmt.all, Op.sat, hph]
  | not c ih => exact ih
  | all_nil | any_nil => rfl
  | all_cons c cs ihc ihcs | any_cons c cs ihc ihcs => exact Stmt.all_seq ihc ihcs

theorem condsProg_all (A : Act → Bool) (C : Cond → Bool) (L : Bool) (ph : Phase) (hph : ph ≠ .ceval) :
      ∀ (cs : Conds), (condsProg ph cs).all (Op.sat A L) C = true :=
  fun cs => condProg_all A C L ph hph (.all cs)

theorem initProg_all (A : Act → Bool) (C : Cond → Bool) (L : Bool) (c : Comp) :
    c.sat A C L = true → (initProg c).all (Op.sat A L) C = true := by
  induction c using Comp.ind with
  | leaf => exact id
  | nil | scope | scopeW => exact fun _ => rfl
  | cons c cs ihc ihcs =>
    intro h
    have h := Bool.and_eq_true_iff.mp h
    exact Stmt.all_seq (ihc h.1) (ihcs h.2)
  | loop c b ih =>
    intro h
    have h := Bool.and_eq_true_iff.mp h
    exact Stmt.all_seq (Bool.and_eq_true_iff.mp h.1).1 (Stmt.all_seq (condProg_all A C L .cinit (by decide) c) (ih h.2))
  | branch c t e he iht ihe =>
    intro h
    have h := Bool.and_eq_true_iff.mp h
    exact Stmt.all_seq (condProg_all A C L .cinit (by decide) c)
      (Stmt.all_seq (iht (Bool.and_eq_true_iff.mp h.1).2) (match he, h.2 with
        | true, h2 => ihe h2
        | false, _ => rfl))

theorem initProgs_all (A : Act → Bool) (C : Cond → Bool) (L : Bool) :
      ∀ (cs : Comps), cs.sat A C L = true → (initProgs cs).all (Op.sat A L) C = true :=
  fun cs => initProg_all A C L (.block cs)

theorem reqProg_all (A : Act → Bool) (C : Cond → Bool) (L : Bool) (c : Comp) :
    c.sat A C L = true → (reqProg c).all (Op.sat A L) C = true := by
  induction c using Comp.ind with
  | leaf => exact id
  | nil | scope | scopeW => exact fun _ => rfl
  | cons c cs ihc ihcs =>
    intro h
    have h := Bool.and_eq_true_iff.mp h
    exact Stmt.all_seq (ihc h.1) (ihcs h.2)
  | loop c b ih =>
    exact fun h => Stmt.all_seq (condProg_all A C L .creq (by decide) c) (ih (Bool.and_eq_true_iff.mp h).2)
  | branch c t e he iht ihe =>
    intro h
    have h := Bool.and_eq_true_iff.mp h
    exact Stmt.all_seq (condProg_all A C L .creq (by decide) c)
      (Stmt.all_seq (iht (Bool.and_eq_true_iff.mp h.1).2) (match he, h.2 with
        | true, h2 => ihe h2
        | false, _ => rfl))

theorem reqProgs_all (A : Act → Bool) (C : Cond → Bool) (L : Bool) :
      ∀ (cs : Comps), cs.sat A C L = true → (reqProgs cs).all (Op.sat A L) C = true :=
  fun cs => reqProg_all A C L (.block cs)

theorem execProg_all (A : Act → Bool) (C : Cond → Bool) (L : Bool) (c : Comp) :
    c.sat A C L = true → (execProg c).all (Op.sat A L) C = true := by
  induction c using Comp.ind with
  | leaf => exact id
  | nil => exact fun _ => rfl
  | cons c cs ihc ihcs =>
    intro h
    have h := Bool.and_eq_true_iff.mp h
    exact Stmt.all_seq (ihc h.1) (ihcs h.2)
  | loop c b ih =>
    intro h
    have h := Bool.and_eq_true_iff.mp h
    have h1 := Bool.and_eq_true_iff.mp h.1
    exact Stmt.all_seq (condProg_all A C L .cinit (by decide) c)
      (Bool.and_eq_true_iff.mpr ⟨h1.2, Stmt.all_seq (ih h.2) h1.1⟩)
  | branch c t e he iht ihe =>
    intro h
    have h := Bool.and_eq_true_iff.mp h
    have h1 := Bool.and_eq_true_iff.mp h.1
    exact Bool.and_eq_true_iff.mpr ⟨Bool.and_eq_true_iff.mpr ⟨h1.1, iht h1.2⟩, match he, h.2 with
      | true, h2 => ihe h2
      | false, _ => rfl⟩
  | scope b ih => exact fun h => Stmt.all_seq (initProg_all A C L b h) (Stmt.all_seq (reqProg_all A C L b h) (ih h))
  | scopeW _ _ mg b ih =>
    intro h
    have h := Bool.and_eq_true_iff.mp h
    have h1 := Bool.and_eq_true_iff.mp h.1
    exact Stmt.all_seq h1.2 (Stmt.all_seq (Stmt.all_seq (initProg_all A C L b h.2)
      (Stmt.all_seq (reqProg_all A C L b h.2) (ih h.2))) h1.1)

theorem execProgs_all (A : Act → Bool) (C : Cond → Bool) (L : Bool) :
      ∀ (cs : Comps), cs.sat A C L = true → (execProgs cs).all (Op.sat A L) C = true :=
  fun cs => execProg_all A C L (.block cs)

theorem prog_all (A : Act → Bool) (C : Cond → Bool) (L : Bool) (c : Comp) (h : c.sat A C L = true) :
    (prog c).all (Op.sat A L) C = true :=
  Stmt.all_seq (initProg_all A C L c h) (Stmt.all_seq (reqProg_all A C L c h) (execProg_all A C L c h))

/-! ### The `init` and `require` programs are straight-line -/

/-- The events of a loop-free, branch-free, scope-free program, in order. -/
def Stmt.straight : Stmt → Option (List Ev)
  | .skip => some []
  | .atom (.prim ev _) => some [ev]
  | .atom .counter0 => some []
  | .seq a b =>
    match a.straight, b.straight with
    | some x, some y => some (x ++ y)
    | _, _ => none
  | _ => none

theorem straight_seq {a b : Stmt} {xa xb : List Ev} (ha : a.straight = some xa) (hb : b.straight = some xb) :
    (Stmt.seq a b).straight = some (xa ++ xb) := by
  rw [Stmt.straight, ha, hb]

theorem straight_ite {he : Bool} {p : Stmt} {xs : List Ev} (h : p.straight = some xs) :
    (if he then p else .skip).straight = some (if he then xs else []) := by
  cases he
  · rfl
  · exact h

theorem condProg_straight (ph : Phase) (c : Cond) : (condProg ph c).straight = some (condEvents ph c) := by
  induction c using Cond.ind with
  | leaf | all_nil | any_nil => rfl
  | not c ih => exact ih
  | all_cons c cs ihc ihcs | any_cons c cs ihc ihcs => exact straight_seq ihc ihcs

theorem condsProg_straight (ph : Phase) : ∀ (cs : Conds), (condsProg ph cs).straight = some (condsEvents ph cs) :=
  fun cs => condProg_straight ph (.all cs)

theorem initProg_straight (c : Comp) : (initProg c).straight = some (phaseEvents .init .cinit c) := by
  induction c using Comp.ind with
  | leaf | nil | scope | scopeW => rfl
  | cons c cs ihc ihcs => exact straight_seq ihc ihcs
  | loop c b ih => exact straight_seq (xa := []) rfl (straight_seq (condProg_straight .cinit c) ih)
  | branch c t e he iht ihe =>
    exact (straight_seq (condProg_straight .cinit c) (straight_seq iht (straight_ite ihe))).trans
      (congrArg some (List.append_assoc _ _ _).symm)

theorem initProgs_straight : ∀ (cs : Comps), (initProgs cs).straight = some (phaseEventss .init .cinit cs) :=
  fun cs => initProg_straight (.block cs)

theorem reqProg_straight (c : Comp) : (reqProg c).straight = some (phaseEvents .req .creq c) := by
  induction c using Comp.ind with
  | leaf | nil | scope | scopeW => rfl
  | cons c cs ihc ihcs => exact straight_seq ihc ihcs
  | loop c b ih => exact straight_seq (condProg_straight .creq c) ih
  | branch c t e he iht ihe =>
    exact (straight_seq (condProg_straight .creq c) (straight_seq iht (straight_ite ihe))).trans
      (congrArg some (List.append_assoc _ _ _).symm)

theorem reqProgs_straight : ∀ (cs : Comps), (reqProgs cs).straight = some (phaseEventss .req .creq cs) :=
  fun cs => reqProg_straight (.block cs)

/-! ### Counters and scopes: a static analysis (its soundness, `ctr_sound`, is in `Proofs/C03Counter`)

`Stmt.ctr p h`: abstract run of `p` where `h` means "the innermost scope certainly holds a counter".
`none` means some `bump` might reach a counter of an enclosing scope. -/

def Stmt.ctr : Stmt → Bool → Option Bool
  | .skip, h => some h
  | .atom (.prim _ _), h => some h
  | .atom .counter0, _ => some true
  | .atom .bump, h => if h then some true else none
  | .atom (.merge _ _), h => some h
  | .seq a b, h =>
    match a.ctr h with
    | some h1 => b.ctr h1
    | none => none
  | .loop _ b, h =>
    match b.ctr h with
    | some _ => some h
    | none => none
  | .ite _ t e, h =>
    match t.ctr h, e.ctr h with
    | some _, some _ => some h
    | _, _ => none
  | .inScope b, h =>
    match b.ctr false with
    | some _ => some h
    | none => none

/-- No counter operation outside inner scopes. -/
def Stmt.flat : Stmt → Bool
  | .skip => true
  | .atom (.prim _ _) => true
  | .atom .counter0 => false
  | .atom .bump => false
  | .atom (.merge _ _) => true
  | .seq a b => a.flat && b.flat
  | .loop _ b => b.flat
  | .ite _ t e => t.flat && e.flat
  | .inScope _ => true

theorem ctr_seq {a b : Stmt} {h h1 h2 : Bool} (ha : a.ctr h = some h1) (hb : b.ctr h1 = some h2) :
    (Stmt.seq a b).ctr h = some h2 := by
  rw [Stmt.ctr, ha]; exact hb

theorem condProg_ctr (ph : Phase) (c : Cond) : ∀ (h : Bool), (condProg ph c).ctr h = some h := by
  induction c using Cond.ind with
  | leaf | all_nil | any_nil => exact fun _ => rfl
  | not c ih => exact ih
  | all_cons c cs ihc ihcs | any_cons c cs ihc ihcs => exact fun h => ctr_seq (ihc h) (ihcs h)

theorem condsProg_ctr (ph : Phase) : ∀ (cs : Conds) (h : Bool), (condsProg ph cs).ctr h = some h :=
  fun cs => condProg_ctr ph (.all cs)

theorem condProg_flat (ph : Phase) (c : Cond) : (condProg ph c).flat = true := by
  induction c using Cond.ind with
  | leaf | all_nil | any_nil => rfl
  | not c ih => exact ih
  | all_cons c cs ihc ihcs | any_cons c cs ihc ihcs => exact Bool.and_eq_true_iff.mpr ⟨ihc, ihcs⟩

theorem condsProg_flat (ph : Phase) : ∀ (cs : Conds), (condsProg ph cs).flat = true :=
  fun cs => condProg_flat ph (.all cs)

theorem initProg_ctr (b : Comp) : ∀ (h : Bool), (initProg b).ctr h = some (h || b.hasLoop) := by
  induction b using Comp.ind with
  | leaf | nil | scope | scopeW => exact fun h => congrArg some (Bool.or_false h).symm
  | cons c cs ihc ihcs => exact fun h => (ctr_seq (ihc h) (ihcs _)).trans (congrArg some (Bool.or_assoc _ _ _))
  | loop c b ih =>
    exact fun h => (ctr_seq (h := h) rfl (ctr_seq (condProg_ctr .cinit c true) (ih true))).trans
      (congrArg some (Bool.or_true h).symm)
  | branch c t e he iht ihe =>
    intro h
    cases he
    · exact (ctr_seq (condProg_ctr .cinit c h) (ctr_seq (iht h) rfl)).trans
        (congrArg some (congrArg (h || ·) (Bool.or_false _).symm))
    · exact (ctr_seq (condProg_ctr .cinit c h) (ctr_seq (iht h) (ihe _))).trans (congrArg some (Bool.or_assoc _ _ _))

theorem initProgs_ctr : ∀ (cs : Comps) (h : Bool), (initProgs cs).ctr h = some (h || cs.hasLoop) :=
  fun cs => initProg_ctr (.block cs)

theorem reqProg_ctr (b : Comp) : ∀ (h : Bool), (reqProg b).ctr h = some h := by
  induction b using Comp.ind with
  | leaf | nil | scope | scopeW => exact fun _ => rfl
  | cons c cs ihc ihcs => exact fun h => ctr_seq (ihc h) (ihcs h)
  | loop c b ih => exact fun h => ctr_seq (condProg_ctr .creq c h) (ih h)
  | branch c t e he iht ihe =>
    exact fun h => ctr_seq (condProg_ctr .creq c h) (ctr_seq (iht h) (match he with
      | true => ihe h
      | false => rfl))

theorem reqProgs_ctr : ∀ (cs : Comps) (h : Bool), (reqProgs cs).ctr h = some h :=
  fun cs => reqProg_ctr (.block cs)

theorem ctr_inScope {b : Stmt} {h h1 : Bool} (hb : b.ctr false = some h1) : (Stmt.inScope b).ctr h = some h := by
  rw [Stmt.ctr, hb]

theorem prog_ctr_of_exec {b : Comp} (hb : (execProg b).ctr b.hasLoop = some b.hasLoop) :
    (prog b).ctr false = some b.hasLoop :=
  ctr_seq (initProg_ctr b false) (ctr_seq (reqProg_ctr b _) ((Bool.false_or b.hasLoop).symm ▸ hb))

theorem execProg_ctr (b : Comp) : ∀ (h : Bool), (b.hasLoop = true → h = true) → (execProg b).ctr h = some h := by
  induction b using Comp.ind with
  | leaf | nil => exact fun _ _ => rfl
  | cons c cs ihc ihcs =>
    intro h hh
    have hh : c.hasLoop = true ∨ cs.hasLoop = true → h = true := fun x => hh (Bool.or_eq_true_iff.mpr x)
    exact ctr_seq (ihc h fun x => hh (Or.inl x)) (ihcs h fun x => hh (Or.inr x))
  | loop c b ih =>
    intro h hh
    obtain rfl : h = true := hh rfl
    refine ctr_seq (condProg_ctr .cinit c true) ?_
    rw [Stmt.ctr, ctr_seq (ih true fun _ => rfl) (h2 := true) rfl]
  | branch c t e he iht ihe =>
    intro h hh
    cases he
    · have hh : t.hasLoop = true → h = true := fun x => hh (Bool.or_eq_true_iff.mpr (Or.inl x))
      rw [execProg, Stmt.ctr, iht h hh]; rfl
    · have hh : t.hasLoop = true ∨ e.hasLoop = true → h = true := fun x => hh (Bool.or_eq_true_iff.mpr x)
      rw [execProg, Stmt.ctr, iht h fun x => hh (Or.inl x), if_pos rfl, ihe h fun x => hh (Or.inr x)]
  | scope b ih => exact fun _ _ => ctr_inScope (prog_ctr_of_exec (ih b.hasLoop fun x => x))
  | scopeW id si mg b ih =>
    exact fun _ _ => ctr_inScope (ctr_seq (h1 := false) rfl
      (ctr_seq (prog_ctr_of_exec (ih b.hasLoop fun x => x)) (h2 := b.hasLoop) rfl))

theorem execProgs_ctr : ∀ (cs : Comps) (h : Bool), (cs.hasLoop = true → h = true) → (execProgs cs).ctr h = some h :=
  fun cs => execProg_ctr (.block cs)

theorem prog_ctr (b : Comp) : (prog b).ctr false = some b.hasLoop :=
  prog_ctr_of_exec (execProg_ctr b b.hasLoop fun x => x)

theorem execProg_flat (b : Comp) : b.hasLoop = false → (execProg b).flat = true := by
  induction b using Comp.ind with
  | leaf | nil | scope | scopeW => exact fun _ => rfl
  | cons c cs ihc ihcs =>
    intro h
    have h := Bool.or_eq_false_iff.mp h
    exact Bool.and_eq_true_iff.mpr ⟨ihc h.1, ihcs h.2⟩
  | loop => exact fun h => nomatch h
  | branch _ t e he iht ihe =>
    intro h
    have h := Bool.or_eq_false_iff.mp h
    exact Bool.and_eq_true_iff.mpr ⟨iht h.1, match he, h.2 with
      | true, h2 => ihe h2
      | false, _ => rfl⟩

theorem execProgs_flat : ∀ (cs : Comps), cs.hasLoop = false → (execProgs cs).flat = true :=
  fun cs => execProg_flat (.block cs)

theorem initProg_flat (b : Comp) : b.hasLoop = false → (initProg b).flat = true := by
  induction b using Comp.ind with
  | leaf | nil | scope | scopeW => exact fun _ => rfl
  | cons c cs ihc ihcs =>
    intro h
    have h := Bool.or_eq_false_iff.mp h
    exact Bool.and_eq_true_iff.mpr ⟨ihc h.1, ihcs h.2⟩
  | loop => exact fun h => nomatch h
  | branch c t e he iht ihe =>
    intro h
    have h := Bool.or_eq_false_iff.mp h
    exact Bool.and_eq_true_iff.mpr ⟨condProg_flat .cinit c, Bool.and_eq_true_iff.mpr ⟨iht h.1, match he, h.2 with
      | true, h2 => ihe h2
      | false, _ => rfl⟩⟩

theorem initProgs_flat : ∀ (cs : Comps), cs.hasLoop = false → (initProgs cs).flat = true :=
  fun cs => initProg_flat (.block cs)

end MahfModel.Config
