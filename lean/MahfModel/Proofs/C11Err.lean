/- C11: the weight-based operators in exact arithmetic (ordered field) — the weights `RouletteWheel` and SUS work with, and
when these two and `ExponentialRank` answer `Err`.  Also the fixed notions and statements that are said over an ordered field
and used by `Props/C11` only: `Evaluated`, `posBetter` (the observable rank bound of a tournament winner), `best_outcome`,
`best_mem`. -/
import MahfModel.Proofs.C11Select
import MahfModel.Proofs.C11Weights
namespace MahfModel.Selection

section
variable {F : Type} [Field F] [LinearOrder F]

/-- every individual of the population carries an objective value -/
def Evaluated (pop : Pop F) : Prop := ∀ x ∈ pop, x.obj.isSome

/-! ### the weights of the non-normalising call -/

/-- Without normalisation there are two shapes: `max - o + offset` (the shifted formula is the same
number), or the constant 1 on all-equal non-positive objectives. -/
theorem propWeights_form (O : Ops F) (objs : List F) (offset : F) (ws : List F)
    (h : proportionalWeights O objs offset false = .ok (some ws)) :
    0 ≤ offset ∧ ∃ mx mn, (∀ o ∈ objs, mn ≤ o ∧ o ≤ mx) ∧ mx ∈ objs ∧ mn ∈ objs ∧
      ((ws = objs.map (fun o => mx - o + offset) ∧ (0 < mn ∨ ¬ allEq objs = true)) ∨
       (¬ 0 < mn ∧ allEq objs = true ∧ ws = List.replicate objs.length 1)) := by
  obtain ⟨hoff, mx, mn, hb, _, rfl⟩ := proportionalWeights_some O objs offset false ws h
  obtain ⟨hrange, hmx, hmn⟩ := objectiveBounds_spec hb
  refine ⟨hoff, mx, mn, hrange, hmx, hmn, ?_⟩
  by_cases h1 : 0 < mn
  · exact .inl ⟨propW_of_pos O objs offset false h1, .inl h1⟩
  by_cases h2 : allEq objs = true
  · exact .inr ⟨h1, h2, propW_of_allEq O offset false h1 h2⟩
  · rw [propW_of_not_allEq O offset false h1 h2, if_neg (by decide)]
    exact .inl ⟨List.map_congr_left fun o _ => shiftW_eq mx mn offset o, .inr h2⟩

/-! ### the sampler: `WeightedIndex::new` on non-negative weights -/

theorem weightedIndexNew_of_nonneg (O : Ops F) (hfin : ∀ x, O.fin x = true) (ws : List F)
    (hnn : ∀ w ∈ ws, 0 ≤ w) :
    weightedIndexNew O ws = if ws = [] ∨ sum ws = 0 then .error .exec else .ok () := by
  unfold weightedIndexNew
  cases ws with
  | nil => simp
  | cons w rest =>
    have hany : (w :: rest).any (fun w => !decide (0 ≤ w)) = false := by
      rw [List.any_eq_false]; intro x hx; simp [hnn x hx]
    simp only [List.isEmpty_cons, Bool.false_eq_true, if_false, hany, hfin, Bool.not_true, reduceCtorEq,
      false_or]
    exact if_congr (eqF_iff _ _) rfl rfl

variable [IsStrictOrderedRing F]

/-! ### `RouletteWheel` and SUS: sign and total of the weights, and when the operators answer `Err` -/

theorem propWeights_nonneg (O : Ops F) (objs : List F) (offset : F) (ws : List F)
    (h : proportionalWeights O objs offset false = .ok (some ws)) : ∀ w ∈ ws, 0 ≤ w := by
  obtain ⟨hoff, mx, mn, hrange, _, _, hcase⟩ := propWeights_form O objs offset ws h
  rcases hcase with ⟨hw, _⟩ | ⟨_, _, hw⟩ <;> intro w hw' <;> rw [hw] at hw'
  · obtain ⟨o, ho, rfl⟩ := List.mem_map.mp hw'
    exact add_nonneg (sub_nonneg.mpr (hrange o ho).2) hoff
  · rw [List.eq_of_mem_replicate hw']; exact zero_le_one

theorem propWeights_sum_zero_iff (O : Ops F) (objs : List F) (offset : F) (ws : List F)
    (h : proportionalWeights O objs offset false = .ok (some ws)) :
    sum ws = 0 ↔ offset = 0 ∧ ∃ c, 0 < c ∧ ∀ o ∈ objs, o = c := by
  have hnn := propWeights_nonneg O objs offset ws h
  obtain ⟨hoff, mx, mn, hrange, hmx, hmn, hcase⟩ := propWeights_form O objs offset ws h
  rcases hcase with ⟨hw, hk⟩ | ⟨hnpos, hall, hw⟩
  · rw [sum_eq_zero_iff ws hnn, hw]
    constructor
    · intro hz
      -- every weight `max - o + offset` is a sum of two non-negative numbers
      have hall : ∀ o ∈ objs, o = mx ∧ offset = 0 := fun o ho => by
        obtain ⟨e1, e2⟩ := (add_eq_zero_iff_of_nonneg (sub_nonneg.mpr (hrange o ho).2) hoff).mp
          (hz _ (List.mem_map_of_mem ho))
        exact ⟨(sub_eq_zero.mp e1).symm, e2⟩
      have heq : allEq objs = true :=
        (allEq_iff objs).mpr fun a ha b hb' => by rw [(hall a ha).1, (hall b hb').1]
      have hpos : 0 < mn := hk.resolve_right (not_not.mpr heq)
      exact ⟨(hall mx hmx).2, mx, (hall mn hmn).1 ▸ hpos, fun o ho => (hall o ho).1⟩
    · rintro ⟨hoff0, c, _, hallc⟩ w hw'
      obtain ⟨o, ho, rfl⟩ := List.mem_map.mp hw'
      rw [hallc o ho, hallc mx hmx, hoff0, sub_self, add_zero]
  · constructor
    · intro hz
      rw [hw, sum_replicate, mul_one] at hz
      exact absurd (Nat.cast_eq_zero.mp hz) (List.length_pos_of_mem hmx).ne'
    · rintro ⟨_, c, hc, hallc⟩
      exact absurd (hallc mn hmn ▸ hc) hnpos

/-- `RouletteWheel` and SUS on an evaluated population (every value finite, offset in its documented
domain) compute the weights and hand them to a sampler `k`.  The weights exist unless the population
is empty, are non-negative, and their total is zero exactly if the offset is 0 and all objectives are
equal and positive; so if `k` errs exactly on a zero total and never panics, this is when the operator errs. -/
theorem weights_outcome (O : Ops F) (hfin : ∀ x, O.fin x = true) (offset : F) (pop : Pop F)
    (hev : Evaluated pop) (hoff : 0 ≤ offset) (k : List F → Except Err (Pop F))
    (hk : ∀ ws, ws ≠ [] → (∀ w ∈ ws, 0 ≤ w) → ErrIff (k ws) (sum ws = 0)) :
    ErrIff (match objectives pop with
      | none => .error .panic
      | some objs =>
        match proportionalWeights O objs offset false with
        | .error e => .error e
        | .ok none => .error .exec
        | .ok (some ws) => k ws)
      (pop = [] ∨ (offset = 0 ∧ ∃ c, 0 < c ∧ ∀ x ∈ pop, x.obj = some c)) := by
  obtain ⟨objs, h1, h2, h3⟩ := objectives_of_evaluated hev
  have hnone := proportionalWeights_none_iff O objs offset false hoff
  rw [h1]
  dsimp only
  cases hp : proportionalWeights O objs offset false with
  | error e => exact absurd hp (proportionalWeights_ne_error O objs false hoff e)
  | ok ows =>
    cases ows with
    | none =>
      rcases hnone.mp hp with hnil | ⟨mx, _, _, hf⟩
      · subst hnil
        exact .of_err (.inl ((eq_nil_iff_of_length_eq h2).mp rfl))
      · rw [hfin] at hf; cases hf
    | some ws =>
      have hne : objs ≠ [] := fun hc => by rw [hnone.mpr (.inl hc)] at hp; cases hp
      have hlen := proportionalWeights_length_any O objs offset false ws hp
      have hpop : pop ≠ [] := mt (eq_nil_iff_of_length_eq h2).mpr hne
      -- "every objective is `c`", said of the members: `h3` read through `List.forall_mem_map` on both sides
      have hc : ∀ c : F, (∀ o ∈ objs, o = c) ↔ ∀ x ∈ pop, x.obj = some c := fun c => by
        have := List.forall_mem_map (f := some) (l := objs) (P := (· = some c))
        rw [← h3, List.forall_mem_map] at this
        simpa only [Option.some.injEq] using this.symm
      have hz : sum ws = 0 ↔ offset = 0 ∧ ∃ c, 0 < c ∧ ∀ x ∈ pop, x.obj = some c :=
        (propWeights_sum_zero_iff O objs offset ws hp).trans
          (and_congr_right fun _ => exists_congr fun c => and_congr_right fun _ => hc c)
      exact (hk ws (mt (eq_nil_iff_of_length_eq hlen).mp hne)
        (propWeights_nonneg O objs offset ws hp)).congr (hz.trans (or_iff_right hpop).symm)

theorem roulette_outcome (O : Ops F) (hfin : ∀ x, O.fin x = true) (n : Nat) (offset : F) (is : List Nat)
    (pop : Pop F) (hev : Evaluated pop) (hoff : 0 ≤ offset) :
    ErrIff (select O (.rouletteWheel n offset) (.idx is) pop)
      (pop = [] ∨ (offset = 0 ∧ ∃ c, 0 < c ∧ ∀ x ∈ pop, x.obj = some c)) := by
  refine weights_outcome O hfin offset pop hev hoff (fun ws => sampleWeighted O pop ws is)
    (fun ws hne hnn => ?_)
  simp only [sampleWeighted, weightedIndexNew_of_nonneg O hfin ws hnn, hne, false_or]
  split_ifs with h0
  · exact .of_err h0
  · exact .of_ok _ h0

/-- `Err` on an empty population and on a zero weight total, never a panic — for every `n`, every draw -/
theorem sus_outcome (O : Ops F) (hfin : ∀ x, O.fin x = true) (n : Nat) (offset u : F) (pop : Pop F)
    (hev : Evaluated pop) (hoff : 0 ≤ offset) :
    ErrIff (select O (.sus n offset) (.draw u) pop)
      (pop = [] ∨ (offset = 0 ∧ ∃ c, 0 < c ∧ ∀ x ∈ pop, x.obj = some c)) := by
  refine weights_outcome O hfin offset pop hev hoff
    (fun ws => match susIndices O ws n u with | .error e => .error e | .ok is => .ok (pick pop is))
    (fun ws hne hnn => ?_)
  obtain ⟨w0, rest, rfl⟩ := List.exists_cons_of_ne_nil hne
  have hpos : 0 < sum (w0 :: rest) ↔ ¬ sum (w0 :: rest) = 0 := (sum_nonneg _ hnn).lt_iff_ne'
  simp only [susIndices, hpos, not_not]
  split_ifs with h0
  · exact .of_err h0
  · exact .of_ok _ h0

/-! ### tournament -/

/-- position `j` holds a member whose objective is strictly lower than `a` -/
def posBetter (pop : Pop F) (a : F) (j : Nat) : Bool :=
  match pop[j]? with
  | some x => match x.obj with
    | some b => decide (b < a)
    | none => false
  | none => false

/-! ### exponential ranking -/

theorem exponentialRankWeights_pos (O : Ops F) (hpow : ∀ (b : F) (k : Nat), O.powi b k = b ^ k)
    (base : F) (hb0 : 0 < base) (hb1 : base < 1) (objs : List F) :
    ∀ w ∈ exponentialRankWeights O base (reverseRank objs), 0 < w := by
  intro w hw
  simp only [exponentialRankWeights, hpow] at hw
  obtain ⟨r, hr, rfl⟩ := List.mem_map.mp hw
  exact expWeight_pos base hb0 hb1 _ _ ((reverseRank_ge_one objs r hr).trans (le_maxNat _ r hr))

theorem exponentialRank_outcome (O : Ops F) (hfin : ∀ x, O.fin x = true) (hpow : ∀ (b : F) (k : Nat), O.powi b k = b ^ k)
    (n : Nat) (base : F) (hb0 : 0 < base) (hb1 : base < 1) (is : List Nat) (pop : Pop F) (hev : Evaluated pop) :
    ErrIff (select O (.exponentialRank n base) (.idx is) pop) (pop = []) := by
  obtain ⟨objs, h1, h2, _⟩ := objectives_of_evaluated hev
  have hpos := exponentialRankWeights_pos O hpow base hb0 hb1 objs
  have hnil : exponentialRankWeights O base (reverseRank objs) = [] ↔ pop = [] := eq_nil_iff_of_length_eq (by
    rw [← h2, ← reverseRank_length objs]; exact List.length_map _)
  rw [select_exponentialRank, h1]
  simp only [sampleWeighted, weightedIndexNew_of_nonneg O hfin _ (fun w hw => (hpos w hw).le)]
  by_cases hp : pop = []
  · rw [if_pos (.inl (hnil.mpr hp))]
    exact .of_err hp
  · obtain ⟨w, hw⟩ := List.exists_mem_of_ne_nil _ (mt hnil.mp hp)
    rw [if_neg (not_or.mpr
      ⟨mt hnil.mp hp, (sum_pos_of_mem _ (fun w hw => (hpos w hw).le) w hw (hpos w hw)).ne'⟩)]
    exact .of_ok _ hp

/-! ### `best` -/

section
-- stated over the ordered field their users work in; the proofs need only `<`
set_option linter.unusedSectionVars false

theorem best_outcome (pop : Pop F) (hev : Evaluated pop) :
    (pop = [] → best pop = .ok none) ∧ (pop ≠ [] → ∃ b, best pop = .ok (some b)) := by
  obtain ⟨r, hr, hnone⟩ := best_of_evaluated hev
  rw [hr]
  refine ⟨fun hp => by rw [hnone.mpr hp], fun hp => ?_⟩
  cases r with
  | none => exact absurd (hnone.mp rfl) hp
  | some b => exact ⟨b, rfl⟩

theorem best_mem {pop : Pop F} {b : Ind F} (h : best pop = .ok (some b)) : b ∈ pop :=
  mem_of_best_eq h

end

end
end MahfModel.Selection
