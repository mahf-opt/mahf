/- C19 (ant colony), the update half: the ant-system and max-min updates as entrywise maps of the matrix
(`… = some (pm.mapE f)`, `f` the entry specification); the Boolean predicates of the property as propositions
(`holds_entries`: their shared clauses from an entrywise description); `min_by_key`; the clamp; closed forms and
symmetry of the entry specifications in a field, their sign in an ordered field; the deposits of a route without
repeated cities. -/
import MahfModel.Proofs.C19Matrix
import Mathlib.Algebra.Order.Field.Basic
import Mathlib.Tactic.Ring
import Mathlib.Data.List.Nodup
namespace MahfModel.Aco

variable {F : Type}

/-! ### The updates as entrywise maps -/

theorem reward_eq_mapE [Add F] (δ : F) (es : List (Nat × Nat)) {pm : PM F} (hwf : pm.wf = true)
    (hin : ∀ e ∈ es, e.1 < pm.dim ∧ e.2 < pm.dim) :
    reward pm δ es = some (pm.mapE fun i j => depositEdges δ i j es) := by
  induction es generalizing pm with
  | nil => exact congrArg some (mapE_id pm).symm
  | cons e es ih =>
    obtain ⟨ha, hb⟩ := hin e List.mem_cons_self
    rw [reward, add?_eq_mapE hwf ha hb]
    dsimp only
    rw [add?_eq_mapE ((mapE_wf _ _).trans hwf) (by exact hb) (by exact ha)]
    dsimp only
    rw [ih ((mapE_wf _ _).trans ((mapE_wf _ _).trans hwf)) (fun e he => hin e (List.mem_cons_of_mem _ he)),
      mapE_mapE, mapE_mapE]
    rfl

theorem edges_mem {l : List Nat} {a b : Nat} (h : (a, b) ∈ edges l) : a ∈ l ∧ b ∈ l :=
  ⟨(List.of_mem_zip h).1, List.mem_of_mem_tail (List.of_mem_zip h).2⟩

theorem edges_lt {n : Nat} {route : List Nat} (h : ∀ c ∈ route, c < n) : ∀ e ∈ edges route, e.1 < n ∧ e.2 < n :=
  fun _ he => ⟨h _ (edges_mem he).1, h _ (edges_mem he).2⟩

theorem asGo_eq_mapE [Add F] [Div F] (c : F) (l : List (Ind F)) {pm : PM F} (hwf : pm.wf = true)
    (hr : ∀ ind ∈ l, ∀ x ∈ ind.route, x < pm.dim) (ho : ∀ ind ∈ l, ind.obj.isSome = true) :
    asGo c pm l = some (pm.mapE fun i j => asSpecGo c i j l) := by
  induction l generalizing pm with
  | nil => exact congrArg some (mapE_id pm).symm
  | cons ind rest ih =>
    obtain ⟨o, hobj⟩ := Option.isSome_iff_exists.mp (ho ind List.mem_cons_self)
    simp only [asGo, asSpecGo, hobj, reward_eq_mapE (c / o) (edges ind.route) hwf (edges_lt (hr ind List.mem_cons_self))]
    rw [ih ((mapE_wf _ _).trans hwf) (fun x hx => hr x (List.mem_cons_of_mem _ hx))
      (fun x hx => ho x (List.mem_cons_of_mem _ hx)), mapE_mapE]

theorem asUpdate_eq_mapE [Add F] [Sub F] [Mul F] [Div F] [OfNat F 1] {pm : PM F} (ρ c : F) {pop : List (Ind F)}
    (hwf : pm.wf = true) (hr : ∀ ind ∈ pop.drop 1, ∀ x ∈ ind.route, x < pm.dim)
    (ho : ∀ ind ∈ pop.drop 1, ind.obj.isSome = true) :
    asUpdate pm ρ c pop = some (pm.mapE fun i j x => asSpecGo c i j (pop.drop 1) (x * (1 - ρ))) := by
  rw [asUpdate, PM.scale, map_eq_mapE, asGo_eq_mapE c _ ((mapE_wf _ _).trans hwf) hr ho, mapE_mapE]

/-! ### Predicates and hypotheses of the property, as propositions -/

theorem routesValid_iff (n : Nat) (pop : List (Ind F)) :
    routesValid n pop = true ↔ ∀ ind ∈ pop, ∀ c ∈ ind.route, c < n := by
  simp only [routesValid, List.all_eq_true, decide_eq_true_eq]

theorem allEntries_iff (n : Nat) (p : Nat → Nat → Bool) :
    allEntries n p = true ↔ ∀ i, i < n → ∀ j, j < n → p i j = true := by
  simp only [allEntries, List.all_eq_true, List.mem_range]

theorem obj_isSome_of_exists {P : F → Prop} {l : List (Ind F)} (h : ∀ ind ∈ l, ∃ o, ind.obj = some o ∧ P o) :
    ∀ ind ∈ l, ind.obj.isSome = true := fun ind hm => by
  obtain ⟨o, ho, _⟩ := h ind hm
  rw [ho]; rfl

section
variable [OfNat F 0] [DecidableEq F]

theorem isSym_iff {N : Num F} (hclose : ∀ a b, N.close a b = decide (a = b)) (pm : PM F) :
    isSym N pm = true ↔ ∀ i, i < pm.dim → ∀ j, j < pm.dim → pm.getD i j 0 = pm.getD j i 0 := by
  simp only [isSym, allEntries_iff, hclose, decide_eq_true_eq]

variable [LE F] [DecidableLE F]

theorem holds_entries {N : Num F} (hfin : ∀ x, N.fin x = true) (hclose : ∀ a b, N.close a b = decide (a = b))
    {pm pm' : PM F} {spec : Nat → Nat → F} (hd : pm'.dim = pm.dim) (hw : pm'.wf = true)
    (hg : ∀ i j, i < pm.dim → j < pm.dim → pm'.get? i j = some (spec i j))
    (hnn : ∀ i j, i < pm.dim → j < pm.dim → 0 ≤ spec i j)
    (hsym : ∀ i j, pm.getD i j 0 = pm.getD j i 0 → spec i j = spec j i) :
    (pm'.dim == pm.dim && pm'.wf &&
      allEntries pm.dim (fun i j => N.close (pm'.getD i j 0) (spec i j) && N.fin (pm'.getD i j 0) &&
        decide ((0 : F) ≤ pm'.getD i j 0))) = true ∧ (!isSym N pm || isSym N pm') = true := by
  have hget : ∀ i j, i < pm.dim → j < pm.dim → pm'.getD i j 0 = spec i j :=
    fun i j hi hj => getD_of_get? (hg i j hi hj)
  constructor
  · simp only [Bool.and_eq_true, beq_iff_eq, allEntries_iff, hclose, hfin, decide_eq_true_eq]
    exact ⟨⟨hd, hw⟩, fun i hi j hj => by rw [hget i j hi hj]; exact ⟨⟨rfl, trivial⟩, hnn i j hi hj⟩⟩
  · rw [Bool.or_eq_true, Bool.not_eq_true', ← Bool.not_eq_true, ← imp_iff_not_or, isSym_iff hclose,
      isSym_iff hclose, hd]
    intro hs i hi j hj
    rw [hget i j hi hj, hget j i hj hi]
    exact hsym i j (hs i hi j hj)

end

/-! ### `min_by_key` -/

section
variable [LinearOrder F]

/-- Loop invariant of `min_by_key`, all keys computed: a member of `bi :: l` of least key. -/
theorem firstMinGo_spec {l : List (Ind F)} {bi : Ind F} {bv : F} (hb : bi.obj = some bv)
    (h : ∀ x ∈ l, x.obj.isSome = true) :
    ∃ r o, firstMinGo bi bv l = some (r, o) ∧ r ∈ bi :: l ∧ r.obj = some o ∧ o ≤ bv ∧
      ∀ x ∈ l, ∀ v, x.obj = some v → o ≤ v := by
  induction l generalizing bi bv with
  | nil => exact ⟨bi, bv, rfl, List.mem_singleton_self _, hb, le_refl _, nofun⟩
  | cons x xs ih =>
    obtain ⟨w, hw⟩ := Option.isSome_iff_exists.mp (h x List.mem_cons_self)
    have hxs := fun y hy => h y (List.mem_cons_of_mem _ hy)
    simp only [firstMinGo, hw, List.forall_mem_cons, Option.some.injEq, forall_eq']
    split
    · -- new minimum
      obtain ⟨r, o, h1, h2, h3, h4, h5⟩ := ih hw hxs
      exact ⟨r, o, h1, List.mem_cons_of_mem _ h2, h3, h4.trans (le_of_lt ‹_›), h4, h5⟩
    · -- minimum kept
      obtain ⟨r, o, h1, h2, h3, h4, h5⟩ := ih hb hxs
      exact ⟨r, o, h1, (List.mem_cons.mp h2).elim (fun e => e ▸ List.mem_cons_self)
        (fun hm => List.mem_cons_of_mem _ (List.mem_cons_of_mem _ hm)), h3, h4, h4.trans (not_lt.mp ‹_›), h5⟩

theorem firstMin_isSome {l : List (Ind F)} (h : ∀ x ∈ l, x.obj.isSome = true) :
    l = [] ∨ (firstMin l).isSome = true := by
  cases l with
  | nil => exact Or.inl rfl
  | cons y ys =>
    obtain ⟨w, hw⟩ := Option.isSome_iff_exists.mp (h y List.mem_cons_self)
    obtain ⟨r, o, h1, _⟩ := firstMinGo_spec hw fun x hx => h x (List.mem_cons_of_mem _ hx)
    exact Or.inr (by simp only [firstMin, hw, h1]; rfl)

theorem firstMin_some {l : List (Ind F)} (h : ∀ x ∈ l, x.obj.isSome = true) {r : Ind F} {o : F}
    (hm : firstMin l = some (r, o)) : r ∈ l ∧ r.obj = some o ∧ ∀ x ∈ l, ∀ v, x.obj = some v → o ≤ v := by
  cases l with
  | nil => cases hm
  | cons y ys =>
    obtain ⟨w, hw⟩ := Option.isSome_iff_exists.mp (h y List.mem_cons_self)
    obtain ⟨r', o', h1, h2, h3, h4, h5⟩ := firstMinGo_spec hw fun x hx => h x (List.mem_cons_of_mem _ hx)
    simp only [firstMin, hw, h1] at hm
    cases hm
    refine ⟨h2, h3, ?_⟩
    simp only [List.forall_mem_cons, hw, Option.some.injEq, forall_eq']
    exact ⟨h4, h5⟩

end

/-! ### Max-min update

Everything is proved for `mmasUpdateWith` (the rewarded tour given explicitly, any of the tied best tours, see
`Model/Aco.lean`); `mmasUpdate` is the instance `firstMin (pop.drop 1)`. -/

section
variable [Add F] [Sub F] [Mul F] [Div F] [LT F] [LE F] [DecidableLT F] [DecidableLE F]
  [OfNat F 0] [OfNat F 1]

/-- Entry function of the max-min update with `best` rewarded: `mmasSpecWith pm ρ hi lo best i j` is this at the
old entry `pm.getD i j 0`. -/
def mmasEntry (ρ hi lo : F) (best : Option (Ind F × F)) (i j : Nat) (x : F) : F :=
  match best with
  | none => clamp lo hi (x * (1 - ρ))
  | some (ind, o) => clamp lo hi (depositEdges (1 / o) i j (edges ind.route) (x * (1 - ρ)))

set_option linter.unusedSectionVars false in
/-- `mmasUpdate` is `mmasUpdateWith` for the first minimal sampled tour. -/
theorem mmasUpdate_eq_with (pm : PM F) (ρ hi lo : F) (pop : List (Ind F))
    (h : pop.drop 1 = [] ∨ (firstMin (pop.drop 1)).isSome = true) :
    mmasUpdate pm ρ hi lo pop = mmasUpdateWith pm ρ hi lo (firstMin (pop.drop 1)) := by
  unfold mmasUpdate mmasUpdateWith
  cases hl : pop.drop 1 with
  | nil => rfl
  | cons x xs =>
    obtain ⟨⟨ind, o⟩, hmin⟩ := Option.isSome_iff_exists.mp (h.resolve_left (by simp [hl]))
    simp only [← hl, hmin]

omit [OfNat F 0] in
theorem mmasUpdate_some {pm : PM F} {ρ hi lo : F} {pop : List (Ind F)} {pm' : PM F}
    (h : mmasUpdate pm ρ hi lo pop = some pm') : pop.drop 1 = [] ∨ (firstMin (pop.drop 1)).isSome = true := by
  unfold mmasUpdate at h
  cases hl : pop.drop 1 with
  | nil => exact Or.inl rfl
  | cons x xs =>
    cases hmin : firstMin (x :: xs) with
    | none => simp [hl, hmin] at h
    | some p => exact Or.inr rfl

omit [OfNat F 0] in
theorem mmasUpdateWith_eq_mapE {pm : PM F} (ρ hi lo : F) (hwf : pm.wf = true) (best : Option (Ind F × F))
    (hr : ∀ ind o, best = some (ind, o) → ∀ c ∈ ind.route, c < pm.dim) (hb : lo ≤ hi) :
    mmasUpdateWith pm ρ hi lo best = some (pm.mapE (mmasEntry ρ hi lo best)) := by
  unfold mmasUpdateWith
  rw [PM.scale, map_eq_mapE]
  cases best with
  | none => simp only [if_pos hb, map_eq_mapE, mapE_mapE]; rfl
  | some p =>
    simp only [reward_eq_mapE (1 / p.2) (edges p.1.route) ((mapE_wf _ _).trans hwf) (edges_lt (hr p.1 p.2 rfl)),
      if_pos hb, map_eq_mapE, mapE_mapE]; rfl

theorem mmasUpdateWith_spec {pm : PM F} (ρ hi lo : F) (hwf : pm.wf = true) (best : Option (Ind F × F))
    (hr : ∀ ind o, best = some (ind, o) → ∀ c ∈ ind.route, c < pm.dim) (hb : lo ≤ hi) :
    ∃ pm', mmasUpdateWith pm ρ hi lo best = some pm' ∧ pm'.dim = pm.dim ∧ pm'.wf = true ∧
      ∀ i j, i < pm.dim → j < pm.dim → pm'.get? i j = some (mmasSpecWith pm ρ hi lo best i j) :=
  ⟨_, mmasUpdateWith_eq_mapE ρ hi lo hwf best hr hb, mapE_spec hwf _ 0⟩

omit [LE F] [DecidableLE F] in
theorem mmasSpec_eq_with (pm : PM F) (ρ hi lo : F) (pop : List (Ind F)) (i j : Nat) :
    mmasSpec pm ρ hi lo pop i j = mmasSpecWith pm ρ hi lo (firstMin (pop.drop 1)) i j := by
  unfold mmasSpec mmasSpecWith
  split <;> rfl

theorem holdsMmas_eq_with (N : Num F) (pm : PM F) (ρ hi lo : F) (pop : List (Ind F)) (pm' : PM F) :
    holdsMmas N pm ρ hi lo pop pm' = holdsMmasWith N pm ρ hi lo (firstMin (pop.drop 1)) pm' := by
  simp only [holdsMmas, holdsMmasWith, mmasSpec_eq_with]

end

section
variable [LinearOrder F]

theorem clamp_bounds (lo hi x : F) (h : lo ≤ hi) : lo ≤ clamp lo hi x ∧ clamp lo hi x ≤ hi := by
  unfold clamp
  split
  · exact ⟨le_refl _, h⟩
  · split
    · exact ⟨h, le_refl _⟩
    · exact ⟨not_lt.mp ‹_›, not_lt.mp ‹_›⟩

theorem withinBounds_of_mem {lo hi : F} (hb : lo ≤ hi) {pm : PM F} (h : ∀ x ∈ pm.inner, lo ≤ x ∧ x ≤ hi) :
    withinBounds lo hi pm = true := by
  simp only [withinBounds, allEntries_iff, Bool.and_eq_true, decide_eq_true_eq]
  intro i _ j _
  unfold PM.getD
  cases hx : pm.get? i j with
  | none => exact ⟨le_refl _, hb⟩
  | some x => exact h x (get?_mem hx)

theorem mmasUpdateWith_within [Add F] [Sub F] [Mul F] [Div F] [OfNat F 1] {pm : PM F} {ρ hi lo : F}
    {best : Option (Ind F × F)} {pm' : PM F} (hb : lo ≤ hi) (h : mmasUpdateWith pm ρ hi lo best = some pm') :
    ∀ x ∈ pm'.inner, lo ≤ x ∧ x ≤ hi := by
  simp only [mmasUpdateWith, if_pos hb] at h
  split at h
  · cases h  -- the reward panicked
  · cases h
    intro x hx
    obtain ⟨y, _, rfl⟩ := List.mem_map.mp hx
    exact clamp_bounds lo hi y hb

end

/-! ### The entry specifications in an ordered field -/

section field
variable [Field F]

theorem ite_add_eq (p : Prop) [Decidable p] (x δ : F) :
    (if p then x + δ else x) = x + ((if p then 1 else 0 : Nat) : F) * δ := by
  split
  · rw [Nat.cast_one, one_mul]
  · rw [Nat.cast_zero, zero_mul, add_zero]

theorem depositEdges_closed (δ : F) (i j : Nat) (es : List (Nat × Nat)) (x : F) :
    depositEdges δ i j es x = x + ((es.count (i, j) + es.count (j, i) : Nat) : F) * δ := by
  induction es generalizing x with
  | nil => rw [depositEdges, List.count_nil, List.count_nil, Nat.cast_zero, zero_mul, add_zero]
  | cons e es ih =>
    obtain ⟨a, b⟩ := e
    simp only [depositEdges, ih, ite_add_eq, List.count_cons, beq_iff_eq, Prod.mk.injEq, and_comm (a := a = j)]
    push_cast
    ring

theorem asSpecGo_closed (c : F) (i j : Nat) (l : List (Ind F)) (x : F) (h : ∀ ind ∈ l, ind.obj.isSome = true) :
    asSpecGo c i j l x = x + (l.map (fun ind => (hits ind.route i j : F) * (c / ind.obj.getD 1))).sum := by
  induction l generalizing x with
  | nil => rw [asSpecGo, List.map_nil, List.sum_nil, add_zero]
  | cons ind rest ih =>
    obtain ⟨o, ho⟩ := Option.isSome_iff_exists.mp (h ind List.mem_cons_self)
    simp only [asSpecGo, ho, List.map_cons, List.sum_cons, Option.getD_some]
    rw [ih _ (fun y hy => h y (List.mem_cons_of_mem _ hy)), depositEdges_closed, hits]
    ring

theorem asSpecGo_symm (c : F) (i j : Nat) (l : List (Ind F)) (x : F) (h : ∀ ind ∈ l, ind.obj.isSome = true) :
    asSpecGo c i j l x = asSpecGo c j i l x := by
  rw [asSpecGo_closed c i j l x h, asSpecGo_closed c j i l x h]
  simp only [hits, Nat.add_comm]

theorem mmasSpecWith_symm [LT F] [DecidableLT F] (pm : PM F) (ρ hi lo : F) (best : Option (Ind F × F))
    (i j : Nat) (h : pm.getD i j 0 = pm.getD j i 0) :
    mmasSpecWith pm ρ hi lo best i j = mmasSpecWith pm ρ hi lo best j i := by
  unfold mmasSpecWith
  split
  · rw [h]
  · rw [h, depositEdges_closed, depositEdges_closed, Nat.add_comm]

variable [LinearOrder F] [IsStrictOrderedRing F]

theorem depositEdges_nonneg {δ : F} (hδ : 0 ≤ δ) (i j : Nat) (es : List (Nat × Nat)) {x : F} (hx : 0 ≤ x) :
    0 ≤ depositEdges δ i j es x := by
  rw [depositEdges_closed]
  exact add_nonneg hx (mul_nonneg (Nat.cast_nonneg _) hδ)

theorem asSpecGo_nonneg {c : F} (hc : 0 ≤ c) (i j : Nat) {l : List (Ind F)} {x : F} (hx : 0 ≤ x)
    (h : ∀ ind ∈ l, ∃ o, ind.obj = some o ∧ 0 < o) : 0 ≤ asSpecGo c i j l x := by
  induction l generalizing x with
  | nil => exact hx
  | cons ind rest ih =>
    obtain ⟨o, ho, hpos⟩ := h ind List.mem_cons_self
    simp only [asSpecGo, ho]
    exact ih (depositEdges_nonneg (div_nonneg hc hpos.le) i j (edges ind.route) hx)
      (fun y hy => h y (List.mem_cons_of_mem _ hy))

theorem sum_map_le_length_mul {α : Type} {f : α → F} {b : F} {l : List α} (h : ∀ x ∈ l, f x ≤ b) :
    (l.map f).sum ≤ (l.length : F) * b := by
  induction l with
  | nil => rw [List.map_nil, List.sum_nil, List.length_nil, Nat.cast_zero, zero_mul]
  | cons x xs ih =>
    rw [List.map_cons, List.sum_cons, List.length_cons, Nat.cast_succ, add_mul, one_mul, add_comm]
    exact add_le_add (ih fun y hy => h y (List.mem_cons_of_mem _ hy)) (h x List.mem_cons_self)

end field

/-! ### Edges of a route without repeated cities -/

theorem edges_antisymm {l : List Nat} (hnd : l.Nodup) {a b : Nat} (hab : (a, b) ∈ edges l) : (b, a) ∉ edges l := by
  intro hba
  induction l with
  | nil => cases hab
  | cons x rest ih =>
    cases rest with
    | nil => cases hab
    | cons y r =>
      change _ ∈ (x, y) :: edges (y :: r) at hab hba
      obtain ⟨hx, hnd'⟩ := List.nodup_cons.mp hnd
      rcases List.mem_cons.mp hab with h1 | h1
      · cases h1
        rcases List.mem_cons.mp hba with h2 | h2
        · cases h2; exact hx List.mem_cons_self
        · exact hx (edges_mem h2).2
      · rcases List.mem_cons.mp hba with h2 | h2
        · cases h2; exact hx (edges_mem h1).2
        · exact ih hnd' h1 h2

theorem edges_nodup {l : List Nat} (hnd : l.Nodup) : (edges l).Nodup := by
  induction l with
  | nil => exact List.nodup_nil
  | cons x rest ih =>
    cases rest with
    | nil => exact List.nodup_nil
    | cons y r =>
      obtain ⟨hx, hnd'⟩ := List.nodup_cons.mp hnd
      exact List.nodup_cons.mpr ⟨fun h => hx (edges_mem h).1, ih hnd'⟩

theorem hits_le_one {l : List Nat} (hnd : l.Nodup) (i j : Nat) : hits l i j ≤ 1 := by
  have hn := edges_nodup hnd
  have h1 : (edges l).count (i, j) ≤ 1 := List.nodup_iff_count_le_one.mp hn _
  have h2 : (edges l).count (j, i) ≤ 1 := List.nodup_iff_count_le_one.mp hn _
  unfold hits
  by_cases hm : (i, j) ∈ edges l
  · have : (edges l).count (j, i) = 0 := List.count_eq_zero.mpr (edges_antisymm hnd hm)
    omega
  · have : (edges l).count (i, j) = 0 := List.count_eq_zero.mpr hm
    omega

theorem hits_pos_iff (l : List Nat) (i j : Nat) : 0 < hits l i j ↔ (i, j) ∈ edges l ∨ (j, i) ∈ edges l := by
  unfold hits
  rw [Nat.add_pos_iff_pos_or_pos, List.count_pos_iff, List.count_pos_iff]

end MahfModel.Aco
