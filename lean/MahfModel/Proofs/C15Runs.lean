/- C15 — the program language on a state `St`: the `Logger` component is `loggerExec` on the resolved rules (`doLogR_eq`);
`Inv`, the invariant of every execution of the state-returning interpreter of `Model/LogC15Runs`, completed or not
(`execR_inv`), of a run and of a sequence of runs; the single-run interpreter of `Model/Log` is that one with the state
forgotten on failure (`exec_eq_lift`), which gives its trace property. Core only. -/
import MahfModel.Model.LogC15Runs
import MahfModel.Proofs.C15Log
namespace MahfModel.Log

/-- From `s` to `s'` the log grew by exactly the steps of the logger executions recorded meanwhile. -/
def TraceOk (s s' : St) : Prop :=
  ∃ tr, s'.trace = s.trace ++ tr ∧ runExecs iterName tr s.log = .ok s'.log

theorem TraceOk.refl (s : St) : TraceOk s s := ⟨[], by simp, rfl⟩

theorem TraceOk.trans {a b c : St} (h1 : TraceOk a b) (h2 : TraceOk b c) : TraceOk a c := by
  obtain ⟨t1, e1, r1⟩ := h1
  obtain ⟨t2, e2, r2⟩ := h2
  refine ⟨t1 ++ t2, by rw [e2, e1, List.append_assoc], ?_⟩
  rw [runExecs_eq_foldlM] at r1 r2 ⊢
  rw [List.foldlM_append, r1]; exact r2

theorem TraceOk.of_env {a b : St} (h : TraceOk a b) (env env' : Env) :
    TraceOk { a with env := env } { b with env := env' } := h

/-- What a `LogConfig` is configured to log: the extractors of its rules, in order (the internal state
of the triggers is not part of it). `none`: no `LogConfig` in the state. -/
def cfgShape (r : Option (List RuleSt)) : Option (List ExtSpec) := r.map (·.map (·.ext))

/-- Forgetting the state a failed execution leaves behind. -/
def lift (r : St × Option Fail) : Except Fail St :=
  match r.2 with
  | none => .ok r.1
  | some e => .error e

theorem lift_ok {r : St × Option Fail} {s' : St} (h : lift r = .ok s') : r.1 = s' := by
  obtain ⟨s, _ | e⟩ := r <;> cases h
  rfl

/-- The invariant of every execution, completed or not: the log grew by exactly the steps of the
logger executions recorded meanwhile, and the state is configured to log what it was. -/
def Inv (s s' : St) : Prop := TraceOk s s' ∧ cfgShape s'.rules = cfgShape s.rules

theorem Inv.refl (s : St) : Inv s s := ⟨TraceOk.refl s, rfl⟩

theorem Inv.trans {a b c : St} (h1 : Inv a b) (h2 : Inv b c) : Inv a c :=
  ⟨h1.1.trans h2.1, h2.2.trans h1.2⟩

theorem Inv.of_env {a b : St} (h : Inv a b) (env env' : Env) :
    Inv { a with env := env } { b with env := env' } := h

theorem evalRules_spec (env : Env) (rs : List RuleSt) (s : Step String Nat) :
    (evalRules env rs s).1 = execRules (resolve env rs) s ∧
    ((evalRules env rs s).2).map (·.ext) = rs.map (·.ext) ∧
    (noFail (resolve env rs) → (evalRules env rs s).2 = advance env rs) := by
  induction rs generalizing s with
  | nil => exact ⟨rfl, rfl, fun _ => rfl⟩
  | cons r rs ih =>
    rw [evalRules, resolve, advance, List.map_cons, List.map_cons, List.map_cons, execRules, noFail,
      List.forall_mem_cons]
    cases evalTrig env r.trig with
    | mk o t =>
      cases o with
      | fire | skip => exact ⟨(ih _).1, congrArg _ (ih _).2.1, fun h => congrArg _ ((ih _).2.2 h.2)⟩
      | err | panic => exact ⟨rfl, rfl, fun h => nomatch h.1⟩

/-- `Logger::execute` on a state is `loggerExec` on its resolved rules: on success the new log and one
record; on failure only the triggers' own state changes. -/
theorem doLogR_eq (s : St) : doLogR s = match s.rules with
    | none => (s, none)
    | some rs =>
      match loggerExec iterName (resolve s.env rs) (getIters s.env) s.log with
      | .ok log' => ({ s with rules := some (evalRules s.env rs []).2, log := log',
                              trace := s.trace ++ [(resolve s.env rs, getIters s.env)] }, none)
      | .error e => ({ s with rules := some (evalRules s.env rs []).2 }, some e) := by
  unfold doLogR loggerExec
  cases s.rules with
  | none => rfl
  | some rs =>
    simp only [(evalRules_spec _ _ _).1]
    cases execRules (resolve s.env rs) [] with
    | error e => rfl
    | ok step => by_cases hem : step.isEmpty = true <;> simp [hem]

theorem doLog_eq (s : St) : doLog s = lift (doLogR s) := by
  unfold doLog doLogR lift
  cases hr : s.rules with
  | none => rfl
  | some rs =>
    simp only []
    cases he : (evalRules s.env rs []).1 with
    | error e => rfl
    | ok step => by_cases hem : step.isEmpty = true <;> simp [hem]

theorem doLogR_inv (s : St) : Inv s (doLogR s).1 := by
  rw [doLogR_eq]
  cases hr : s.rules with
  | none => exact Inv.refl s
  | some rs =>
    have hx : cfgShape (some (evalRules s.env rs []).2) = cfgShape (some rs) :=
      congrArg some (evalRules_spec s.env rs []).2.1
    simp only []
    cases hl : loggerExec iterName (resolve s.env rs) (getIters s.env) s.log with
    | error e => exact ⟨TraceOk.refl s, hr ▸ hx⟩
    | ok log' => exact ⟨⟨[_], rfl, by simp only [runExecs, hl]⟩, hr ▸ hx⟩

mutual
  theorem execR_inv : ∀ (f : Nat) (t : Node) (s : St), Inv s (execR f t s).1
    | 0, _, s => Inv.refl s
    | _ + 1, .log, s => doLogR_inv s
    | _ + 1, .setx v, s => Inv.refl s
    | _ + 1, .addx k, s => Inv.refl s
    | f + 1, .loop n body, s => loopGoR_inv f n body s
    | f + 1, .scope body, s => by
      simp only [execR]
      exact execsR_inv f body { s with env := _ :: s.env }
    | f + 1, .ifx k body, s => by
      simp only [execR]
      split
      · split
        · exact execsR_inv f body s
        · exact Inv.refl s
      · exact Inv.refl s
  theorem execsR_inv : ∀ (f : Nat) (ts : Nodes) (s : St), Inv s (execsR f ts s).1
    | 0, _, s => Inv.refl s
    | _ + 1, .nil, s => Inv.refl s
    | f + 1, .cons t ts, s => by
      have h1 := execR_inv f t s
      simp only [execsR]
      generalize execR f t s = r at h1
      obtain ⟨s', _ | e⟩ := r
      · exact h1.trans (execsR_inv f ts s')
      · exact h1
  theorem loopGoR_inv : ∀ (f n : Nat) (body : Nodes) (s : St), Inv s (loopGoR f n body s).1
    | 0, _, _, s => Inv.refl s
    | f + 1, n, body, s => by
      simp only [loopGoR]
      split
      · exact Inv.refl s
      · split
        · have h1 := execsR_inv f body s
          generalize execsR f body s = r at h1
          obtain ⟨s', _ | e⟩ := r
          · simp only []
            split
            · exact h1
            · exact h1.trans (loopGoR_inv f n body _)
          · exact h1
        · exact Inv.refl s
end

theorem reinit_shape (rs : List RuleSt) :
    (rs.map fun r => { r with trig := r.trig.reinit }).map (·.ext) = rs.map (·.ext) := by
  induction rs with
  | nil => rfl
  | cons r rs ih => simp [ih]

theorem initRun_inv (prog : Nodes) (s : St) : Inv s (initRun prog s) := by
  refine ⟨⟨[], by simp [initRun], rfl⟩, ?_⟩
  unfold initRun cfgShape
  simp only []
  split
  · cases s.rules with
    | none => rfl
    | some rs => exact congrArg some (reinit_shape rs)
  · rfl

theorem runOn_inv (fuel : Nat) (prog : Nodes) (s : St) : Inv s (runOn fuel prog s).1 :=
  (initRun_inv prog s).trans (execsR_inv fuel prog _)

theorem runSeq_inv (fuel : Nat) (progs : List Nodes) (s : St) : Inv s (runSeq fuel progs s).1 := by
  induction progs generalizing s with
  | nil => exact Inv.refl s
  | cons p ps ih =>
    have h1 := runOn_inv fuel p s
    simp only [runSeq]
    generalize runOn fuel p s = r at h1
    obtain ⟨s', _ | _ | _ | _⟩ := r
    · exact h1.trans (ih s')
    · exact h1.trans (ih s')
    · exact h1
    · exact h1

mutual
  theorem exec_eq_lift : ∀ (f : Nat) (t : Node) (s : St), exec f t s = lift (execR f t s)
    | 0, _, _ => rfl
    | _ + 1, .log, s => doLog_eq s
    | _ + 1, .setx v, s => rfl
    | _ + 1, .addx k, s => rfl
    | f + 1, .loop n body, s => loopGo_eq_lift f n body s
    | f + 1, .scope body, s => by
      simp only [exec, execR]
      rw [execs_eq_lift f body]
      generalize execsR f body _ = r
      obtain ⟨s', _ | e⟩ := r <;> rfl
    | f + 1, .ifx k body, s => by
      simp only [exec, execR]
      cases getX s.env with
      | none => rfl
      | some v =>
        by_cases hk : k ≤ v
        · simp only [hk, if_true]; exact execs_eq_lift f body s
        · simp only [hk, if_false]; rfl
  theorem execs_eq_lift : ∀ (f : Nat) (ts : Nodes) (s : St), execs f ts s = lift (execsR f ts s)
    | 0, _, _ => rfl
    | _ + 1, .nil, s => rfl
    | f + 1, .cons t ts, s => by
      simp only [execs, execsR]
      rw [exec_eq_lift f t s]
      generalize execR f t s = r
      obtain ⟨s', _ | e⟩ := r
      · exact execs_eq_lift f ts s'
      · rfl
  theorem loopGo_eq_lift : ∀ (f n : Nat) (body : Nodes) (s : St), loopGo f n body s = lift (loopGoR f n body s)
    | 0, _, _, _ => rfl
    | f + 1, n, body, s => by
      simp only [loopGo, loopGoR]
      cases getIters s.env with
      | none => rfl
      | some it =>
        by_cases hlt : it < n
        · simp only [hlt, if_true]
          rw [execs_eq_lift f body s]
          generalize execsR f body s = r
          obtain ⟨s', _ | e⟩ := r
          · simp only [lift]
            cases incIters s'.env with
            | none => rfl
            | some env' => exact loopGo_eq_lift f n body _
          · rfl
        · simp only [hlt, if_false]; rfl
end

theorem exec_trace : ∀ (f : Nat) (t : Node) (s s' : St), exec f t s = .ok s' → TraceOk s s' :=
  fun f t s _ h => lift_ok (exec_eq_lift f t s ▸ h) ▸ (execR_inv f t s).1

theorem execs_trace : ∀ (f : Nat) (ts : Nodes) (s s' : St), execs f ts s = .ok s' → TraceOk s s' :=
  fun f ts s _ h => lift_ok (execs_eq_lift f ts s ▸ h) ▸ (execsR_inv f ts s).1

theorem loopGo_trace : ∀ (f n : Nat) (body : Nodes) (s s' : St), loopGo f n body s = .ok s' → TraceOk s s' :=
  fun f n body s _ h => lift_ok (loopGo_eq_lift f n body s ▸ h) ▸ (loopGoR_inv f n body s).1

end MahfModel.Log
