/- C13: the two drivers over a population, `recombination()` (pairs, frame, gate) and `mutation()` (a `mapM`). -/
import MahfModel.Model.Variation
import MahfModel.Proofs.ListIndex
namespace MahfModel.Variation
variable {α : Type}

/-! ### `recombination()` -/

theorem frame_cons_cons {β : Type} (p1 p2 : β) (rest : List β) (r : OptPair β) (rs : List (OptPair β)) :
    frame (p1 :: p2 :: rest) (r :: rs) = emitPair p1 p2 r ++ frame rest rs := by
  cases r <;> rfl

/-- Where a pairwise recursion stops, no pair is left to be served. -/
theorem pairs_done {β γ : Type} {ps : List β} {ws : List γ}
    (hno : ∀ p1 p2 rest w ws', ps = p1 :: p2 :: rest → ws = w :: ws' → False) (hl : ps.length / 2 ≤ ws.length) :
    ps.length < 2 :=
  match ps, ws with
  | [], _ => Nat.zero_lt_two
  | [_], _ => Nat.one_lt_two
  | _ :: _ :: rest, [] => absurd (Nat.add_div_right rest.length Nat.zero_lt_two ▸ hl) (Nat.not_succ_le_zero _)
  | _ :: _ :: _, _ :: _ => (hno _ _ _ _ _ rfl rfl).elim

theorem frame_none_id {β : Type} (ps : List β) (rs : List (OptPair β)) (h : ∀ r ∈ rs, r = OptPair.none) :
    frame ps rs = ps := by
  fun_induction frame ps rs
  case case1 ih => rw [ih fun r hr => h r (List.mem_cons_of_mem _ hr)]
  case case4 => rfl
  all_goals cases h _ List.mem_cons_self

/-- The successive `recombine` results of a run (one per pair, while witnesses last). -/
def pairResults {β W : Type} (rec : β → β → W → Option (OptPair β)) : List β → List W → List (Option (OptPair β))
  | p1 :: p2 :: rest, w :: ws => rec p1 p2 w :: pairResults rec rest ws
  | _, _ => []

section Gate
variable {F : Type} [LT F] [DecidableLT F]

theorem gateRecombine_emit_length {β W : Type} (pc : F) (both : Bool) (helper : β → β → W → Option (β × β))
    (p1 p2 : β) (w : F × W) (r : OptPair β) (h : gateRecombine pc both helper p1 p2 w = some r) :
    (emitPair p1 p2 r).length = if crossedBy w.1 pc then (if both then 2 else 1) else 2 := by
  unfold gateRecombine at h
  split at h
  next hc =>
    obtain ⟨c, -, rfl⟩ := Option.map_eq_some_iff.mp h
    rw [if_pos hc]
    cases both <;> rfl
  next hc =>
    obtain rfl := Option.some.inj h
    rw [if_neg hc]
    rfl

theorem gateRecombine_of_helper {β W : Type} (pc : F) (both : Bool) (helper : β → β → W → Option (β × β))
    (p1 p2 : β) (w : F × W) (c1 c2 : β) (e : helper p1 p2 w.2 = some (c1, c2)) :
    ∃ r, gateRecombine pc both helper p1 p2 w = some r ∧
      ∀ c ∈ emitPair p1 p2 r, c = p1 ∨ c = p2 ∨ c = c1 ∨ c = c2 := by
  unfold gateRecombine
  split
  · rw [e]
    cases both
    · exact ⟨.single c1, rfl, fun c hc => by simp [emitPair] at hc; simp [hc]⟩
    · exact ⟨.both c1 c2, rfl, fun c hc => by simp [emitPair] at hc; rcases hc with rfl | rfl <;> simp⟩
  · exact ⟨.none, rfl, fun c hc => by simp [emitPair] at hc; rcases hc with rfl | rfl <;> simp⟩

end Gate

/-! ### `mutation()` -/

theorem mutateAll_eq_mapM {β : Type} (mutate : β → Option β) (xs : List β) :
    mutateAll mutate xs = xs.mapM mutate := by
  induction xs with
  | nil => rfl
  | cons x xs ih =>
    rw [mutateAll, List.mapM_cons, ih]
    cases mutate x with
    | none => rfl
    | some y => cases xs.mapM mutate <;> rfl

theorem mutateAll_length {β : Type} (mutate : β → Option β) : ∀ (xs ys : List β),
    mutateAll mutate xs = some ys → ys.length = xs.length := fun xs ys h =>
  mapM_length mutate xs ys (mutateAll_eq_mapM mutate xs ▸ h)

end MahfModel.Variation
