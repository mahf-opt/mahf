/-
C03 — properties of the caller's scopes that survive what leaves do (`Stable`). A run keeps every such property
(`srun_frame`, through the relation `Kept`), and below a scope it opens as well, `Stable` being closed under looking below
the innermost scope (`Stable.tail`). The instances are statements about the column of one key (`Stable.ofCol`).
-/
import MahfModel.Proofs.C03Run
namespace MahfModel.Config

/-! ### The caller's part of the registry while scopes are open -/

/-- `Q` (a property of the caller's scopes) survives the operations leaves may perform.
`ins = true`: also inserts (needed when the program runs directly in the caller's top scope). -/
structure Stable (Q : Reg → Prop) (A : Act → Bool) (ins : Bool) (L : Bool) : Prop where
  setv : ∀ ph k v b, A (.set ph k v) = true → Q b → Q (b.setv k v)
  remove : ∀ ph k b, A (.rem ph k) = true → Q b → Q (b.remove k)
  incr : L = true → ∀ b b', b.incr = some b' → Q b → Q b'
  insert : ins = true → ∀ ph k v b, A (.ins ph k v) = true → Q b → Q (b.insert k v)
  ctr0 : ins = true → L = true → ∀ b, Q b → Q (b.insert 0 0)

/-- `Act.keeps k`, `Act.spares k`, `Act.leaves k`, `Act.noInsOf k` are each `!(kind a && a.key == k)`: at an action on `k` of the
kind they rule out they are false. -/
theorem Act.excluded {k : Nat} {P : Prop} (h : (!(true && k == k)) = true) : P := by
  rw [beq_self_eq_true] at h; cases h

/-- A property of the column of `k` survives the leaf operations if it survives what they do to that column:
operations on other keys do nothing to it. (`set`: a `set_value` of `k` by a leaf, or the increment of the counter, which sets it to
what it held plus one; `put`: the insert of `k`, by a leaf or as a fresh counter.) -/
theorem Stable.ofCol {Q : Reg → Prop} {A : Act → Bool} {ins L : Bool} (k : Nat) (Qc : List (Option Nat) → Prop)
    (hQ : ∀ b, Q b ↔ Qc (Reg.col b k))
    (set : ∀ v, (k = 0 ∧ L = true ∨ ∃ ph, A (.set ph k v) = true) → ∀ l, Qc l → Qc (modFirst (fun _ => some v) l))
    (rem : ∀ ph, A (.rem ph k) = true → ∀ l, Qc l → Qc (modFirst (fun _ => none) l))
    (put : ins = true → ∀ v, (k = 0 ∧ L = true ∧ v = 0 ∨ ∃ ph, A (.ins ph k v) = true) → ∀ l, Qc l → Qc (l.set 0 (some v))) :
    Stable Q A ins L :=
  -- `b'` comes from `b` by an operation on `k'`, which does `F` to the column of `k'` and nothing to the others
  have step : ∀ {b b' : Reg} {k' : Nat} {F : List (Option Nat) → List (Option Nat)},
      Reg.col b' k = (if k' = k then F (Reg.col b k) else Reg.col b k) → (k' = k → ∀ l, Qc l → Qc (F l)) → Q b → Q b' :=
    fun {b _ k' _} e hF hq => (hQ _).mpr <| e ▸ if h : k' = k then (if_pos h).symm ▸ hF h _ ((hQ b).mp hq)
      else (if_neg h).symm ▸ (hQ b).mp hq
  { setv := fun ph k' v b ha => step (Reg.col_setv b k' v k) fun e => set v (Or.inr ⟨ph, e ▸ ha⟩)
    remove := fun ph k' b ha => step (Reg.col_remove b k' k) fun e => rem ph (e ▸ ha)
    incr := fun hL b b' hi => by
      obtain ⟨v, _, rfl⟩ := Reg.incr_some hi
      exact step (Reg.col_setv b 0 _ k) fun e => set _ (Or.inl ⟨e.symm, hL⟩)
    insert := fun hi ph k' v b ha => step (Reg.col_insert b k' v k) fun e => put hi v (Or.inr ⟨ph, e ▸ ha⟩)
    ctr0 := fun hi hL b => step (Reg.col_insert b 0 0 k) fun e => put hi 0 (Or.inl ⟨e.symm, hL, rfl⟩) }

/-- Below the innermost scope every insert is invisible, and the other operations do there what they do anywhere. -/
theorem Stable.tail {Q : Reg → Prop} {A : Act → Bool} {ins L : Bool} (hst : Stable Q A ins L) :
    Stable (fun b => Q b.tail) A true L where
  setv ph k v b ha hq := by
    cases b with
    | nil => exact hq
    | cons m r => rw [Reg.setv]; split; exact hq; exact hst.setv ph k v r ha hq
  remove ph k b ha hq := by
    cases b with
    | nil => exact hq
    | cons m r => rw [Reg.remove]; split; exact hq; exact hst.remove ph k r ha hq
  incr hL b b' hi hq := by
    cases b with
    | nil => cases hi
    | cons m r =>
      rw [Reg.incr_cons] at hi
      cases hm : m.get? 0 with
      | some v => rw [hm] at hi; cases hi; exact hq
      | none =>
        rw [hm] at hi
        obtain ⟨r', hr', rfl⟩ := Option.map_eq_some_iff.mp hi
        exact hst.incr hL r r' hr' hq
  insert _ _ k v b _ hq := by cases b <;> exact hq
  ctr0 _ _ b hq := by cases b <;> exact hq

/-- Every property of the registry that is stable under what `A` and `L` allow is kept. -/
def Kept (A : Act → Bool) (L : Bool) (r r' : Reg) : Prop := ∀ Q, Stable Q A true L → Q r → Q r'

theorem kept_apply {A : Act → Bool} {L : Bool} (ph : Phase) (a : Act) (ha : A a = true) (r : Reg) :
    Kept A L r (a.apply ph r) := by
  intro Q hst hq
  cases a with
  | ins p k v => simp only [Act.apply]; split; exact hst.insert rfl p k v r ha hq; exact hq
  | set p k v => simp only [Act.apply]; split; exact hst.setv p k v r ha hq; exact hq
  | rem p k => simp only [Act.apply]; split; exact hst.remove p k r ha hq; exact hq
  | need k => exact hq

theorem kept_refl (A : Act → Bool) (L : Bool) (r : Reg) : Kept A L r r := fun _ _ hq => hq

theorem kept_trans {A : Act → Bool} {L : Bool} {a b c : Reg} (h1 : Kept A L a b) (h2 : Kept A L b c) : Kept A L a c :=
  fun Q hst hq => h2 Q hst (h1 Q hst hq)

theorem inv_kept (s : Script) (A : Act → Bool) (L : Bool) :
    Inv s (Op.sat A L) (fun _ => true) (fun σ σ' _ => Kept A L σ.reg σ'.reg) :=
  Inv.ofReg s (kept_refl A L) (fun _ _ _ => kept_trans)
    (fun _ acts ho ph => applyActs_pres (kept_refl A L) (fun _ _ _ => kept_trans) (kept_apply ph) acts
      (Bool.and_eq_true_iff.mp ho).2)
    (fun hL r _ hst => hst.ctr0 rfl hL r)
    (fun hL r r' hr _ hst => hst.incr hL r r' hr)
    (fun _ _ hmg r _ h => mergeEff_of_isEmpty hmg h ▸ kept_refl A L r)
    -- below the scope that is being closed
    (fun _ _ h Q hst hq => h (fun b => Q b.tail) hst.tail hq)

theorem srun_frame (s : Script) (f : Nat) {Q : Reg → Prop} {A : Act → Bool} {L : Bool} (hst : Stable Q A true L)
    (p : Stmt) (hp : p.all (Op.sat A L) (fun _ => true) = true) (σ : St) (hq : Q σ.reg) :
    Q (srun s f p σ).1.reg :=
  srun_pres (inv_kept s A L) f p hp σ Q hst hq

/-! ### Properties of the caller's scopes that survive -/

theorem stable_present (k : Nat) (L : Bool) : Stable (fun b => (b.get? k).isSome = true) (Act.keeps k) true L :=
  Stable.ofCol k (fun l => (firstSome l).isSome = true) (fun b => by rw [Reg.get?_eq_col])
    (fun _ _ l h => by rw [firstSome_modFirst (fun _ => _), Option.isSome_map]; exact h)
    (fun _ ha => Act.excluded ha)
    (fun _ v _ l h => by rw [firstSome_put (fun e => by rw [e] at h; cases h)]; rfl)

theorem stable_absent (k : Nat) (L : Bool) : Stable (fun b => b.get? k = none) (fun _ => true) false L :=
  -- nothing to find, nothing to rewrite
  have key : ∀ g l, firstSome l = none → firstSome (modFirst g l) = none := fun g _ h => (modFirst_of_none h g).symm ▸ h
  Stable.ofCol k (fun l => firstSome l = none) (fun b => by rw [Reg.get?_eq_col])
    (fun _ _ => key _) (fun _ _ => key _) (fun h => nomatch h)

-- `Act.spares k` allows no operation on the column of `k` but inserts, and those go to the child scope
theorem stable_value (k v : Nat) (hk : k ≠ 0) (L : Bool) : Stable (fun b => b.get? k = some v) (Act.spares k) false L :=
  Stable.ofCol k (fun l => firstSome l = some v) (fun b => by rw [Reg.get?_eq_col])
    (fun _ ha => ha.elim (fun h => absurd h.1 hk) fun ⟨_, ha⟩ => Act.excluded ha)
    (fun _ ha => Act.excluded ha) (fun h => nomatch h)

-- `Act.leaves k` allows no operation on the column of `k` at all
theorem stable_lookup (k : Nat) (x : Option Nat) : Stable (fun b => b.get? k = x) (Act.leaves k) true (k != 0) :=
  Stable.ofCol k (fun l => firstSome l = x) (fun b => by rw [Reg.get?_eq_col])
    (fun _ ha => ha.elim (fun h => absurd h.1 (bne_iff_ne.mp h.2)) fun ⟨_, ha⟩ => Act.excluded ha)
    (fun _ ha => Act.excluded ha)
    (fun _ v ha => by
      rcases ha with ⟨h, hL, _⟩ | ⟨ph, ha⟩
      · exact absurd h (bne_iff_ne.mp hL)
      · exact Act.excluded ha)

/-- The innermost scope has no `k`. -/
def HeadLacks (k : Nat) (b : Reg) : Prop := (Reg.col b k).headD none = none

theorem HeadLacks.get {k : Nat} {b : Reg} (h : HeadLacks k b) : Reg.get? b.tail k = b.get? k := by
  cases b with
  | nil => rfl
  | cons m t => rw [Reg.get?_cons, show m.get? k = none from h]; rfl

theorem stable_headLacks (k : Nat) : Stable (HeadLacks k) (Act.noInsOf k) true (k != 0) :=
  have key : ∀ g l, l.headD none = none → (modFirst g l).headD none = none := fun g l h => by
    cases l with
    | nil => rfl
    | cons x l => cases x; rfl; cases h
  Stable.ofCol k (fun l => l.headD none = none) (fun _ => Iff.rfl) (fun _ _ => key _) (fun _ _ => key _)
    (fun _ v ha => by
      rcases ha with ⟨h, hL, _⟩ | ⟨ph, ha⟩
      · exact absurd h (bne_iff_ne.mp hL)
      · exact Act.excluded ha)

/-- The innermost scope has `k`, and below it `k` resolves to `x`. -/
def Shadowed (k : Nat) (x : Option Nat) (b : Reg) : Prop := ∃ v l, Reg.col b k = some v :: l ∧ firstSome l = x

theorem Shadowed.of_cons {k : Nat} {m : Scope} (t : Reg) (hm : m.has k = true) : Shadowed k (Reg.get? t k) (m :: t) := by
  obtain ⟨v, hv⟩ := Option.isSome_iff_exists.mp ((Scope.has_iff_get m k).symm.trans hm)
  exact ⟨v, Reg.col t k, congrArg (· :: Reg.col t k) hv, (Reg.get?_eq_col t k).symm⟩

theorem Shadowed.tail {k : Nat} {x : Option Nat} {b : Reg} (h : Shadowed k x b) : Reg.get? b.tail k = x := by
  obtain ⟨v, l, e, h⟩ := h
  rw [Reg.get?_eq_col, Reg.col, List.map_tail]
  show firstSome (Reg.col b k).tail = x
  rw [e]; exact h

theorem stable_shadowed (k : Nat) (x : Option Nat) : Stable (Shadowed k x) (Act.keeps k) true true :=
  Stable.ofCol k (fun c => ∃ v l, c = some v :: l ∧ firstSome l = x) (fun _ => Iff.rfl)
    (fun v _ _ ⟨_, l, e, h⟩ => ⟨v, l, congrArg (modFirst _) e, h⟩)
    (fun _ ha => Act.excluded ha)
    (fun _ v _ _ ⟨_, l, e, h⟩ => ⟨v, l, congrArg (·.set 0 (some v)) e, h⟩)

def profile (r : Reg) : List (Option Nat) := r.map (fun m => Scope.get? m 0)

theorem get0_of_profile (r r' : Reg) (h : profile r = profile r') : r.get? 0 = r'.get? 0 := by
  rw [Reg.get?_eq_col, Reg.get?_eq_col]; exact congrArg firstSome h

-- `profile r` is the column of key 0, and `Act.offCounter` rules out every operation on it
theorem stable_profile (l : List (Option Nat)) : Stable (fun b => profile b = l) Act.offCounter true false :=
  Stable.ofCol 0 (· = l) (fun _ => Iff.rfl) (fun _ ha => ha.elim (fun h => nomatch h.2) fun ⟨_, ha⟩ => nomatch ha)
    (fun _ ha => nomatch ha)
    (fun _ _ ha => by
      rcases ha with ⟨_, h, _⟩ | ⟨_, ha⟩
      · cases h
      · cases ha)

theorem opRun_profile (s : Script) (o : Op) (ho : Op.sat Act.offCounter false o = true) (σ : St) :
    profile (opRun s o σ).1.reg = profile σ.reg :=
  (inv_kept s Act.offCounter false).op o ho σ _ (stable_profile _) rfl

/-! ### Scope by scope: which of the caller's scopes hold a key -/

/-- Scope by scope (innermost first): wherever `L` says `true`, the scope has `k`. -/
def HasAt (k : Nat) : List Bool → Reg → Prop
  | [], _ => True
  | _ :: _, [] => True
  | l :: L, m :: r => (l = true → m.has k = true) ∧ HasAt k L r

theorem hasAt_self (k : Nat) (r : Reg) : HasAt k (r.map (fun m => m.has k)) r := by
  induction r with
  | nil => trivial
  | cons _ r ih => exact ⟨fun h => h, ih⟩

theorem HasAt.getElem? {k : Nat} {L : List Bool} {r : Reg} (h : HasAt k L r) {i : Nat} {m : Scope}
    (hm : r[i]? = some m) (hl : L[i]? = some true) : m.has k = true := by
  induction L generalizing r i with
  | nil => cases hl
  | cons l L ih =>
    cases r with
    | nil => cases hm
    | cons m' r =>
      cases i with
      | zero => cases hm; cases hl; exact h.1 rfl
      | succ i => exact ih h.2 hm hl

theorem hasAt_kept {k : Nat} {r r' : Reg} (hlen : r'.length = r.length) (hq : HasAt k (r.map fun m => m.has k) r')
    {i : Nat} {m : Scope} (hi : r[i]? = some m) (h : m.has k = true) : ∃ m', r'[i]? = some m' ∧ m'.has k = true := by
  have hi' : i < r'.length := hlen ▸ (List.getElem?_eq_some_iff.mp hi).1
  exact ⟨r'[i], List.getElem?_eq_getElem hi', hq.getElem? (List.getElem?_eq_getElem hi')
    (by rw [List.getElem?_map, hi, Option.map_some, h])⟩

/-- `HasAt` read off the column. -/
def Covers : List Bool → List (Option Nat) → Prop
  | l :: L, x :: c => (l = true → x.isSome = true) ∧ Covers L c
  | _, _ => True

theorem hasAt_iff (k : Nat) (L : List Bool) (r : Reg) : HasAt k L r ↔ Covers L (Reg.col r k) := by
  induction L generalizing r with
  | nil => exact Iff.rfl
  | cons l L ih =>
    cases r with
    | nil => exact Iff.rfl
    | cons m r => exact and_congr (by rw [Scope.has_iff_get]) (ih r)

theorem Covers.modFirst {g : Nat → Option Nat} (hg : ∀ v, (g v).isSome = true) {L : List Bool} {c : List (Option Nat)}
    (h : Covers L c) : Covers L (modFirst g c) := by
  induction c generalizing L with
  | nil => exact h
  | cons x c ih =>
    cases L with
    | nil => trivial
    | cons l L =>
      cases x with
      | none => exact ⟨h.1, ih h.2⟩
      | some v => exact ⟨fun _ => hg v, h.2⟩

theorem Covers.put {L : List Bool} {c : List (Option Nat)} (h : Covers L c) (v : Nat) : Covers L (c.set 0 (some v)) := by
  cases c with
  | nil => exact h
  | cons x c =>
    cases L with
    | nil => trivial
    | cons l L => exact ⟨fun _ => rfl, h.2⟩

theorem stable_hasAt (k : Nat) (L : List Bool) (Lp : Bool) : Stable (HasAt k L) (Act.keeps k) true Lp :=
  Stable.ofCol k (Covers L) (hasAt_iff k L) (fun _ _ _ h => h.modFirst fun _ => rfl)
    (fun _ ha => Act.excluded ha)
    (fun _ v _ _ h => h.put v)

end MahfModel.Config
