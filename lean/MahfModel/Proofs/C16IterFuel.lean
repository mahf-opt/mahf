/- Equations of the loop-counter interpreter `lexec` / `lexecs` / `lloop`: without fuel, and one per shape of component
(sequencing as `Option.bind`, the two arms of a branch as one call). -/
import MahfModel.Model.TemplatesLoops
namespace MahfModel.Tpl

theorem lexec_zero (o : LOracle) (d : Nat) (c : LComp) (s : LSt) : lexec o 0 d c s = none := by
  simp only [lexec]

theorem lexecs_zero (o : LOracle) (d : Nat) (cs : LComps) (s : LSt) : lexecs o 0 d cs s = none := by
  simp only [lexecs]

theorem lloop_zero (o : LOracle) (d : Nat) (c : LCond) (b : LComp) (p : Nat) (s : LSt) : lloop o 0 d c b p s = none := by
  simp only [lloop]

section equations
variable (o : LOracle) (fuel d : Nat) (s : LSt)

theorem lexec_leaf (rp : Bool) : lexec o (fuel + 1) d (.leaf rp) s =
    if o.fails s.tick || (rp && !s.prog) then none else some { s with tick := s.tick + 1 } :=
  rfl

theorem lexec_seq (cs : LComps) : lexec o (fuel + 1) d (.seq cs) s = lexecs o fuel d cs s :=
  rfl

theorem lexec_loop (c : LCond) (b : LComp) : lexec o (fuel + 1) d (.loop c b) s = lloop o fuel d c b 0 s :=
  rfl

theorem lexec_branch (t e : LComp) : lexec o (fuel + 1) d (.branch t e) s =
    lexec o fuel d (if o.cond s.tick then t else e) { s with tick := s.tick + 1 } := by
  simp only [lexec]; split <;> rfl

theorem lexec_scope (b : LComp) : lexec o (fuel + 1) d (.scope b) s =
    (lexec o fuel d b { s with ctrs := 0 :: s.ctrs, prog := s.prog || levelProg b }).map
      fun s1 => { s1 with ctrs := s1.ctrs.tail, prog := s.prog } := by
  simp only [lexec]; split <;> simp [*]

theorem lexecs_nil : lexecs o (fuel + 1) d .nil s = some s :=
  rfl

theorem lexecs_cons (c : LComp) (rest : LComps) : lexecs o (fuel + 1) d (.cons c rest) s =
    (lexec o fuel d c s).bind (lexecs o fuel d rest) := by
  simp only [lexecs]; split <;> simp [*]

theorem lloop_nil (c : LCond) (b : LComp) (p : Nat) (hs : s.ctrs = []) : lloop o (fuel + 1) d c b p s = none := by
  simp only [lloop, hs]

theorem lloop_cons (c : LCond) (b : LComp) (p : Nat) {ctr : Nat} {r : List Nat} (hs : s.ctrs = ctr :: r) :
    lloop o (fuel + 1) d c b p s =
      if c.eval ctr (o.cond s.tick) then
        (lexec o fuel (d + 1) b { s with tick := s.tick + 1 }).bind fun s1 =>
          lloop o fuel d c b (p + 1) { s1 with ctrs := bump s1.ctrs, passes := d :: s1.passes }
      else some { s with tick := s.tick + 1, exact := s.exact && c.okCount p } := by
  simp only [lloop, hs]
  split
  · split <;> simp [*]
  · rfl

end equations

end MahfModel.Tpl
