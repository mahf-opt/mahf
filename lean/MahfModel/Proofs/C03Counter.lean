/-
C03 — soundness of the counter analysis (`ctr_sound`: what `Stmt.ctr` and `Stmt.flat` promise about the column of
key 0 holds of every run), and from it: a scope never changes the counters its caller sees; trees without a loop
outside their scopes leave the visible counter alone.
-/
import MahfModel.Proofs.C03Scopes
namespace MahfModel.Config

/-- The innermost scope holds a counter. -/
def head0 : Reg → Bool
  | [] => false
  | m :: _ => (m.get? 0).isSome

/-- What the analysis promises about a run `x` from `σ`; `h'` is the result of `Stmt.ctr`, `fl` is `Stmt.flat`.
`len`: depth kept. `tail`: the counters of all scopes but the innermost are untouched. `mono`: a counter in the
innermost scope stays. `post`: if the run ends `ok` and the analysis said `h'`, the innermost scope has a counter.
`full`: a flat program touches no counter at all. -/
structure CtrOut (h' : Bool) (fl : Bool) (σ : St) (x : St × Res) : Prop where
  len : x.1.reg.length = σ.reg.length
  tail : (profile x.1.reg).tail = (profile σ.reg).tail
  mono : head0 σ.reg = true → head0 x.1.reg = true
  post : x.2 = .ok → h' = true → head0 x.1.reg = true
  full : fl = true → profile x.1.reg = profile σ.reg

theorem head0_of_profile {r r' : Reg} (h : profile r' = profile r) : head0 r' = head0 r := by
  cases r <;> cases r' <;> first | rfl | cases h | exact congrArg Option.isSome (List.cons.inj h).1

theorem ctrOut_of_profile {h' fl : Bool} {σ : St} {x : St × Res} (hp : profile x.1.reg = profile σ.reg)
    (hpost : x.2 = .ok → h' = true → head0 σ.reg = true) : CtrOut h' fl σ x where
  len := by have := congrArg List.length hp; rwa [profile, profile, List.length_map, List.length_map] at this
  tail := by rw [hp]
  mono h := by rw [head0_of_profile hp]; exact h
  post h1 h2 := by rw [head0_of_profile hp]; exact hpost h1 h2
  full _ := hp

theorem ctrOut_seq {h1 h2 f1 f2 : Bool} {σ : St} {x : St × Res} {k : St → St × Res}
    (hx : CtrOut h1 f1 σ x) (hk : x.2 = .ok → CtrOut h2 f2 x.1 (k x.1)) :
    CtrOut h2 (f1 && f2) σ (andThen x k) := by
  obtain ⟨σ1, r1⟩ := x
  cases r1
  · have hk := hk rfl
    exact ⟨hk.len.trans hx.len, hk.tail.trans hx.tail, fun h => hk.mono (hx.mono h), hk.post,
      fun h => have h := Bool.and_eq_true_iff.mp h; (hk.full h.2).trans (hx.full h.1)⟩
  all_goals
    exact ⟨hx.len, hx.tail, hx.mono, fun h => (by cases h), fun h => hx.full (Bool.and_eq_true_iff.mp h).1⟩

theorem ctrOut_weaken {h1 h2 f1 f2 : Bool} {σ : St} {x : St × Res} (hx : CtrOut h1 f1 σ x)
    (hh : h2 = true → x.2 = .ok → head0 x.1.reg = true) (hf : f2 = true → f1 = true) : CtrOut h2 f2 σ x :=
  { len := hx.len, tail := hx.tail, mono := hx.mono, post := fun a b => hh b a, full := fun h => hx.full (hf h) }

theorem ctrOut_cthen {h' fl : Bool} {σ : St} {x : St × CRes} {k : Bool → St → St × Res}
    (hx : x.1.reg = σ.reg) (hk : ∀ b, CtrOut h' fl x.1 (k b x.1)) : CtrOut h' fl σ (cthen x k) := by
  obtain ⟨σ1, b | _⟩ := x
  · exact ⟨hx ▸ (hk b).len, hx ▸ (hk b).tail, hx ▸ (hk b).mono, (hk b).post, hx ▸ (hk b).full⟩
  · exact ctrOut_of_profile (congrArg profile hx) fun h => by cases h

theorem whileN_ctr {h fl : Bool} {cond : St → St × CRes} {body : St → St × Res}
    (hc : ∀ σ, (cond σ).1.reg = σ.reg)
    (hb : ∀ σ, σ.reg ≠ [] → (h = true → head0 σ.reg = true) → ∃ h1, CtrOut h1 fl σ (body σ)) :
    ∀ (n : Nat) (σ : St), σ.reg ≠ [] → (h = true → head0 σ.reg = true) →
      CtrOut h fl σ (whileN cond body n σ) := by
  intro n
  induction n with
  | zero => exact fun σ _ hσ => ctrOut_of_profile rfl fun _ => hσ
  | succ n ih =>
    intro σ hne hσ
    rw [whileN_succ]
    have hcr := hc σ
    refine ctrOut_cthen hcr fun b => ?_
    cases b
    · exact ctrOut_of_profile rfl fun _ => hcr ▸ hσ
    · obtain ⟨h1, hb1⟩ := hb (cond σ).1 (hcr ▸ hne) (hcr ▸ hσ)
      have key := ctrOut_seq hb1 fun _ =>
        ih _ (ne_nil_of_len hb1.len (hcr ▸ hne)) fun hh => hb1.mono (hcr ▸ hσ hh)
      exact ctrOut_weaken key (fun hh hok => key.post hok hh) fun hf => by rw [hf]; rfl

theorem incr_of_head0 {r : Reg} (h0 : head0 r = true) :
    ∃ r', r.incr = some r' ∧ r'.length = r.length ∧ (profile r').tail = (profile r).tail ∧ head0 r' = true := by
  cases r with
  | nil => cases h0
  | cons m t =>
    cases hm : m.get? 0 with
    | none => rw [head0, hm] at h0; cases h0
    | some v =>
      exact ⟨m.put 0 (v + 1) :: t, by rw [Reg.incr_cons, hm], rfl, rfl, by rw [head0, Scope.get_put, if_pos rfl]; rfl⟩

theorem ctr_sound (s : Script) (f : Nat) (p : Stmt) (h h' : Bool) (σ : St)
    (hp : p.all (Op.sat Act.offCounter true) (fun _ => true) = true) (hc : p.ctr h = some h') (hne : σ.reg ≠ [])
    (hσ : h = true → head0 σ.reg = true) : CtrOut h' p.flat σ (srun s f p σ) := by
  fun_induction Stmt.ctr p h generalizing h' σ with
  | case1 h => cases hc; exact ctrOut_of_profile rfl fun _ => hσ  -- `skip`
  | case2 ev acts h =>  -- a leaf call
    cases hc
    exact ctrOut_of_profile (opRun_profile s (.prim ev acts) hp σ) fun _ => hσ
  | case3 =>  -- `counter0`
    cases hc
    obtain ⟨reg, tr⟩ := σ
    cases reg with
    | nil => exact absurd rfl hne
    | cons m t =>
      have h0 : head0 (m.put 0 0 :: t) = true := by rw [head0, Scope.get_put, if_pos rfl]; rfl
      exact ⟨rfl, rfl, fun _ => h0, fun _ _ => h0, fun h => by cases h⟩
  | case4 =>  -- `bump` with a counter in the innermost scope
    cases hc
    obtain ⟨r', hr', a, b, c⟩ := incr_of_head0 (hσ rfl)
    simp only [srun, opRun, bump, hr']
    exact ⟨a, b, fun _ => c, fun _ _ => c, fun h => by cases h⟩
  | case6 id mg h =>  -- a merge hook (exporting nothing)
    cases hc
    exact ctrOut_of_profile (opRun_profile s (.merge id mg) hp σ) fun _ => hσ
  | case7 a b h h1 ha iha ihb =>  -- `seq a b`
    have hp := Bool.and_eq_true_iff.mp hp
    have ia := iha h1 σ hp.1 ha hne hσ
    exact ctrOut_seq ia fun hok => ihb h' _ hp.2 hc (ne_nil_of_len ia.len hne) fun hh => ia.post hok hh
  | case9 c b h h1 hb ih =>  -- `loop c b`
    cases hc
    exact whileN_ctr (condEval_reg s c)
      (fun x hxne hx => ⟨h1, ih h1 x (Bool.and_eq_true_iff.mp hp).2 hb hxne hx⟩) f σ hne hσ
  | case11 c t e h h1 h2 he ht iht ihe =>  -- `ite c t e`
    have hp := Bool.and_eq_true_iff.mp hp
    cases hc
    rw [srun_ite]
    have hcr := condEval_reg s c σ
    refine ctrOut_cthen hcr fun b => ?_
    -- either branch keeps a counter the innermost scope had
    cases b
    · have ie := ihe h2 _ hp.2 he (hcr ▸ hne) (hcr ▸ hσ)
      exact ctrOut_weaken ie (fun hh _ => ie.mono (hcr ▸ hσ hh)) fun hf => (Bool.and_eq_true_iff.mp hf).2
    · have it := iht h1 _ (Bool.and_eq_true_iff.mp hp.1).2 ht (hcr ▸ hne) (hcr ▸ hσ)
      exact ctrOut_weaken it (fun hh _ => it.mono (hcr ▸ hσ hh)) fun hf => (Bool.and_eq_true_iff.mp hf).1
  | case13 b h h1 hb ih =>  -- `inScope b`
    cases hc
    have ib := ih h1 (push σ) hp hb (List.cons_ne_nil _ _) fun hh => by cases hh
    refine ctrOut_of_profile ?_ fun _ => hσ
    show profile (srun s f b (push σ)).1.reg.tail = profile σ.reg
    rw [profile, List.map_tail]; exact ib.tail
  -- `bump` without a counter in sight, or a part on which the analysis gave up
  | case5 | case8 | case10 | case12 | case14 => cases hc

/-- A scope never changes the counters the caller sees (at any depth), as long as leaves leave
`Iterations` alone: loops inside the scope count on counters of their own. Holds for every outcome. -/
theorem scope_profile (s : Script) (f : Nat) (b : Comp)
    (hb : b.sat Act.offCounter (fun _ => true) true = true) (σ : St) :
    profile (exec s f (.scope b) σ).1.reg = profile σ.reg := by
  rw [exec_scope]
  have ib := ctr_sound s f (prog b) false b.hasLoop (push σ) (prog_all _ _ true b hb)
    (prog_ctr b) (List.cons_ne_nil _ _) fun hh => by cases hh
  show profile (srun s f (prog b) (push σ)).1.reg.tail = profile σ.reg
  rw [profile, List.map_tail]; exact ib.tail

theorem srun_counter_same (s : Script) (f : Nat) (p : Stmt) {h' : Bool}
    (hp : p.all (Op.sat Act.offCounter true) (fun _ => true) = true) (hc : p.ctr false = some h')
    (hf : p.flat = true) (σ : St) : (srun s f p σ).1.reg.get? 0 = σ.reg.get? 0 := by
  by_cases hne : σ.reg = []
  · have hlen := srun_depth s f p σ
    rw [hne] at hlen ⊢
    rw [List.eq_nil_of_length_eq_zero hlen]
  · exact get0_of_profile _ _ ((ctr_sound s f p false h' σ hp hc hne fun hh => by cases hh).full hf)

/-- Executing a tree with no loop outside its scopes, whose leaves leave `Iterations` alone, does not
change the visible counter. -/
theorem exec_counter_same_of_noTopLoop (s : Script) (f : Nat) (b : Comp)
    (hb : b.sat Act.offCounter (fun _ => true) true = true) (hl : b.hasLoop = false) (σ : St) :
    (exec s f b σ).1.reg.get? 0 = σ.reg.get? 0 := by
  rw [exec_eq]
  exact srun_counter_same s f _ (execProg_all _ _ true b hb)
    (execProg_ctr b false fun x => by rw [hl] at x; cases x) (execProg_flat b hl) σ

/-- `Loop::init` leaves `Iterations = 0` in sight: the fresh counter is inserted first, and neither the
condition's `init` nor that of a body without a loop outside its scopes touches it. -/
theorem initC_loop_counter (s : Script) (c : Cond) (b : Comp)
    (hb : b.sat Act.offCounter (fun _ => true) true = true) (hl : b.hasLoop = false) {σ : St}
    (hne : σ.reg ≠ []) : (initC s (.loop c b) σ).1.reg.get? 0 = some 0 := by
  rw [initC_eq s 0]
  -- after `counter0` the rest of the `init` program is flat
  exact (srun_counter_same s 0 (.seq (condProg .cinit c) (initProg b))
    (Stmt.all_seq (condProg_all _ _ true .cinit (by decide) c) (initProg_all _ _ true b hb))
    (ctr_seq (condProg_ctr .cinit c false) (initProg_ctr b false))
    (Bool.and_eq_true_iff.mpr ⟨condProg_flat .cinit c, initProg_flat b hl⟩) (newCounter σ)).trans
    (by rw [newCounter, Reg.get_insert _ _ _ _ hne, if_pos rfl])

end MahfModel.Config
