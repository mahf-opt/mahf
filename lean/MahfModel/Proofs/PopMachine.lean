/- The functions of the population machine (`Model/PopMachine.lean`) as far as no order on the objective values is needed:
whatever `<` is, evaluator, selection loop, best update, archive update and re-insertion only hand on individuals they were given
(`mem_map_evaluateWith`, `bestIndividual_mem`, `bestUpdate_cases`, `archiveUpdate_mem`, `archiveInto_spec`); what each step function
leaves behind (`*Step_some`); the induction from `pmStep` to `pmRun`. Below `Proofs/C05`, `Proofs/C07` and `Props/C06`; imports no Mathlib. -/
import MahfModel.Model.PopMachine
import MahfModel.Proofs.Pick
namespace MahfModel.PopMachine

variable {O : Type}

theorem Ind.clone_eq (i : Ind O) : i.clone = i := by cases i; rfl

theorem Ind.cloneFrom_eq (tgt src : Ind O) : tgt.cloneFrom src = src := by cases src; rfl

theorem evalStep_nil (f : Nat → O) (pm : PM O) (h : pm.stack = []) : evalStep f pm = pm := by
  rw [evalStep, h]

theorem evalStep_cons (f : Nat → O) (pm : PM O) (p : List (Ind O)) (rest : List (List (Ind O)))
    (h : pm.stack = p :: rest) : evalStep f pm =
      { pm with stack := p.map (Ind.evaluateWith f) :: rest, evals := pm.evals + p.length,
                calls := pm.calls ++ p.map Ind.solution } := by
  rw [evalStep, h]

theorem map_evaluateWith_sol (f : Nat → O) (p : List (Ind O)) :
    (p.map (Ind.evaluateWith f)).map (·.sol) = p.map (·.sol) := by
  induction p with
  | nil => rfl
  | cons i is ih => simp [Ind.evaluateWith]

theorem mem_map_evaluateWith (f : Nat → O) (p : List (Ind O)) (i : Ind O)
    (h : i ∈ p.map (Ind.evaluateWith f)) : i.obj = some (f i.sol) := by
  rcases List.mem_map.mp h with ⟨j, _, rfl⟩
  rfl

theorem keyed_spec (p : List (Ind O)) (kp : List (Ind O × O)) (h : keyed p = some kp) :
    kp.map (·.1) = p ∧ ∀ x ∈ kp, x.1.obj = some x.2 := by
  induction p generalizing kp with
  | nil => cases h; exact ⟨rfl, fun _ hx => (nomatch hx)⟩
  | cons i is ih =>
    rw [keyed] at h
    split at h
    · rename_i o r ho hr
      cases h
      obtain ⟨h1, h2⟩ := ih r hr
      exact ⟨congrArg (i :: ·) h1, List.forall_mem_cons.mpr ⟨ho, h2⟩⟩
    · cases h

theorem keyed_some_of_all (p : List (Ind O)) (h : ∀ i ∈ p, i.obj.isSome) : ∃ kp, keyed p = some kp := by
  induction p with
  | nil => exact ⟨[], rfl⟩
  | cons i is ih =>
    obtain ⟨hi, his⟩ := List.forall_mem_cons.mp h
    obtain ⟨r, hr⟩ := ih his
    obtain ⟨o, ho⟩ := Option.isSome_iff_exists.mp hi
    exact ⟨(i, o) :: r, by rw [keyed, ho, hr]⟩

theorem archiveInto_cons [DecidableEq O] (e : Ind O) (es pop : List (Ind O)) :
    archiveInto (e :: es) pop = archiveInto es (if pop.contains e then pop else pop ++ [e.clone]) := rfl

theorem archiveInto_spec [DecidableEq O] (arch pop : List (Ind O)) :
    ∃ extra, archiveInto arch pop = pop ++ extra ∧ extra.Nodup ∧ (∀ e ∈ extra, e ∈ arch ∧ e ∉ pop) ∧
      ∀ e ∈ arch, e ∈ archiveInto arch pop := by
  induction arch generalizing pop with
  | nil => exact ⟨[], (List.append_nil _).symm, List.nodup_nil, fun _ h => (nomatch h), fun _ h => (nomatch h)⟩
  | cons e es ih =>
    rw [archiveInto_cons]
    by_cases hc : pop.contains e = true
    · rw [if_pos hc]
      obtain ⟨extra, h1, h2, h3, h4⟩ := ih pop
      refine ⟨extra, h1, h2, fun x hx => ⟨List.mem_cons_of_mem _ (h3 x hx).1, (h3 x hx).2⟩,
        List.forall_mem_cons.mpr ⟨?_, h4⟩⟩
      rw [h1]; exact List.mem_append_left _ (List.contains_iff_mem.mp hc)
    · rw [if_neg hc, Ind.clone_eq]
      obtain ⟨extra, h1, h2, h3, h4⟩ := ih (pop ++ [e])
      have hne : e ∉ pop := fun h => hc (List.contains_iff_mem.mpr h)
      have hlast : e ∈ pop ++ [e] := List.mem_append_right _ (List.mem_singleton_self e)
      refine ⟨e :: extra, by rw [h1, List.append_assoc]; rfl, List.nodup_cons.mpr ⟨fun he => (h3 e he).2 hlast, h2⟩,
        List.forall_mem_cons.mpr ⟨⟨List.mem_cons_self, hne⟩, fun x hx => ?_⟩,
        List.forall_mem_cons.mpr ⟨by rw [h1]; exact List.mem_append_left _ hlast, h4⟩⟩
      exact ⟨List.mem_cons_of_mem _ (h3 x hx).1, fun hp => (h3 x hx).2 (List.mem_append_left _ hp)⟩

theorem archiveInto_mem [DecidableEq O] (arch pop : List (Ind O)) : ∀ x ∈ archiveInto arch pop, x ∈ pop ∨ x ∈ arch := by
  obtain ⟨extra, h1, _, h3, _⟩ := archiveInto_spec arch pop
  intro x hx
  rw [h1] at hx
  rcases List.mem_append.mp hx with h | h
  · exact Or.inl h
  · exact Or.inr (h3 x h).1

section
variable [LT O] [DecidableLT O]

theorem minByKey_none {α : Type} (key : α → O) (l : List α) : minByKey key l = none ↔ l = [] := by
  cases l
  · exact ⟨fun _ => rfl, fun _ => rfl⟩
  · exact ⟨fun h => (nomatch h), fun h => (nomatch h)⟩

/-- Whatever `<` is, the selection loop returns a member. -/
theorem minByKey_mem {α : Type} (key : α → O) (l : List α) (m : α) (h : minByKey key l = some m) : m ∈ l := by
  cases l with
  | nil => cases h
  | cons x xs =>
    cases h
    obtain ⟨pre, post, e, _⟩ := Pick.foldPick_first (fun y m => key y < key m) (fun _ => True) (fun _ _ => True)
      (fun _ _ => True) (fun _ _ _ _ _ => ⟨trivial, fun _ _ => trivial, fun _ _ => trivial⟩) (fun _ _ _ _ _ => trivial) x xs
      (fun _ _ => trivial)
    exact e ▸ List.mem_append_right _ List.mem_cons_self

theorem bestIndividual_some (p : List (Ind O)) (r : Option (Ind O)) (h : bestIndividual p = some r) :
    ∃ kp, keyed p = some kp ∧ r = (minByKey (fun x : Ind O × O => x.2) kp).map (·.1) := by
  unfold bestIndividual at h
  split at h
  · cases h
  · rename_i kp hk
    exact ⟨kp, hk, (Option.some.inj h).symm⟩

theorem bestIndividual_none_iff (p : List (Ind O)) : bestIndividual p = some none ↔ p = [] := by
  constructor
  · intro h
    obtain ⟨kp, hk, hm⟩ := bestIndividual_some p _ h
    obtain rfl : kp = [] := (minByKey_none _ kp).mp (Option.map_eq_none_iff.mp hm.symm)
    exact (keyed_spec p [] hk).1.symm
  · rintro rfl; rfl

theorem bestIndividual_mem (p : List (Ind O)) (m : Ind O) (h : bestIndividual p = some (some m)) : m ∈ p := by
  obtain ⟨kp, hk, hm⟩ := bestIndividual_some p _ h
  obtain ⟨mk, hmk, rfl⟩ := Option.map_eq_some_iff.mp hm.symm
  exact (keyed_spec p kp hk).1 ▸ List.mem_map_of_mem (minByKey_mem _ kp mk hmk)

/-- Without looking at the comparison: the record afterwards is the candidate or the record before. -/
theorem bestUpdate_cases (best b' : Option (Ind O)) (c : Ind O) (r : Bool) (h : bestUpdate best c = some (b', r)) :
    b' = some c ∨ b' = best := by
  unfold bestUpdate at h
  split at h
  · cases h; cases c; exact Or.inl rfl
  · split at h
    · split at h <;> cases h
      · cases c; exact Or.inl rfl
      · exact Or.inr rfl
    · cases h

theorem insertByKey_perm {α : Type} (key : α → O) (x : α) (l : List α) : (insertByKey key x l).Perm (x :: l) := by
  induction l with
  | nil => simp [insertByKey]
  | cons y ys ih =>
    simp only [insertByKey]
    split
    · exact (List.Perm.cons y ih).trans (List.Perm.swap x y ys)
    · exact List.Perm.refl _

theorem sortByKey_perm {α : Type} (key : α → O) (l : List α) : (sortByKey key l).Perm l := by
  induction l with
  | nil => simp [sortByKey]
  | cons x xs ih => exact (insertByKey_perm key x _).trans (List.Perm.cons x ih)

/-- Whatever `<` is, an archive update keeps members of archive and population (the first `k` of an arrangement of them). -/
theorem archiveUpdate_mem (arch pop arch' : List (Ind O)) (k : Nat) (h : archiveUpdate arch pop k = some arch') :
    ∀ x ∈ arch', x ∈ arch ++ pop := by
  simp only [archiveUpdate] at h
  split at h
  · cases h; exact fun x hx => List.mem_of_mem_take hx
  · obtain ⟨kl, hk, rfl⟩ := Option.map_eq_some_iff.mp h
    intro x hx
    rw [List.map_take] at hx
    exact ((keyed_spec _ kl hk).1 ▸ (sortByKey_perm (fun x : Ind O × O => x.2) kl).map _).mem_iff.mp (List.mem_of_mem_take hx)

theorem bestUpdateStep_some {pm pm' : PM O} (h : bestUpdateStep pm = some pm') :
    ∃ p rest, pm.stack = p :: rest ∧ ((p = [] ∧ pm' = pm) ∨
      ∃ c b' r, bestIndividual p = some (some c) ∧ bestUpdate pm.best c = some (b', r) ∧ pm' = { pm with best := b' }) := by
  unfold bestUpdateStep at h
  split at h
  · cases h
  · refine ⟨_, _, ‹_›, ?_⟩
    split at h
    · cases h
    · cases h; exact Or.inl ⟨(bestIndividual_none_iff _).mp ‹_›, rfl⟩
    · obtain ⟨⟨b', r⟩, hr, rfl⟩ := Option.map_eq_some_iff.mp h
      exact Or.inr ⟨_, b', r, ‹_›, hr, rfl⟩

theorem archiveUpdateStep_some {k : Nat} {pm pm' : PM O} (h : archiveUpdateStep k pm = some pm') :
    ∃ p rest a, pm.stack = p :: rest ∧ archiveUpdate pm.archive p k = some a ∧ pm' = { pm with archive := a } := by
  unfold archiveUpdateStep at h
  split at h
  · cases h
  · obtain ⟨a, ha, rfl⟩ := Option.map_eq_some_iff.mp h
    exact ⟨_, _, a, ‹_›, ha, rfl⟩

omit [LT O] [DecidableLT O] in
theorem archiveIntoStep_some [DecidableEq O] {pm pm' : PM O} (h : archiveIntoStep pm = some pm') :
    ∃ p rest, pm.stack = p :: rest ∧ pm' = { pm with stack := archiveInto pm.archive p :: rest } := by
  unfold archiveIntoStep at h
  split at h
  · cases h
  · cases h; exact ⟨_, _, ‹_›, rfl⟩

/-- What every step hands on holds after every run. -/
theorem pmRun_inv [DecidableEq O] {f : Nat → O} {I : PM O → Prop}
    (step : ∀ pm pm' op, I pm → pmStep f pm op = some pm' → I pm') :
    ∀ (ops : List PMOp) (pm pm' : PM O), I pm → pmRun f pm ops = some pm' → I pm' := by
  intro ops
  induction ops with
  | nil => rintro pm _ h ⟨⟩; exact h
  | cons op ops ih =>
    intro pm pm' h hr
    rw [pmRun] at hr
    split at hr
    · cases hr
    · exact ih _ pm' (step pm _ op h ‹_›) hr

end
end MahfModel.PopMachine
