/- C05 for a state that is used again (`Model/PopMachineMem.lean`: `callerReset`, `configRun`, `reruns`, the `init` steps):
an `init` replaces the memory it owns and touches nothing else (`init_step`), and only `GlobalBestParticleUpdate` ever writes
the PSO global best (`memRun_gbest`), the one memory no `init` replaces. -/
import MahfModel.Proofs.C05Mem
namespace MahfModel.PopMachine

variable {O : Type}

/-- For every memory that holds individuals: the configuration OWNS it (the `init` that replaces it is among
its `init`s), or what it holds is valid for the objective function `g` anyway. The PSO global best is not
listed: no `init` replaces it (`initGbest` keeps an entry that is already there). -/
def OwnedOrValid (g : Nat → O) (inits : List MemOp) (x : PMX O) : Prop :=
  (MemOp.initBest ∈ inits ∨ ∀ b, x.pm.best = some b → Valid g b) ∧
  (MemOp.initArchive ∈ inits ∨ AllValid g x.pm.archive) ∧
  (MemOp.initPbest ∈ inits ∨ AllValid g x.pbest) ∧
  (MemOp.initMols ∈ inits ∨ AllValid g x.mols)

/-- The population stack and the PSO global best are valid for `g`. -/
def StackGbestValid (g : Nat → O) (x : PMX O) : Prop :=
  (∀ p ∈ x.pm.stack, AllValid g p) ∧ (∀ gb, x.gbest = some gb → Valid g gb)

section
variable [LT O] [DecidableLT O] [DecidableEq O]

theorem memRun_append (f : Nat → O) (a b : List MemOp) (x : PMX O) :
    memRun f x (a ++ b) = match memRun f x a with
      | .ok x' => memRun f x' b
      | .err x' => .err x'
      | .panic => .panic := by
  induction a generalizing x with
  | nil => rfl
  | cons op a ih =>
    rw [List.cons_append, memRun, memRun]
    cases memStep f x op with
    | ok x' => exact ih x'
    | err x' => rfl
    | panic => rfl

theorem init_step (g : Nat → O) (op : MemOp) (rest : List MemOp) (x : PMX O) (hop : op.isInit = true)
    (hs : StackGbestValid g x) (ho : OwnedOrValid g (op :: rest) x) :
    ∃ x1, memStep g x op = .ok x1 ∧ StackGbestValid g x1 ∧ OwnedOrValid g rest x1 := by
  obtain ⟨o1, o2, o3, o4⟩ := ho
  have tl : ∀ {op' : MemOp} {P : Prop}, op' ≠ op → (op' ∈ op :: rest ∨ P) → (op' ∈ rest ∨ P) := fun hne h =>
    h.imp_left fun hm => (List.mem_cons.mp hm).resolve_left hne
  cases op with
  | initBest => exact ⟨_, rfl, hs, Or.inr fun _ h => (nomatch h), tl nofun o2, tl nofun o3, tl nofun o4⟩
  | initArchive => exact ⟨_, rfl, hs, tl nofun o1, Or.inr (allValid_nil g), tl nofun o3, tl nofun o4⟩
  | initPbest => exact ⟨_, rfl, hs, tl nofun o1, tl nofun o2, Or.inr (allValid_nil g), tl nofun o4⟩
  | initMols => exact ⟨_, rfl, hs, tl nofun o1, tl nofun o2, tl nofun o3, Or.inr (allValid_nil g)⟩
  | initGbest =>
    refine ⟨_, rfl, ⟨hs.1, fun gb hgb => hs.2 gb ?_⟩, tl nofun o1, tl nofun o2, tl nofun o3, tl nofun o4⟩
    revert hgb
    cases x.gbest <;> exact id
  | initEvals => exact ⟨_, rfl, hs, tl nofun o1, tl nofun o2, tl nofun o3, tl nofun o4⟩
  | _ => cases hop

/-- A sequence of runs leaves a state behind iff its first run does (completed, or stopped by an `Err`) and the others do
from there. -/
theorem reruns_cons_state {x xn : PMX O} {r : (Nat → O) × List MemOp × List MemOp}
    {rest : List ((Nat → O) × List MemOp × List MemOp)} (h : (reruns x (r :: rest)).state? = some xn) :
    ∃ x', (configRun r.1 r.2.1 r.2.2 x).state? = some x' ∧ (reruns x' rest).state? = some xn := by
  rw [reruns] at h
  cases hc : configRun r.1 r.2.1 r.2.2 x with
  | ok x' => rw [hc] at h; exact ⟨x', rfl, h⟩
  | err x' => rw [hc] at h; exact ⟨x', rfl, h⟩
  | panic => rw [hc] at h; cases h

end

theorem memRun_gbest [LT O] [DecidableLT O] [DecidableEq O] (f : Nat → O) (ops : List MemOp) (x x' : PMX O)
    (hw : ∀ op ∈ ops, op.writesGbest = false) (hr : (memRun f x ops).state? = some x') : x'.gbest = x.gbest :=
  memRun_inv (I := fun y => y.gbest = x.gbest) ops
    (fun op hop y y' hy hs =>
      ((memStep_hands (P := fun _ => True) f ⟨fun _ _ => ⟨⟩, fun _ => ⟨⟩⟩ y y' op (.trivial y) hs).2 (hw op hop)).trans hy)
    x x' rfl hr

end MahfModel.PopMachine
