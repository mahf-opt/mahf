/- C02: the borrow machine. Every request has one of the effects `Eff` of `Proofs/C02Flag.lean` (`mstep_eff`), hence
`FlagInv` in every reachable state and values that change by writes only. (The multi-borrow entry points are in `Proofs/C02Multi.lean`.) -/
import MahfModel.Proofs.C02Stmt
import MahfModel.Proofs.C02Borrow
namespace MahfModel.Borrow
open MahfModel.Registry

/-- Requests that do not write a value: acquiring, releasing, reading, probing. -/
def nonWriting : MOp → Bool
  | .bor _ | .borMut _ | .borP _ | .borMutP _ | .parBor _ _ | .parBorMut _ _ | .drop _ | .rd _ | .locks => true
  | .sh o => ROp.isShared o && (match o with | .set _ _ => false | _ => true)
  | .wr _ _ | .ex _ => false

theorem mstep_eff (m : M) (op : MOp) : Eff m (!nonWriting op) (mstep m op).1 := by
  cases op with
  | parBor d k => exact par_eff m d k false
  | parBorMut d k => exact par_eff m d k true
  | bor k => rw [(mstep_bor_fst m k).1]; exact par_eff m 0 k false
  | borMut k => rw [(mstep_bor_fst m k).2]; exact par_eff m 0 k true
  | borP k => rw [(mstep_borP_fst m k).1, (mstep_bor_fst m k).1]; exact par_eff m 0 k false
  | borMutP k => rw [(mstep_borP_fst m k).2, (mstep_bor_fst m k).2]; exact par_eff m 0 k true
  | drop g =>
    simp only [mstep]
    cases hg : findGuard m.guards g with
    | none => exact .same _
    | some gd =>
      obtain ⟨hmem, hid⟩ := findGuard_some m.guards g gd hg
      subst hid
      exact .release _ gd hmem
  | rd g => simp only [mstep]; cases findGuard m.guards g <;> exact .same _
  | wr g v =>
    simp only [mstep]
    cases hg : findGuard m.guards g with
    | none => exact .same _
    | some gd =>
      simp only
      split
      · exact .write gd.idx gd.key _ (fun c _ => ⟨rfl, rfl⟩)
      · exact .same _
  | sh o =>
    simp only [mstep]
    split
    · rename_i ho
      cases o with
      | set k v =>
        simp only [step]
        rcases setValue_flags m.reg k v with h | ⟨i, f, h1, h2⟩
        · rw [h]; exact .same _
        · rw [h1]; exact .write i k f h2
      | parGet d k => simp only [step]; split <;> exact .same _
      | hasTop k | has k | find k | get k | tryGet k | req k | dump => exact .same _
      | _ => cases ho
    · exact .same _
  | ex s =>
    simp only [mstep]
    split
    · rename_i hg
      exact .excl _ hg (fun hI hn => execStmt_inv s m.reg hI hn)
    · exact .same _
  | locks => rw [mstep_locks]; exact .same _

theorem mstep_inv (m : M) (op : MOp) (h : FlagInv m) : FlagInv (mstep m op).1 := (mstep_eff m op).inv h

theorem mrun_inv (m : M) (ops : List MOp) (h : FlagInv m) : FlagInv (mrun m ops).1 := by
  induction ops generalizing m with
  | nil => exact h
  | cons op ops ih => simp only [mrun]; exact ih _ (mstep_inv m op h)

theorem nonWriting_abs (m : M) (op : MOp) (hop : nonWriting op = true) : abs (mstep m op).1.reg = abs m.reg := by
  have := mstep_eff m op
  rw [hop] at this
  exact this.abs

theorem nonWriting_run_abs (m : M) (ops : List MOp) (hops : ∀ o ∈ ops, nonWriting o = true) :
    abs (mrun m ops).1.reg = abs m.reg := by
  induction ops generalizing m with
  | nil => rfl
  | cons op ops ih =>
    simp only [mrun]
    rw [ih _ (fun o ho => hops o (by simp [ho])), nonWriting_abs m op (hops op (by simp))]

theorem mstep_drop (m : M) (h : FlagInv m) (gd : Guard) (hmem : gd ∈ m.guards) :
    mstep m (.drop gd.id) =
      ({ m with reg := releaseAt m.reg gd.idx gd.key gd.excl, guards := dropGuard m.guards gd.id }, [.ok]) := by
  simp only [mstep, findGuard_mem m.guards gd hmem h.nd]

theorem wr_run_cell (m : M) (h : FlagInv m) (gd : Guard) (hmem : gd ∈ m.guards) (hex : gd.excl = true)
    (v : Nat) (ops : List MOp) (hops : ∀ o ∈ ops, nonWriting o = true) :
    (mstep m (.wr gd.id v)).2 = [.ok] ∧ FlagInv (mrun (mstep m (.wr gd.id v)).1 ops).1 ∧
    (cellAt (mrun (mstep m (.wr gd.id v)).1 ops).1.reg gd.idx gd.key).map (·.val) = some v := by
  have hfg := findGuard_mem m.guards gd hmem h.nd
  obtain ⟨c, hc⟩ := h.guard_cell m gd hmem
  have hi : gd.idx < (abs m.reg).length := by rw [abs_length]; exact cellAt_lt m.reg gd.idx gd.key c hc
  refine ⟨by simp only [mstep, hfg, hex, if_true], mrun_inv _ ops (mstep_inv m _ h), ?_⟩
  change (scopeAt _ gd.idx).view gd.key = some v
  rw [← getD_abs, nonWriting_run_abs _ ops hops]
  simp only [mstep, hfg, hex, if_true]
  rw [abs_writeAt_cell m.reg gd.idx gd.key v c hc, getD_modifyAt _ gd.idx gd.idx _ _ hi, if_pos rfl]
  exact if_pos rfl

end MahfModel.Borrow
