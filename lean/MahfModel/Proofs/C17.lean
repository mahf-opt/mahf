/- C17, acceptance: what follows from `ExpSpec`; geometric cooling in closed form; the decision and the stack frame on any
carrier; the carrier `Ext` with the IEEE special values; the count of generator words below a probability. -/
import MahfModel.Model.Sa
import Mathlib.Algebra.Order.Field.Basic
namespace MahfModel.Sa

/-- What the theorems need from the exponential function. `Real.exp` satisfies it
(`Props/C17Real.lean`). -/
structure ExpSpec {F : Type} [Field F] [LinearOrder F] [IsStrictOrderedRing F] (exp : F → F) : Prop where
  zero : exp 0 = 1
  add : ∀ x y, exp (x + y) = exp x * exp y
  lower : ∀ x, 1 + x ≤ exp x

section
variable {F : Type} [Field F] [LinearOrder F] [IsStrictOrderedRing F] {exp : F → F}

theorem ExpSpec.nonneg (h : ExpSpec exp) (x : F) : 0 ≤ exp x := by
  rw [← add_halves x, h.add]
  exact mul_self_nonneg _

theorem ExpSpec.mul_neg (h : ExpSpec exp) (x : F) : exp x * exp (-x) = 1 := by
  rw [← h.add, add_neg_cancel, h.zero]

theorem ExpSpec.pos (h : ExpSpec exp) (x : F) : 0 < exp x := by
  rcases lt_or_eq_of_le (h.nonneg x) with hp | hz
  · exact hp
  · have := h.mul_neg x
    rw [← hz, zero_mul] at this
    exact absurd this zero_ne_one

theorem ExpSpec.mono (h : ExpSpec exp) {x y : F} (hxy : x ≤ y) : exp x ≤ exp y := by
  rw [← add_sub_cancel x y, h.add]
  exact le_mul_of_one_le_right (h.nonneg x) ((le_add_of_nonneg_right (sub_nonneg.mpr hxy)).trans (h.lower _))

theorem ExpSpec.neg_le_inv (h : ExpSpec exp) {x : F} (hx : 0 ≤ x) : exp (-x) ≤ 1 / (1 + x) := by
  rw [le_div_iff₀ (add_pos_of_pos_of_nonneg one_pos hx)]
  exact (mul_le_mul_of_nonneg_left (h.lower x) (h.nonneg _)).trans_eq ((mul_comm _ _).trans (h.mul_neg x))

end

section
variable {F : Type} [Field F]

theorem prob_eq_exp_neg (exp : F → F) (cur cand T : F) : prob exp cur cand T = exp (-((cand - cur) / T)) := by
  rw [prob, ← neg_div, neg_sub]

theorem iter_cool (alpha : F) (n : Nat) (t : F) : iter (cool alpha) n t = t * alpha ^ n := by
  induction n generalizing t with
  | zero => rw [iter, pow_zero, mul_one]
  | succ n ih => rw [iter, ih, cool, mul_assoc, ← pow_succ']

theorem coolTrace_eq (alpha : F) (n : Nat) (t : F) :
    coolTrace alpha n t = (List.range n).map fun k => t * alpha ^ (k + 1) := by
  induction n generalizing t with
  | zero => rfl
  | succ n ih =>
    rw [coolTrace, ih, List.range_succ_eq_map, List.map_cons, List.map_map, cool, pow_one]
    exact congrArg _ (List.map_congr_left fun k _ => by rw [Function.comp_apply, mul_assoc, ← pow_succ'])

end

/-! ### The decision and the stack frame, on any carrier -/
section
variable {G : Type} [Sub G] [Div G] [LT G] [LE G] [DecidableLT G] [DecidableLE G]

theorem accepts_of_le (exp : G → G) {cur cand : G} (T u : G) (hle : cand ≤ cur) :
    accepts exp cur cand T u = true ∧ drawsUsed cur cand = 0 :=
  ⟨by rw [accepts, decide_eq_true hle, Bool.true_or], if_pos hle⟩

theorem accepts_of_not_le (exp : G → G) {cur cand : G} (T u : G) (h : ¬ cand ≤ cur) :
    accepts exp cur cand T u = decide (u < prob exp cur cand T) := by
  rw [accepts, decide_eq_false h, Bool.false_or]

/-- Two non-empty populations on top: the survivor replaces both; the `ensures` clause decides the status. -/
theorem acceptStep_cons (exp : G → G) (T u : G) (cand cur : Ind G) (dq cq : Pop G) (rest : Stk G) :
    acceptStep exp T u ((cand :: dq) :: (cur :: cq) :: rest) =
      let surv := if accepts exp cur.obj cand.obj T u then cand :: dq else cur :: cq
      (if surv.length = 1 then .ok else .panic, surv :: rest, drawsUsed cur.obj cand.obj) :=
  -- the model has the whole triple under the `if`
  (apply_ite (fun st : Status => (st, _, _)) _ _ _).symm

theorem acceptStep_two (exp : G → G) (T u : G) (cand cur : Ind G) (rest : Stk G) :
    acceptStep exp T u ([cand] :: [cur] :: rest) =
      (.ok, [if accepts exp cur.obj cand.obj T u then cand else cur] :: rest, drawsUsed cur.obj cand.obj) := by
  rw [acceptStep_cons]
  cases accepts exp cur.obj cand.obj T u <;> rfl
end

/-! ### A carrier with the IEEE special values (infinite objective values) -/

/-- An ordered field extended by `+∞`, `−∞` and `NaN`, with the IEEE rules the acceptance uses. -/
inductive Ext (F : Type) where
  | fin (x : F) | pinf | ninf | nan

namespace Ext
section
variable {F : Type} [Field F] [LinearOrder F] [IsStrictOrderedRing F]

instance : Sub (Ext F) := ⟨fun a b => match a, b with
  | fin x, fin y => fin (x - y)
  | nan, _ => nan | _, nan => nan
  | pinf, pinf => nan | ninf, ninf => nan
  | pinf, _ => pinf | ninf, _ => ninf
  | fin _, pinf => ninf | fin _, ninf => pinf⟩

instance : Div (Ext F) := ⟨fun a b => match a, b with
  | fin x, fin y => if y = 0 then (if x = 0 then nan else if (0 < x) then pinf else ninf) else fin (x / y)
  | nan, _ => nan | _, nan => nan
  | fin _, pinf => fin 0 | fin _, ninf => fin 0
  | pinf, fin y => if 0 ≤ y then pinf else ninf
  | ninf, fin y => if 0 ≤ y then ninf else pinf
  | pinf, _ => nan | ninf, _ => nan⟩

/-- IEEE `<`: false as soon as a NaN is involved. -/
def ltb : Ext F → Ext F → Bool
  | fin x, fin y => decide (x < y)
  | nan, _ => false | _, nan => false
  | ninf, ninf => false | ninf, _ => true
  | _, ninf => false
  | pinf, _ => false
  | fin _, pinf => true

instance : LT (Ext F) := ⟨fun a b => ltb a b = true⟩
instance : DecidableLT (Ext F) := fun a b => inferInstanceAs (Decidable (ltb a b = true))

/-- IEEE `<=`: false as soon as a NaN is involved; `+∞ <= +∞` holds. -/
def leb : Ext F → Ext F → Bool
  | fin x, fin y => decide (x ≤ y)
  | nan, _ => false | _, nan => false
  | ninf, _ => true
  | _, pinf => true
  | _, ninf => false
  | pinf, _ => false

instance : LE (Ext F) := ⟨fun a b => leb a b = true⟩
instance : DecidableLE (Ext F) := fun a b => inferInstanceAs (Decidable (leb a b = true))

/-- A function on the field lifted to the extended carrier in the IEEE way (`NaN` stays `NaN`);
the values at `±∞` are parameters. -/
def lift (f : F → F) (atPinf atNinf : Ext F) : Ext F → Ext F
  | fin x => fin (f x) | pinf => atPinf | ninf => atNinf | nan => nan

-- stated for the ordered fields of `Props/C17`; the proof needs no compatibility of order and field
set_option linter.unusedSectionVars false in
theorem fin_sub_div (x y t : F) (ht : t ≠ 0) : ((fin x : Ext F) - fin y) / fin t = fin ((x - y) / t) := by
  show (if t = 0 then _ else fin ((x - y) / t)) = _
  simp [ht]

end

section
variable {F : Type} [LinearOrder F]

theorem fin_lt_fin (x y : F) : ((fin x : Ext F) < fin y) ↔ x < y := by
  show ltb (fin x) (fin y) = true ↔ _
  simp [ltb]

theorem leb_refl {v : Ext F} (h : v ≠ nan) : leb v v = true := by
  cases v <;> simp_all [leb]

end
end Ext

/-! ### Counting the generator words below a probability -/

theorem unitNumer_of_lt {w : Nat} (h : w < 2 ^ 64) : unitNumer w = w / 2 ^ 11 := by
  unfold unitNumer
  rw [Nat.mod_eq_of_lt h]

theorem div_lt_iff_lt_of_ceil {F : Type} [Field F] [LinearOrder F] [IsStrictOrderedRing F] {D p : F}
    (hD : 0 < D) {m : Nat} (hlo : ((m : F) - 1) / D < p) (hhi : p ≤ (m : F) / D) (q : Nat) :
    (q : F) / D < p ↔ q < m := by
  constructor
  · intro hlt
    exact Nat.cast_lt.mp ((div_lt_div_iff_of_pos_right hD).mp (hlt.trans_le hhi))
  · intro hlt
    refine lt_of_le_of_lt ((div_le_div_iff_of_pos_right hD).mpr (le_sub_iff_add_le.mpr ?_)) hlo
    exact (Nat.cast_succ q).symm.trans_le (Nat.cast_le.mpr hlt)

end MahfModel.Sa
