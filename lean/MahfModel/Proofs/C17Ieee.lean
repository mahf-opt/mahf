/-
C17: an IEEE-like carrier WITH signed zeros (`Iz F`), so that the
clause "a candidate at least as good always replaces" can be stated on every pair of objective
values that are numerically equal — `−0` / `+0` and `+∞` / `+∞` included — and at the temperature
extremes `T = 0` and `T = +∞`.
-/
import MahfModel.Proofs.C17
namespace MahfModel.Sa

/-- An ordered field extended by `−0` (`nzero`; `fin 0` is `+0`), `+∞`, `−∞` and `NaN`. -/
inductive Iz (F : Type) where
  | fin (x : F) | nzero | pinf | ninf | nan

namespace Iz
variable {F : Type} [Field F] [LinearOrder F]

/-- The numeric value: both zeros are the number 0. -/
def val : Iz F → Ext F
  | fin x => .fin x | nzero => .fin 0 | pinf => .pinf | ninf => .ninf | nan => .nan

/-- The sign bit. -/
def neg : Iz F → Bool
  | fin x => decide (x < 0) | nzero => true | pinf => false | ninf => true | nan => false

def isZero : Iz F → Bool
  | fin x => decide (x = 0) | nzero => true | _ => false

def isNegZero : Iz F → Bool
  | nzero => true | _ => false

def isPosZero : Iz F → Bool
  | fin x => decide (x = 0) | _ => false

/-- Back from the numeric value; an exact zero gets the given sign. -/
def ofExt (negZero : Bool) : Ext F → Iz F
  | .fin x => if x = 0 ∧ negZero = true then nzero else fin x
  | .pinf => pinf | .ninf => ninf | .nan => nan

/-- IEEE subtraction (round to nearest): an exact zero result is `+0` unless it is `−0 − (+0)`. -/
instance : Sub (Iz F) := ⟨fun a b => ofExt (a.isNegZero && b.isPosZero) (a.val - b.val)⟩

/-- IEEE division: `0/0 = NaN`, `x/±0 = ±∞` by the signs, a zero quotient carries the xor of the signs. -/
instance : Div (Iz F) := ⟨fun a b =>
  if b.isZero then
    (if a.isZero then nan else
      match a with
      | nan => nan
      | _ => if xor a.neg b.neg then ninf else pinf)
  else ofExt (xor a.neg b.neg) (a.val / b.val)⟩

/-- IEEE comparisons are numeric: `−0 = +0`, anything with a NaN is false. -/
instance : LT (Iz F) := ⟨fun a b => a.val < b.val⟩
instance : DecidableLT (Iz F) := fun a b => inferInstanceAs (Decidable (a.val < b.val))
instance : LE (Iz F) := ⟨fun a b => a.val ≤ b.val⟩
instance : DecidableLE (Iz F) := fun a b => inferInstanceAs (Decidable (a.val ≤ b.val))

/-- A function on the field lifted the IEEE way (`f(−0) = f(0)`, NaN stays NaN). -/
def lift (f : F → F) (atPinf atNinf : Iz F) : Iz F → Iz F
  | fin x => fin (f x) | nzero => fin (f 0) | pinf => atPinf | ninf => atNinf | nan => nan

theorem le_iff (a b : Iz F) : a ≤ b ↔ Ext.leb a.val b.val = true := Iff.rfl
theorem lt_iff (a b : Iz F) : a < b ↔ Ext.ltb a.val b.val = true := Iff.rfl
theorem fin_lt_fin (x y : F) : ((fin x : Iz F) < fin y) ↔ x < y := Ext.fin_lt_fin x y

theorem le_of_val_eq {a b : Iz F} (h : a.val = b.val) (hn : a.val ≠ .nan) : a ≤ b := by
  rw [le_iff, ← h]; exact Ext.leb_refl hn

theorem not_lt_nan (u : Iz F) : ¬ (u < (nan : Iz F)) := by
  rw [lt_iff]; cases u <;> simp [val, Ext.ltb]

theorem sub_of_val_eq {a b : Iz F} (h : a.val = b.val) : (a - b).isZero = true ∨ a - b = nan := by
  show (ofExt _ (a.val - b.val)).isZero = true ∨ ofExt _ (a.val - b.val) = nan
  rw [h]
  cases hb : b.val with
  | fin x =>
    left
    show (ofExt _ (Ext.fin (x - x))).isZero = true
    simp only [sub_self, ofExt]
    split <;> simp [isZero]
  | pinf => right; rfl
  | ninf => right; rfl
  | nan => right; rfl

theorem div_zero_of_zero_or_nan {d T : Iz F} (hd : d.isZero = true ∨ d = nan) (hT : T.isZero = true) :
    d / T = nan := by
  show (if T.isZero then _ else _) = nan
  rw [if_pos hT]
  rcases hd with hd | hd
  · rw [if_pos hd]
  · subst hd; simp [isZero]

section
variable [IsStrictOrderedRing F]

theorem sub_fin_of_val {cur cand : Iz F} {x y : F} (hc : cur.val = .fin x) (hd : cand.val = .fin y)
    (hxy : x < y) : cur - cand = fin (x - y) := by
  show ofExt _ (cur.val - cand.val) = _
  rw [hc, hd]
  exact if_neg fun h => (sub_neg.mpr hxy).ne h.1

/-- A worse candidate (finite objective values, either zero sign): the decision is the draw against
`exp((x − y)/T)` with the exact difference. -/
theorem accepts_worse (e : Iz F → Iz F) (T u : Iz F) {cur cand : Iz F} {x y : F} (hc : cur.val = .fin x)
    (hd : cand.val = .fin y) (hxy : x < y) : accepts e cur cand T u = decide (u < e (fin (x - y) / T)) := by
  have hle : ¬ (cand ≤ cur) := by
    rw [le_iff, hc, hd]; exact ne_true_of_eq_false (decide_eq_false (not_le.mpr hxy))
  rw [accepts_of_not_le _ _ _ hle, prob, sub_fin_of_val hc hd hxy]

end

theorem neg_fin_div_zero {d : F} (hd : d < 0) : (fin d : Iz F) / fin 0 = ninf := by
  show (if (fin (0 : F)).isZero then _ else _) = _
  simp [isZero, neg, hd.ne, hd]

theorem neg_fin_div_pinf {d : F} (hd : d < 0) : (fin d : Iz F) / pinf = nzero := by
  show ofExt (xor (decide (d < 0)) false) (Ext.fin 0) = _
  simp [ofExt, hd]

end Iz
end MahfModel.Sa
