/- C01: one step of the code-shaped registry is one step of the stack of partial maps (`step_refines`), operation
family by family. -/
import MahfModel.Proofs.C01Basic
import MahfModel.Proofs.C01Reg
namespace MahfModel.Registry

/-- One step of the code-shaped model is one step of the stack of maps. -/
def Refines (r : Reg) (op : ROp) : Prop :=
  Inv (step r op).1 ∧ (step r op).2 = (specStep (abs r) op).2 ∧ abs (step r op).1 = (specStep (abs r) op).1

theorem step_ins (r : Reg) (k : Key) (v : Nat) (h : Inv r) : Refines r (.ins k v) := by
  simp only [Refines, step, specStep, insert_eq r k v h.1, top_abs]
  exact ⟨inv_put_at r 0 k v h, trivial, abs_put_top r k (fresh v) h.1⟩

theorem orInsert_refines (r : Reg) (k : Key) (v : Nat) (h : Inv r) :
    Inv (orInsert r (entry r k) k v).1 ∧ (orInsert r (entry r k) k v).2 = ((abs r).orInsert k v).2 ∧
      abs (orInsert r (entry r k) k v).1 = ((abs r).orInsert k v).1 := by
  rcases resolve r k with ⟨hf, hl, _, _⟩ | ⟨i, c, hf, _, hc, hl, _, _⟩
  · rw [entry_absent r k hf, orInsert_absent, Spec.orInsert, hl]
    exact ⟨inv_put_at r 0 k v h, rfl, abs_put_top r k (fresh v) h.1⟩
  · rw [entry_found r k i hf, orInsert_found r i k v c h.2 hc, Spec.orInsert, hl]
    exact ⟨h, rfl, rfl⟩

/-- `entry().and_modify(+d)` does not panic between two operations, is the stack's `modify`, and leaves the entry where it
was (so that a combinator chained after it sees the same entry). -/
theorem andModify_refines (r : Reg) (k : Key) (d : Nat) (h : Inv r) :
    ∃ r', andModify r (entry r k) k d = some r' ∧ Inv r' ∧ abs r' = (abs r).modify k d ∧ entry r' k = entry r k ∧
      (entry r k).2 = ((abs r).lookup k).isSome := by
  rcases resolve r k with ⟨hf, hl, hd, _⟩ | ⟨i, c, hf, _, hc, hl, _, _⟩
  · rw [entry_absent r k hf, andModify_absent, Spec.modify, hl, updFirst_eq, hd]
    exact ⟨r, rfl, h, rfl, entry_absent r k hf, rfl⟩
  · rw [entry_found r k i hf, andModify_found r i k d c h.2 hc, Spec.modify, hl]
    exact ⟨_, rfl, inv_writeAt r i k _ h, abs_writeAt r k i c _ hf hc,
      entry_found _ k i (by rw [find_writeAt]; exact hf), rfl⟩

theorem step_scopes (r : Reg) (h : Inv r) : Refines r .push ∧ Refines r .pop := by
  have ⟨hne, hq⟩ := h
  constructor
  · rw [Refines, step_push, specStep_push]
    exact ⟨inv_intoChild r h, rfl, rfl⟩
  · cases r with
    | nil => exact absurd rfl hne
    | cons s p =>
      cases p with
      | nil => simp [Refines, step, specStep, intoParent, Inv, hq, abs_cons]
      | cons s' p' =>
        simp only [quiet_cons, Bool.and_eq_true] at hq
        simp [Refines, step, specStep, intoParent, Inv, quiet_cons, hq, abs_cons]

theorem step_parGet (r : Reg) (d : Nat) (k : Key) (h : Inv r) : Refines r (.parGet d k) := by
  by_cases hd : d < r.length
  · simp only [Refines, step, specStep, parentN, hd, if_true, abs_length,
      tryGetValue_quiet _ k (inv_drop r d h hd).2, abs_drop]
    refine ⟨h, ?_, trivial⟩
    cases Spec.lookup (List.drop d (abs r)) k <;> rfl
  · simp [Refines, step, specStep, parentN, hd, h]

theorem step_parIns (r : Reg) (d : Nat) (k : Key) (v : Nat) (h : Inv r) : Refines r (.parIns d k v) := by
  by_cases hd : d < r.length
  · obtain ⟨hi1, hi2, hi3⟩ := step_ins (r.drop d) k v (inv_drop r d h hd)
    rw [abs_drop] at hi2 hi3
    simp only [Refines, step, specStep, parentN, hd, if_true, abs_length]
    exact ⟨inv_under r d _ h hi1, hi2, by rw [abs_under]; exact congrArg _ hi3⟩
  · simp [Refines, step, specStep, parentN, hd, h]

theorem writeAll_refines (ks : List Key) (d : Nat) (r r0 : Reg) (hfind : ∀ k, find r k = find r0 k)
    (h : ∀ k ∈ ks, (find r0 k).isSome = true) (hI : Inv r) :
    Inv (writeAll r (resolved r0 ks) d) ∧ abs (writeAll r (resolved r0 ks) d) = (abs r).addAll ks d := by
  induction ks generalizing r with
  | nil => exact ⟨hI, rfl⟩
  | cons k ks ih =>
    obtain ⟨i, hi⟩ := Option.isSome_iff_exists.mp (h k (by simp))
    have hi' : find r k = some i := by rw [hfind]; exact hi
    obtain ⟨c, hc⟩ := find_cell r k i hi'
    have hl := lookup_found r k i c hi' hc
    have := ih (writeAt r i k (· + d)) (fun k' => by rw [find_writeAt, hfind])
      (fun k' hk' => h k' (by simp [hk'])) (inv_writeAt r i k _ hI)
    simp only [resolved, List.map_cons, hi, Option.getD_some, writeAll, List.foldl_cons, Spec.addAll] at this ⊢
    rw [abs_writeAt r k i c _ hi' hc] at this
    rw [hl]
    exact this

theorem vals_resolved (r : Reg) (ks : List Key) :
    (resolved r ks).map (fun c => ((cellAt r c.1 c.2).map (·.val)).getD 0) =
      ks.map (fun k => ((abs r).lookup k).getD 0) := by
  simp only [resolved, List.map_map]
  apply List.map_congr_left
  intro k _
  rcases resolve r k with ⟨hf, hl, _, hn⟩ | ⟨i, c, hf, _, hc, hl, _, _⟩
  · have := hn 0
    simp only [Scope.has] at this
    simp [hf, hl, cellAt]
    cases hg : (scopeAt r 0).get? k with
    | none => rfl
    | some c => simp [hg] at this
  · simp [hf, hl, hc]

theorem step_multi (r : Reg) (ks : List Key) (d : Nat) (h : Inv r) :
    Refines r (.multi ks d) ∧ Refines r (.multiP ks d) := by
  have hiff : ks.all (fun k => ((abs r).lookup k).isSome) = true ↔ ∀ k ∈ ks, (find r k).isSome = true := by
    simp only [List.all_eq_true, lookup_isSome]
  by_cases hd : ks.Nodup
  · have hdist : distinct ks = true := (distinct_iff ks).mpr hd
    by_cases hall : ∀ k ∈ ks, (find r k).isSome = true
    · have hall' : ks.all (fun k => ((abs r).lookup k).isSome) = true := hiff.mpr hall
      obtain ⟨h1, h2⟩ := writeAll_refines ks d r r (fun _ => rfl) hall h
      simp only [Refines, step, specStep, tryGetMultipleMut, hdist, getAllMut_ok r ks hall, hd, hall', if_true,
        Bool.not_true, Bool.false_eq_true, if_false, vals_resolved, and_self]
      exact ⟨h1, trivial, h2⟩
    · have hall' : ¬ ks.all (fun k => ((abs r).lookup k).isSome) = true := fun h' => hall (hiff.mp h')
      simp only [Refines, step, specStep, tryGetMultipleMut, hdist, getAllMut_err r ks hall, hd, hall', if_true,
        Bool.not_true, Bool.false_eq_true, if_false, and_false]
      exact ⟨⟨h, trivial, trivial⟩, h, trivial, trivial⟩
  · simp only [Refines, step, specStep, tryGetMultipleMut, distinct_eq_false ks hd, hd, Bool.not_false, if_true,
      if_false, false_and]
    exact ⟨⟨h, trivial, trivial⟩, h, trivial, trivial⟩

theorem step_guarded_found (r : Reg) (k : Key) (i : Nat) (c : Cell) (hq : quiet r = true)
    (hf : find r k = some i) (hc : cellAt r i k = some c) :
    (∀ v, step r (.gset k v) = (r, .none)) ∧ step r (.gget k) = (r, .err .conflictImm) := by
  have hw := (quiet_cell r i k c hq hc).2
  have hc1 := fun e => cellAt_set r i k c (grantedCell c e) hc
  have hf1 := fun e => (find_modify_at r i k (fun _ => grantedCell c e) k).trans hf
  constructor
  · intro v
    -- the guard taken first is a reader on the cell `set_value` resolves to
    have hs := setValue_cell _ k v i _ (hf1 false) (hc1 false)
    rw [if_pos (by simp [grantedCell, hw])] at hs
    simp only [step, show tryBorrow r k = _ from tryBorrow_quiet r k i c false hq hf hc, hs,
      grant_release r i k c false hc hw, Out.ofOpt]
  · have hg := tryGetValue_cell _ k i _ (hf1 true) (hc1 true)
    rw [if_pos (by simp [grantedCell])] at hg
    simp only [step, show tryBorrowMut r k = _ from tryBorrow_quiet r k i c true hq hf hc, hg,
      grant_release r i k c true hc hw, Out.ofRes]

theorem step_refines (r : Reg) (op : ROp) (h : Inv r) : Refines r op := by
  have ⟨hne, hq⟩ := h
  cases op with
  | ins k v => exact step_ins r k v h
  | push => exact (step_scopes r h).1
  | pop => exact (step_scopes r h).2
  | parGet d k => exact step_parGet r d k h
  | parIns d k v => exact step_parIns r d k v h
  | multi ks d => exact (step_multi r ks d h).1
  | multiP ks d => exact (step_multi r ks d h).2
  | gset k v | gget k =>
    rcases resolve r k with ⟨hf, hl, hd, hn⟩ | ⟨i, c, hf, hi, hc, hl, hd, hh⟩
    · simp [Refines, step, specStep, tryBorrow, tryBorrowMut, hf, hl, h]
    · obtain ⟨h1, h2⟩ := step_guarded_found r k i c hq hf hc
      simp only [Refines, h1, h2, specStep, hl]
      exact ⟨h, trivial, trivial⟩
  | dump => simp [Refines, step, specStep, h, abs]
  | hasTop k | has k | find k | findMut k | req k =>
    simp [Refines, step, specStep, h, containsAtTop, contains, top_abs, Scope.has_eq, lookup_isSome, find_abs]
  | get k | tryGet k =>
    simp only [Refines, step, specStep, tryGetValue_quiet r k hq]
    refine ⟨h, ?_, trivial⟩
    cases (abs r).lookup k <;> rfl
  | rem k | take k | set k v | getMut k v =>
    rcases resolve r k with ⟨hf, hl, hd, hn⟩ | ⟨i, c, hf, hi, hc, hl, hd, hh⟩
    · simp [Refines, step, specStep, remove, setValue_absent r k _ hf, getMut, hf, hl, Out.ofRes, Out.orPanic,
        Out.ofOpt, h]
    · simp [Refines, step, specStep, remove, setValue_quiet r k _ i c hq hf hc, getMut_found r k i hf, hf, hl, hc,
        Out.ofRes, Out.orPanic, Out.ofOpt, inv_erase_at r i k h, inv_writeAt r i k _ h, abs_erase_found r k i hf,
        abs_writeAt r k i c _ hf hc]
  | entOrIns k v | entOrWith k v => exact orInsert_refines r k v h
  | entOrDef k => exact orInsert_refines r k 0 h
  | entMod k d | entModV k d =>
    obtain ⟨r', e, hI, ha, _, hb⟩ := andModify_refines r k d h
    simp only [Refines, step, specStep, e, hb]; exact ⟨hI, trivial, ha⟩
  | entModOrIns k d v =>
    obtain ⟨r', e, hI, ha, he, _⟩ := andModify_refines r k d h
    simp only [Refines, step, specStep, e]; rw [← he, ← ha]; exact orInsert_refines r' k v hI
  | occGet k | occGetMut k v | occIntoMut k v | occIns k v | occRem k | vacIns k v =>
    rcases resolve r k with ⟨hf, hl, hd, hn⟩ | ⟨i, c, hf, hi, hc, hl, hd, hh⟩
    · have hp := fun v => abs_put_top r k (fresh v) hne
      simp [Refines, step, specStep, entry_absent r k hf, hl, vacInsert, inv_put_at r 0 k _ h, h, hp]
    · have hw := (quiet_cell r i k c hq hc).2
      simp [Refines, step, specStep, entry_found r k i hf, hl, occGet, occWrite_quiet r i k _ c hq hc, occInsert,
        occRemove, hc, hw, h, inv_writeAt r i k _ h, inv_put_at r i k _ h, inv_erase_at r i k h,
        abs_writeAt r k i c _ hf hc, abs_put_found r k i _ hf, abs_erase_found r k i hf]

end MahfModel.Registry
