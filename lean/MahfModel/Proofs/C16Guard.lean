/- Soundness of the guard analysis `safeOf`: no execution of `gexec` ends at a violated size precondition. -/
import MahfModel.Proofs.C16SizeConc
import MahfModel.Model.TemplatesGuard
namespace MahfModel.Tpl

theorem safeOf_loop (body : SComp) (st : AbsStack) :
    safeOf (.loop body) st = loopCheck (safeOf body) (fun _ => true) st := by
  simp only [safeOf, loopCheck, Bool.and_true]
  rfl

theorem Itv.eq_lo_of_isExact {x : Itv} {n : Nat} (hx : x.isExact = true) (hm : x.mem n) : n = x.lo :=
  Nat.le_antisymm (hm.2 x.lo (by simpa [Itv.isExact] using hx)) hm.1

theorem length_guard {m : Nat} {st : AbsStack} {s : List Nat} (hc : Conc s st)
    (hg : decide (m ≤ st.length) = true) : decide (m ≤ s.length) = true := conc_length hc ▸ hg

theorem gabs_sound (k : LeafKind) (a b : Nat) (st : AbsStack) (s : List Nat)
    (hg : gabs k a b st = true) (hc : Conc s st) : guardC k a b s = true := by
  cases k
  case All | None | DuplicatePopulation | ClearPopulation | NPointCrossover | UniformCrossover | ArithmeticCrossover
      | NormalMutation | MuPlusLambda | Generational | RandomReplacement | Merge | DiscardOffspring
      | InterleavePopulations =>
    exact length_guard hc hg
  case FullyRandom | RandomWithoutRepetition | Tournament | DERand | DEBest | DECurrentToBest
      | DeterministicFitnessProportional =>
    -- thresholds on the current size, which is at least its interval's lower end
    cases st with
    | nil => cases hg
    | cons x rest =>
      obtain ⟨n, r, rfl, hm, -⟩ := conc_cons hc
      have := hm.1
      unfold gabs at hg
      simp only [Bool.and_eq_true, Bool.or_eq_true, beq_iff_eq, decide_eq_true_eq] at hg
      unfold guardC guardOf
      simp only [Option.getD_some, Bool.and_eq_true, Bool.or_eq_true, beq_iff_eq, decide_eq_true_eq]
      omega
  case CloneSingle | DEMutation =>
    -- an exact interval pins the size
    cases st with
    | nil => cases hg
    | cons x rest =>
      obtain ⟨n, r, rfl, hm, -⟩ := conc_cons hc
      unfold gabs at hg
      simp only [Bool.and_eq_true, beq_iff_eq] at hg
      cases Itv.eq_lo_of_isExact hg.1 hm
      unfold guardC guardOf
      simp [hg.2]
  case KeepBetterAtIndex | ExponentialAnnealingAcceptance =>
    match st, hc, hg with
    | [], _, hg | [_], _, hg => cases hg
    | x :: y :: rest, hc, hg =>
      obtain ⟨n, r, rfl, hn, hr⟩ := conc_cons hc
      obtain ⟨m, t, rfl, hm, -⟩ := conc_cons hr
      unfold gabs at hg
      simp only [Bool.and_eq_true, beq_iff_eq] at hg
      cases Itv.eq_lo_of_isExact (by simp only [hg]) hn
      cases Itv.eq_lo_of_isExact (by simp only [hg]) hm
      unfold guardC guardOf
      simp [hg]
  all_goals rfl

/-- What `safeOf` promises about one execution: it does not end at a violated precondition, and if it runs to
the end the sizes are inside the predicted intervals. -/
def GGood (a' : AbsStack) : GRes → Prop
  | .ok s' => Conc s'.stack a'
  | .guard => False
  | .stop => True

theorem GGood.mono {a b : AbsStack} {r : GRes} (h : GGood a r) (hab : stackLe a b = true) : GGood b r := by
  cases r with
  | ok s1 => exact stackLe_sound hab h
  | guard => exact h
  | stop => trivial

/-- `GGood` passes through a continuation that is only run after `.ok`. -/
theorem GGood.bind {a b : AbsStack} {r : GRes} {f : SSt → GRes} (h : GGood a r)
    (hf : ∀ s1, Conc s1.stack a → GGood b (f s1)) :
    GGood b (match r with | .ok s1 => f s1 | r => r) := by
  cases r with
  | ok s1 => exact hf s1 h
  | guard => exact h
  | stop => trivial

theorem gexec_safe_all (o : SOracle) (fuel : Nat) :
    (∀ c a a' s, safeOf c a = some a' → Conc s.stack a → GGood a' (gexec o fuel c s)) ∧
    (∀ cs a a' s, safesOf cs a = some a' → Conc s.stack a → GGood a' (gexecs o fuel cs s)) ∧
    (∀ body inv out s, safeOf body inv = some out → stackLe out inv = true → Conc s.stack inv →
      GGood inv (gloop o fuel body s)) := by
  induction fuel with
  | zero => exact ⟨fun _ _ _ _ _ _ => trivial, fun _ _ _ _ _ _ => trivial, fun _ _ _ _ _ _ _ => trivial⟩
  | succ fuel ih =>
    obtain ⟨ih1, ih2, ih3⟩ := ih
    refine ⟨fun c a a' s ha hc => ?_, fun cs a a' s ha hc => ?_, fun body inv out s hb hle hc => ?_⟩
    · cases c with
      | leaf k p q =>
        simp only [safeOf] at ha
        split at ha
        · next hg =>
          simp only [gexec, gabs_sound k p q a s.stack hg hc, if_true]
          split
          · trivial
          · split
            · trivial
            · next st hl => exact sizeStep_sound k p q _ a a' s.stack st ha hc hl
        · cases ha
      | seq cs => exact ih2 cs a a' s ha hc
      | loop body =>
        obtain ⟨_, out, hb, h1, h2, _⟩ := loopCheck_eq_some (safeOf_loop .. ▸ ha)
        exact ih3 body a' out s hb h2 (stackLe_sound h1 hc)
      | branch t e =>
        simp only [safeOf] at ha
        simp only [gexec]
        split at ha
        · next x y hx hy =>
          split
          · exact (ih1 t a x { s with tick := s.tick + 1 } hx hc).mono (stackLe_join ha).1
          · exact (ih1 e a y { s with tick := s.tick + 1 } hy hc).mono (stackLe_join ha).2
        · cases ha
      | scope body => exact ih1 body a a' s ha hc
    · cases cs with
      | nil => cases ha; exact hc
      | cons c rest =>
        simp only [safesOf] at ha
        split at ha
        · cases ha
        · next x hx => exact (ih1 c a x s hx hc).bind fun s1 h1 => ih2 rest x a' s1 ha h1
    · simp only [gloop]
      split
      · exact (ih1 body inv out { s with tick := s.tick + 1 } hb hc).bind fun s1 h1 =>
          ih3 body inv out s1 hb hle (stackLe_sound hle h1)
      · exact hc

theorem gexec_safe (o : SOracle) (fuel : Nat) (c : SComp) (a a' : AbsStack) (s : SSt) :
    safeOf c a = some a' → Conc s.stack a → GGood a' (gexec o fuel c s) :=
  (gexec_safe_all o fuel).1 c a a' s

theorem gexecs_safe (o : SOracle) : ∀ (fuel : Nat) (cs : SComps) (a a' : AbsStack) (s : SSt),
    safesOf cs a = some a' → Conc s.stack a → GGood a' (gexecs o fuel cs s) :=
  fun fuel => (gexec_safe_all o fuel).2.1

theorem gloop_safe (o : SOracle) : ∀ (fuel : Nat) (body : SComp) (inv out : AbsStack) (s : SSt),
    safeOf body inv = some out → stackLe out inv = true → Conc s.stack inv →
    GGood inv (gloop o fuel body s) :=
  fun fuel => (gexec_safe_all o fuel).2.2

end MahfModel.Tpl
