/- C13: the parameter registries under `init` and `execute`. `init` of a block is a fold over its level and establishes every
   instance of a consistent level; `execute` of a block leaves the registry stack as it was; along a run every execution
   reads its own values (`OwnOn`) and the instances executed are those of `unroll` (`Executes`); the guards of `execute` do
   not look at the result they hand through. -/
import MahfModel.Model.VariationState

namespace MahfModel.Variation

variable {F : Type}

/-! ### registries -/

theorem regGet_regPut_same (r : PReg F) (k : PKey) (v : Param F) : regGet (regPut r k v) k = some v := by
  simp [regGet, regPut]

theorem find_filter_other (r : PReg F) (k k' : PKey) (h : k' ≠ k) :
    (r.filter (fun e => e.1 != k)).find? (fun e => e.1 == k') = r.find? (fun e => e.1 == k') := by
  induction r with
  | nil => rfl
  | cons e r ih => grind

theorem regGet_regPut_other (r : PReg F) (k k' : PKey) (v : Param F) (h : k' ≠ k) :
    regGet (regPut r k v) k' = regGet r k' := by
  have hk : (k == k') = false := by simpa using fun e => h e.symm
  simp only [regGet, regPut, List.find?_cons, hk, find_filter_other r k k' h]

theorem get_insert_same (ch : PChain F) (k : PKey) (v : Param F) : (ch.insert k v).get k = some v := by
  simp [PChain.get, PChain.insert, regsGet, regGet_regPut_same]

theorem get_insert_other (ch : PChain F) (k k' : PKey) (v : Param F) (h : k' ≠ k) :
    (ch.insert k v).get k' = ch.get k' := by
  simp [PChain.get, PChain.insert, regsGet, regGet_regPut_other _ _ _ _ h]

theorem insert_below (ch : PChain F) (k : PKey) (v : Param F) : (ch.insert k v).below = ch.below := rfl

/-! ### `init` of one instance -/

theorem compInit_below (c : PComp F) (ch : PChain F) : (compInit c ch).below = ch.below := by
  unfold compInit; split <;> rfl

theorem compInit_get_other (c : PComp F) (ch : PChain F) (k : PKey) (h : ¬ (k.kind = c.kind ∧ k.ident = c.ident)) :
    (compInit c ch).get k = ch.get k := by
  have h1 : k ≠ c.rateKey := by intro e; apply h; subst e; exact ⟨rfl, rfl⟩
  have h2 : k ≠ c.strengthKey := by intro e; apply h; subst e; exact ⟨rfl, rfl⟩
  unfold compInit
  split
  · rw [get_insert_other _ _ _ _ h1, get_insert_other _ _ _ _ h2]
  · rw [get_insert_other _ _ _ _ h1]

/-- Another type or another identifier: the instance's states are untouched. -/
theorem compSeen_compInit_other (c d : PComp F) (ch : PChain F) (h : ¬ (d.kind = c.kind ∧ d.ident = c.ident)) :
    compSeen d (compInit c ch) = compSeen d ch := by
  unfold compSeen
  rw [compInit_get_other c ch d.rateKey (by simpa [PComp.rateKey] using h),
    compInit_get_other c ch d.strengthKey (by simpa [PComp.strengthKey] using h)]

/-- `init` of an instance establishes the values of every instance that shares its states and was given the same
values; in particular its own. -/
theorem compSeen_compInit_same (c d : PComp F) (ch : PChain F) (hk : d.kind = c.kind ∧ d.ident = c.ident)
    (hr : c.rate = d.rate) (hs : c.kind.hasStrength = true → c.strength = d.strength) :
    compSeen d (compInit c ch) = some d.own := by
  have hne : c.strengthKey ≠ c.rateKey := by simp [PComp.strengthKey, PComp.rateKey]
  unfold compSeen compInit
  rw [show d.rateKey = c.rateKey by simp [PComp.rateKey, hk.1, hk.2],
    show d.strengthKey = c.strengthKey by simp [PComp.strengthKey, hk.1, hk.2], hk.1]
  by_cases hS : c.kind.hasStrength = true
  · simp [hS, get_insert_same, get_insert_other _ _ _ _ hne, PComp.own, hr, hs hS]
  · simp [hS, get_insert_same, PComp.own, hr]

theorem compatible_same (eqv : Param F → Param F → Bool) (heq : ∀ a b, eqv a b = true → a = b) {c d : PComp F}
    (hk : d.kind = c.kind ∧ d.ident = c.ident) (hc : compatible eqv c d = true) :
    c.rate = d.rate ∧ (c.kind.hasStrength = true → c.strength = d.strength) := by
  simp only [compatible, hk.1, hk.2, beq_self_eq_true, Bool.and_self, Bool.not_true, Bool.false_or,
    Bool.and_eq_true, Bool.or_eq_true, Bool.not_eq_eq_eq_not] at hc
  exact ⟨heq _ _ hc.1, fun hS => hc.2.elim (fun h => by simp [hS] at h) (heq _ _)⟩

/-! ### `init` of a block -/

/-- `init` of a block is the `init` of the instances of its level, in order. -/
theorem Cfg.init_eq (cfg : Cfg F) (ch : PChain F) :
    cfg.init ch = cfg.level.foldl (fun ch c => compInit c ch) ch := by
  induction cfg generalizing ch with
  | done => rfl
  | leaf c rest ih => exact ih _
  | scope body rest _ ih => exact ih _
  | loop n body rest ihb ih => rw [Cfg.init, Cfg.level, List.foldl_append, ← ihb, ih]
  | branch b tb eb rest iht ihe ih =>
    rw [Cfg.init, Cfg.level, List.foldl_append, List.foldl_append, ← iht, ← ihe, ih]

theorem Cfg.init_below (cfg : Cfg F) (ch : PChain F) : (cfg.init ch).below = ch.below := by
  rw [Cfg.init_eq]
  generalize cfg.level = L
  induction L generalizing ch with
  | nil => rfl
  | cons c L ih => exact (ih _).trans (compInit_below c ch)

/-- A scope restores the registry stack: push, `init` of the body, pop. -/
theorem Cfg.pop_init_push (body : Cfg F) (ch : PChain F) : (body.init ch.push).pop = ch := by
  rw [PChain.pop, Cfg.init_below]; rfl

/-- After `init` of a block whose level is consistent, every instance of the level finds its own values in the state. -/
theorem Cfg.init_level (eqv : Param F → Param F → Bool) (heq : ∀ a b, eqv a b = true → a = b)
    (cfg : Cfg F) (ch : PChain F) (hc : levelConsistent eqv cfg.level = true) :
    ∀ d ∈ cfg.level, compSeen d (cfg.init ch) = some d.own := by
  intro d hd
  have hc : ∀ c ∈ cfg.level, compatible eqv c d = true := fun c hcm => by
    simp only [levelConsistent, List.all_eq_true] at hc
    exact hc c hcm d hd
  -- along the level: so does any instance that did before and is compatible with the rest of the level
  have h : d ∈ cfg.level ∨ compSeen d ch = some d.own := Or.inl hd
  rw [Cfg.init_eq]
  generalize cfg.level = L at hc h
  induction L generalizing ch with
  | nil => exact h.resolve_left List.not_mem_nil
  | cons c L ih =>
    refine ih _ (fun c' hc' => hc c' (List.mem_cons_of_mem _ hc')) ?_
    by_cases hk : d.kind = c.kind ∧ d.ident = c.ident
    · have := compatible_same eqv heq hk (hc c List.mem_cons_self)
      exact Or.inr (compSeen_compInit_same c d ch hk this.1 this.2)
    · rcases h with h | h
      · rcases List.mem_cons.mp h with rfl | h
        · exact absurd ⟨rfl, rfl⟩ hk
        · exact Or.inl h
      · exact Or.inr ((compSeen_compInit_other c d ch hk).trans h)

/-! ### `execute` leaves the registry stack as it was -/

theorem iterate_inv {σ : Type} (f : σ → σ) (P : σ → Prop) (hP : ∀ s, P s → P (f s)) (n : Nat) (s : σ) (h : P s) :
    P (iterate f n s) := by
  induction n generalizing s with
  | zero => exact h
  | succ n ih => exact ih _ (hP _ h)

section Exec
variable [LE F] [DecidableLE F] [OfNat F 0] [OfNat F 1]

theorem execLeaf_chain (c : PComp F) (st : RunSt F) : (execLeaf c st).chain = st.chain := by
  unfold execLeaf; split
  · rfl
  · split <;> rfl

/-- Executing a block leaves the registry stack as it found it: whatever a `Scope` inserted is gone. -/
theorem Cfg.exec_chain (cfg : Cfg F) (st : RunSt F) : (cfg.exec st).chain = st.chain := by
  induction cfg generalizing st with
  | done => rfl
  | leaf c rest ih => simp [Cfg.exec, ih, execLeaf_chain]
  | scope body rest ihb ih =>
    simp only [Cfg.exec]
    split
    · rfl
    · rw [ih]
      simp only [ihb]
      exact Cfg.pop_init_push body st.chain
  | loop n body rest ihb ih =>
    simp only [Cfg.exec]
    rw [ih]
    exact iterate_inv body.exec (fun s => s.chain = st.chain) (fun s hs => (ihb s).trans hs) n st rfl
  | branch b tb eb rest iht ihe ih =>
    simp only [Cfg.exec]
    rw [ih]
    cases b
    · exact ihe st
    · exact iht st
end Exec

/-! ### every execution reads its own values -/

/-- An execution that found the instance's own values. -/
def Obs.own (o : Obs F) : Prop := o.seen = some o.comp.own

/-- A run in progress on the registry stack `ch` in which every execution so far found its own values. -/
def OwnOn (ch : PChain F) (st : RunSt F) : Prop := st.chain = ch ∧ ∀ o ∈ st.trace, o.own

section Own
variable [LE F] [DecidableLE F] [OfNat F 0] [OfNat F 1]

theorem execLeaf_ownOn (c : PComp F) (ch : PChain F) (h : compSeen c ch = some c.own) (st : RunSt F)
    (hst : OwnOn ch st) : OwnOn ch (execLeaf c st) := by
  refine ⟨(execLeaf_chain c st).trans hst.1, fun o ho => ?_⟩
  unfold execLeaf at ho
  split at ho
  · exact hst.2 o ho
  · rw [hst.1, h] at ho
    rcases List.mem_append.mp ho with ho | ho
    · exact hst.2 o ho
    · exact List.mem_singleton.mp ho ▸ rfl

/-- In a block whose nested levels are consistent, executed on a registry stack in which the instances of its own
level find their own values, EVERY execution (at any depth, in any loop pass) finds its own values, and the stack
is left as it was. -/
theorem Cfg.exec_ownOn (eqv : Param F → Param F → Bool) (heq : ∀ a b, eqv a b = true → a = b)
    (cfg : Cfg F) (ch : PChain F) (hc : cfg.consistent eqv = true)
    (hl : ∀ d ∈ cfg.level, compSeen d ch = some d.own) (st : RunSt F) (hst : OwnOn ch st) :
    OwnOn ch (cfg.exec st) := by
  induction cfg generalizing ch st with
  | done => exact hst
  | leaf c rest ih =>
    exact ih ch hc (fun d hd => hl d (List.mem_cons_of_mem _ hd)) _
      (execLeaf_ownOn c ch (hl c List.mem_cons_self) st hst)
  | scope body rest ihb ih =>
    simp only [Cfg.consistent, Bool.and_eq_true] at hc
    obtain ⟨⟨hlev, hb⟩, hr⟩ := hc
    rw [Cfg.exec]
    split
    · exact hst
    · have inner := ihb (body.init ch.push) hb (Cfg.init_level eqv heq body _ hlev)
        { st with chain := body.init st.chain.push } ⟨by rw [hst.1], hst.2⟩
      exact ih ch hr hl _ ⟨inner.1 ▸ Cfg.pop_init_push body ch, inner.2⟩
  | loop n body rest ihb ih =>
    simp only [Cfg.consistent, Bool.and_eq_true] at hc
    exact ih ch hc.2 (fun d hd => hl d (List.mem_append_right _ hd)) _
      (iterate_inv body.exec (OwnOn ch) (ihb ch hc.1 fun d hd => hl d (List.mem_append_left _ hd)) n st hst)
  | branch b tb eb rest iht ihe ih =>
    simp only [Cfg.consistent, Bool.and_eq_true] at hc
    refine ih ch hc.2.2 (fun d hd => hl d (List.mem_append_right _ (List.mem_append_right _ hd))) _ ?_
    cases b
    · exact ihe ch hc.2.1 (fun d hd => hl d (List.mem_append_right _ (List.mem_append_left _ hd))) st hst
    · exact iht ch hc.1 (fun d hd => hl d (List.mem_append_left _ hd)) st hst

theorem Cfg.run_own (eqv : Param F → Param F → Bool) (heq : ∀ a b, eqv a b = true → a = b)
    (cfg : Cfg F) (ch : PChain F) (hw : cfg.wellFormedBy eqv = true) :
    ∀ o ∈ (cfg.run ch).trace, o.own := by
  simp only [Cfg.wellFormedBy, Bool.and_eq_true] at hw
  exact (Cfg.exec_ownOn eqv heq cfg (cfg.init ch) hw.2 (Cfg.init_level eqv heq cfg ch hw.1)
    ⟨cfg.init ch, [], true⟩ ⟨rfl, fun _ h => nomatch h⟩).2

theorem runAll_own (eqv : Param F → Param F → Bool) (heq : ∀ a b, eqv a b = true → a = b)
    (cfgs : List (Cfg F)) (ch : PChain F) (hw : ∀ cfg ∈ cfgs, cfg.wellFormedBy eqv = true) :
    ∀ t ∈ (runAll cfgs ch).1, ∀ o ∈ t, o.own := by
  induction cfgs generalizing ch with
  | nil => simp [runAll]
  | cons cfg rest ih =>
    simp only [List.mem_cons, forall_eq_or_imp] at hw
    intro t ht
    simp only [runAll, List.mem_cons] at ht
    rcases ht with rfl | ht
    · exact Cfg.run_own eqv heq cfg ch hw.1
    · exact ih _ hw.2 t ht
end Own

/-! ### which instances a run executes -/

/-- `f` executes the instances `L`: a live outcome comes from a live state and has appended exactly `L`. -/
def Executes (f : RunSt F → RunSt F) (L : List (PComp F)) : Prop :=
  ∀ st, (f st).live = true → st.live = true ∧ (f st).trace.map (·.comp) = st.trace.map (·.comp) ++ L

theorem Executes.comp {f g : RunSt F → RunSt F} {L M : List (PComp F)} (hf : Executes f L) (hg : Executes g M) :
    Executes (fun st => g (f st)) (L ++ M) := fun st h => by
  obtain ⟨h1, e1⟩ := hg _ h
  obtain ⟨h0, e0⟩ := hf st h1
  exact ⟨h0, by rw [e1, e0, List.append_assoc]⟩

theorem Executes.iterate {f : RunSt F → RunSt F} {L : List (PComp F)} (hf : Executes f L) (n : Nat) :
    Executes (iterate f n) (List.replicate n L).flatten := by
  induction n with
  | zero => exact fun st h => ⟨h, (List.append_nil _).symm⟩
  | succ n ih => exact List.replicate_succ ▸ List.flatten_cons ▸ hf.comp ih

section Executes
variable [LE F] [DecidableLE F] [OfNat F 0] [OfNat F 1]

theorem execLeaf_executes (c : PComp F) : Executes (execLeaf c) [c] := fun st h => by
  unfold execLeaf at h ⊢
  cases hl : st.live with
  | false => simp [hl] at h
  | true =>
    refine ⟨rfl, ?_⟩
    simp only [Bool.not_true, Bool.false_eq_true, if_false]
    split <;> simp

/-- A run in which no guard fails executes exactly the instances of `unroll`, in that order. -/
theorem Cfg.exec_executes (cfg : Cfg F) : Executes cfg.exec cfg.unroll := by
  induction cfg with
  | done => exact fun st h => ⟨h, (List.append_nil _).symm⟩
  | leaf c rest ih => exact (execLeaf_executes c).comp ih
  | scope body rest ihb ih =>
    intro st h
    cases hl : st.live with
    | false => simp [Cfg.exec, hl] at h
    | true =>
      simp only [Cfg.exec, hl, Bool.not_true, Bool.false_eq_true, if_false] at h ⊢
      obtain ⟨h1, e1⟩ := ih _ h
      exact ⟨trivial, by rw [e1, (ihb _ h1).2, Cfg.unroll, List.append_assoc]⟩
  | loop n body rest ihb ih => exact (ihb.iterate n).comp ih
  | branch b tb eb rest iht ihe ih =>
    cases b
    · exact ihe.comp ih
    · exact iht.comp ih
end Executes

/-! ### the guards of `execute` -/

section Guards
variable [LE F] [DecidableLE F] [OfNat F 0] [OfNat F 1]

/-- The guards of `execute` do not look at the result they hand through. -/
theorem kindExec_result {β : Type} (k : PKind) (p : MutParams F) (r : β) :
    kindExec k p r = match kindExec k p () with
      | .ok _ => .ok r
      | .err => .err
      | .panic => .panic := by
  cases k <;> simp only [kindExec, normalExec, uniformExec, rateExec]
  · split
    · rfl
    · split <;> rfl
  · split
    · rfl
    · rfl
    · split <;> rfl
  all_goals split <;> rfl
end Guards

end MahfModel.Variation
