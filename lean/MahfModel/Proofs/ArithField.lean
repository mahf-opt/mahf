/- Small facts about ordered fields that several property groups use.  Imports the algebraic hierarchy only, no tactic. -/
import Mathlib.Algebra.Order.Field.Basic
namespace MahfModel.Arith
variable {F : Type} [Field F] [LinearOrder F] [IsStrictOrderedRing F]

/-- A convex combination is monotone in both arguments and fixes the diagonal, so it lies between them. -/
theorem convex_between (a b t : F) (h0 : 0 ≤ t) (h1 : t ≤ 1) :
    min a b ≤ t * a + (1 - t) * b ∧ t * a + (1 - t) * b ≤ max a b := by
  have h1 := sub_nonneg.2 h1
  have diag : ∀ c : F, t * c + (1 - t) * c = c := fun c => by rw [← add_mul, add_sub_cancel, one_mul]
  rcases le_total a b with h | h
  · rw [min_eq_left h, max_eq_right h]
    exact ⟨(diag a).symm.le.trans (add_le_add_right (mul_le_mul_of_nonneg_left h h1) _),
      (add_le_add_left (mul_le_mul_of_nonneg_left h h0) _).trans (diag b).le⟩
  · rw [min_eq_right h, max_eq_left h]
    exact ⟨(diag b).symm.le.trans (add_le_add_left (mul_le_mul_of_nonneg_left h h0) _),
      (add_le_add_right (mul_le_mul_of_nonneg_left h h1) _).trans (diag a).le⟩

/-- The same for the interpolation written `(b - a) * t + a` (from `a` at `t = 0` to `b` at `t = 1`). -/
theorem lerp_between (a b t : F) (h0 : 0 ≤ t) (h1 : t ≤ 1) :
    min a b ≤ (b - a) * t + a ∧ (b - a) * t + a ≤ max a b := by
  have e : (b - a) * t + a = t * b + (1 - t) * a := by
    rw [sub_mul, sub_mul, one_mul, mul_comm b, mul_comm a, sub_add_eq_add_sub, add_sub_assoc]
  rw [e, min_comm, max_comm]
  exact convex_between b a t h0 h1

theorem sum_nonneg (l : List F) (h : ∀ x ∈ l, 0 ≤ x) : 0 ≤ l.sum := by
  induction l with
  | nil => exact le_refl _
  | cons a l ih =>
    rw [List.sum_cons]
    exact add_nonneg (h a List.mem_cons_self) (ih fun x hx => h x (List.mem_cons_of_mem _ hx))

end MahfModel.Arith
