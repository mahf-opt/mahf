/- C13: the two translocation helpers return the specification on the valid inputs and `none` on every other input;
   the specification is a permutation of the list. -/
import MahfModel.Model.Variation
namespace MahfModel.Variation
variable {α : Type}

theorem translocValid_iff (len s e i : Nat) :
    translocValid len s e i = true ↔ (i < len ∧ s < len ∧ e ≤ len) ∧ s ≤ e ∧ i + (e - s) ≤ len := by
  simp only [translocValid, translocContract, Bool.and_eq_true, decide_eq_true_eq, and_assoc]

theorem take_slice_drop (l : List α) (s e : Nat) (h : s ≤ e) :
    l.take s ++ ((l.drop s).take (e - s) ++ l.drop e) = l := by
  have : l.drop e = (l.drop s).drop (e - s) := by rw [List.drop_drop, Nat.add_sub_cancel' h]
  rw [this, List.take_append_drop, List.take_append_drop]

theorem rotRight_append (X Y : List α) (k : Nat) (hk : k = Y.length) : rotRight (X ++ Y) k = some (Y ++ X) := by
  subst hk
  simp [rotRight]

theorem rotLeft_append (X Y : List α) (k : Nat) (hk : k = X.length) : rotLeft (X ++ Y) k = some (Y ++ X) := by
  subst hk
  simp [rotLeft]

theorem translocateSlice2_eq (l : List α) (s e i : Nat) (h : translocValid l.length s e i = true) :
    translocateSlice2 l s e i = some (translocSpec l s e i) := by
  obtain ⟨⟨h1, h2, h3⟩, h4, h5⟩ := (translocValid_iff _ s e i).mp h
  have hc : translocContract l.length s e i = true := by
    simp only [translocContract, h1, h2, h3, decide_true, Bool.and_self]
  rw [translocateSlice2, hc, Bool.not_true, if_neg Bool.false_ne_true,
    if_neg (Nat.not_lt.mpr (Nat.le_trans h4 (Nat.le_add_left e i))),
    if_neg (Classical.not_not.mpr (Nat.add_sub_assoc h4 i ▸ h5)), if_neg (Nat.not_lt.mpr h4)]
  dsimp only
  rw [if_neg (by rw [List.length_append, List.length_take, List.length_drop]; omega)]
  rfl

/-- With `A = l[..s]`, `S = l[s..e]`, `C = l[e..]`: for `i < s` the code rotates `l[i..s] ++ S` to `S ++ l[i..s]`,
for `s < i` it rotates `S ++ C[..i-s]` to `C[..i-s] ++ S`; the specification cuts `A ++ C` at `i` in both cases. -/
theorem translocateSlice_eq (l : List α) (s e i : Nat) (h : translocValid l.length s e i = true) :
    translocateSlice l s e i = some (translocSpec l s e i) := by
  obtain ⟨⟨h1, h2, h3⟩, h4, h5⟩ := (translocValid_iff _ s e i).mp h
  have hA : (l.take s).length = s := List.length_take_of_le (Nat.le_of_lt h2)
  have hS : ((l.drop s).take (e - s)).length = e - s :=
    List.length_take_of_le (List.length_drop ▸ Nat.sub_le_sub_right h3 s)
  simp only [translocateSlice, translocSpec, translocContract, h1, h2, h3, decide_true, Bool.and_self, Bool.not_true,
    Nat.not_lt.mpr h4, h5, Bool.false_eq_true, if_false, not_true]
  split
  · next c1 =>
    have hX : (l.drop i).take (e - i) = (l.drop i).take (s - i) ++ (l.drop s).take (e - s) := by
      rw [show e - i = (s - i) + (e - s) by rw [Nat.add_comm, Nat.sub_add_sub_cancel h4 (Nat.le_of_lt c1)],
        List.take_add, List.drop_drop, Nat.add_sub_cancel' (Nat.le_of_lt c1)]
    have ht : (l.take s ++ l.drop e).take i = l.take i := by
      rw [List.take_append_of_le_length (hA.symm ▸ Nat.le_of_lt c1), List.take_take, Nat.min_eq_left (Nat.le_of_lt c1)]
    have hd : (l.take s ++ l.drop e).drop i = (l.drop i).take (s - i) ++ l.drop e := by
      rw [List.drop_append_of_le_length (hA.symm ▸ Nat.le_of_lt c1), List.drop_take]
    rw [hX, rotRight_append _ _ _ hS.symm, ht, hd]
    simp only [List.append_assoc]
  · split
    · next c1 c2 =>
      have hX : (l.drop s).take (i + (e - s) - s) = (l.drop s).take (e - s) ++ (l.drop e).take (i - s) := by
        rw [show i + (e - s) - s = (e - s) + (i - s) by rw [Nat.add_comm i, Nat.add_sub_assoc (Nat.le_of_lt c2)],
          List.take_add, List.drop_drop, Nat.add_sub_cancel' h4]
      have ht : (l.take s ++ l.drop e).take i = l.take s ++ (l.drop e).take (i - s) := by
        rw [List.take_append, List.take_take, Nat.min_eq_right (Nat.le_of_lt c2), hA]
      have hd : (l.take s ++ l.drop e).drop i = l.drop (i + (e - s)) := by
        rw [List.drop_append, hA, List.drop_take, Nat.sub_eq_zero_of_le (Nat.le_of_lt c2), List.take_zero,
          List.nil_append, List.drop_drop, show e + (i - s) = i + (e - s) by
            rw [← Nat.add_sub_assoc (Nat.le_of_lt c2), Nat.add_comm e, Nat.add_sub_assoc h4]]
      rw [hX, rotLeft_append _ _ _ hS.symm, ht, hd]
      simp only [List.append_assoc]
    · next c1 c2 =>
      obtain rfl : i = s := Nat.le_antisymm (Nat.not_lt.mp c2) (Nat.not_lt.mp c1)
      rw [List.take_left' hA, List.drop_left' hA, List.append_assoc, take_slice_drop l i e h4]

/-- `rest[..i] ++ S ++ rest[i..] ~ S ++ rest`, and `S ++ (A ++ C) ~ A ++ (S ++ C) = l`. -/
theorem translocSpec_perm (l : List α) (s e i : Nat) (h4 : s ≤ e) :
    (translocSpec l s e i).Perm l := by
  simp only [translocSpec]
  rw [List.append_assoc]
  refine (List.perm_append_comm_assoc _ _ _).trans ?_
  rw [List.take_append_drop]
  refine (List.perm_append_comm_assoc _ _ _).trans ?_
  rw [take_slice_drop l s e h4]

theorem translocate_invalid (l : List α) (s e i : Nat) (h : translocValid l.length s e i = false) :
    translocateSlice l s e i = none ∧ translocateSlice2 l s e i = none := by
  unfold translocateSlice translocateSlice2
  cases hc : translocContract l.length s e i
  · exact ⟨if_pos rfl, if_pos rfl⟩
  · have hv : ¬ (s ≤ e ∧ i + (e - s) ≤ l.length) := by simpa [translocValid, hc] using h
    rw [Bool.not_true, if_neg Bool.false_ne_true, if_neg Bool.false_ne_true]
    constructor
    · by_cases h1 : e < s
      · rw [if_pos h1]
      · rw [if_neg h1]; dsimp only; rw [if_pos fun h5 => hv ⟨Nat.le_of_not_lt h1, h5⟩]
    · by_cases h0 : i + e < s
      · rw [if_pos h0]
      · rw [if_neg h0]
        by_cases h2 : i + e - s ≤ l.length
        · rw [if_neg (Classical.not_not.mpr h2), if_pos (Nat.lt_of_not_le fun h4 => hv ⟨h4, Nat.add_sub_assoc h4 i ▸ h2⟩)]
        · rw [if_pos h2]

end MahfModel.Variation
