/- Soundness of the loop-counter check `itersExact` for every execution of `lexec`. -/
import MahfModel.Proofs.C16IterFuel
namespace MahfModel.Tpl

/-- What is known about the passes made so far by a running loop whose counter started at 0. -/
def LCond.inv : LCond → Nat → Prop
  | .iterLt n, p => p ≤ n
  | .both n, p => p ≤ n
  | .either _, _ => True
  | .other, _ => True

theorem LCond.inv_zero (c : LCond) : c.inv 0 := by
  cases c <;> simp [LCond.inv]

theorem LCond.inv_step (c : LCond) (p : Nat) (b : Bool) (he : c.eval p b = true) : c.inv (p + 1) := by
  cases c with
  | iterLt n => exact (of_decide_eq_true he : p < n)
  | both n => exact (of_decide_eq_true (Bool.and_eq_true_iff.1 he).1 : p < n)
  | either _ | other => trivial

theorem LCond.ok_exit (c : LCond) (p : Nat) (b : Bool) (hi : c.inv p) (he : c.eval p b = false) :
    c.okCount p = true := by
  cases c with
  | iterLt n => exact beq_iff_eq.2 (Nat.le_antisymm hi (Nat.not_lt.1 (of_decide_eq_false he)))
  | both n => exact decide_eq_true hi
  | either n => exact decide_eq_true (Nat.not_lt.1 (of_decide_eq_false (Bool.or_eq_false_iff.1 he).1))
  | other => rfl

/-- What an execution at nesting depth `d` does to the ghost state: the flag is never set again once cleared, and
the pass log grows by passes of depth `≥ d` only. -/
def Advances (d : Nat) (s s' : LSt) : Prop :=
  (s'.exact = true → s.exact = true) ∧ ∃ l, s'.passes = l ++ s.passes ∧ ∀ x ∈ l, d ≤ x

theorem Advances.refl (d : Nat) (s : LSt) : Advances d s s := ⟨id, [], rfl, by simp⟩

theorem Advances.trans {d : Nat} {s s1 s' : LSt} (h1 : Advances d s s1) (h2 : Advances d s1 s') : Advances d s s' := by
  obtain ⟨l1, e1, m1⟩ := h1.2
  obtain ⟨l2, e2, m2⟩ := h2.2
  refine ⟨h1.1 ∘ h2.1, l2 ++ l1, by rw [e2, e1, List.append_assoc], fun x hx => ?_⟩
  exact (List.mem_append.1 hx).elim (m2 x) (m1 x)

theorem Advances.pass {d : Nat} {s s1 : LSt} (h : Advances (d + 1) s s1) (ctrs : List Nat) :
    Advances d s { s1 with ctrs := ctrs, passes := d :: s1.passes } := by
  obtain ⟨l, e, m⟩ := h.2
  refine ⟨h.1, d :: l, by simp [e], fun x hx => ?_⟩
  rcases List.mem_cons.1 hx with rfl | hx
  · exact Nat.le_refl _
  · exact Nat.le_of_succ_le (m x hx)

theorem Advances.passesAt_eq {d : Nat} {s s' : LSt} (h : Advances (d + 1) s s') : passesAt d s' = passesAt d s := by
  obtain ⟨l, e, m⟩ := h.2
  have hnil : l.filter (· == d) = [] := by
    rw [List.filter_eq_nil_iff]
    intro x hx
    exact fun h => absurd (beq_iff_eq.1 h) (Nat.ne_of_gt (m x hx))
  simp [passesAt, e, List.filter_append, hnil]

/-- What one scope level with `k ≤ 1` loops does: without a loop the counters are left alone; entered with a fresh
counter, those of the enclosing levels are; either way no loop execution is flagged. -/
def KeepsLevel (k : Nat) (s s' : LSt) : Prop :=
  (k = 0 → s'.ctrs = s.ctrs ∧ (s.exact = true → s'.exact = true)) ∧
  ∀ r, s.ctrs = 0 :: r → (∃ x, s'.ctrs = x :: r) ∧ (s.exact = true → s'.exact = true)

theorem KeepsLevel.refl (k : Nat) (s : LSt) : KeepsLevel k s s := ⟨fun _ => ⟨rfl, id⟩, fun _ h => ⟨⟨0, h⟩, id⟩⟩

theorem KeepsLevel.mono {j k : Nat} {s s' : LSt} (h : KeepsLevel j s s') (hjk : j ≤ k) : KeepsLevel k s s' :=
  ⟨fun hk => h.1 (Nat.le_zero.1 (hk ▸ hjk)), h.2⟩

/-- The loop of the level, if any, is in one of the two parts: before it the counter is still fresh, after it
nothing touches the counter. -/
theorem KeepsLevel.trans {j k : Nat} {s s1 s' : LSt} (h1 : KeepsLevel j s s1) (h2 : KeepsLevel k s1 s')
    (hjk : j + k ≤ 1) : KeepsLevel (j + k) s s' := by
  refine ⟨fun h0 => ?_, fun r hr => ?_⟩
  · obtain ⟨hj, hk⟩ := Nat.add_eq_zero_iff.1 h0
    obtain ⟨c1, e1⟩ := h1.1 hj
    obtain ⟨c2, e2⟩ := h2.1 hk
    exact ⟨c2.trans c1, e2 ∘ e1⟩
  · by_cases hj : j = 0
    · obtain ⟨c1, e1⟩ := h1.1 hj
      obtain ⟨c2, e2⟩ := h2.2 r (c1.trans hr)
      exact ⟨c2, e2 ∘ e1⟩
    · obtain ⟨⟨x, c1⟩, e1⟩ := h1.2 r hr
      obtain ⟨c2, e2⟩ := h2.1 (Nat.le_zero.1 (Nat.le_of_add_le_add_left
        (Nat.le_trans (Nat.add_le_add_right (Nat.pos_of_ne_zero hj) k) hjk)))
      exact ⟨⟨x, c2.trans c1⟩, e2 ∘ e1⟩

/-- A running loop whose body has no loop of this level and whose counter equals the passes made so far
makes some `q` further passes: counter `p + q`, `q` more log entries of its depth, and `p + q` allowed by its condition. -/
theorem lexec_sound (o : LOracle) (fuel : Nat) :
    (∀ d c s s', lexec o fuel d c s = some s' → Advances d s s' ∧
      (directLoops c ≤ 1 → scopesOk c = true → KeepsLevel (directLoops c) s s')) ∧
    (∀ d cs s s', lexecs o fuel d cs s = some s' → Advances d s s' ∧
      (directLoopsL cs ≤ 1 → scopesOkL cs = true → KeepsLevel (directLoopsL cs) s s')) ∧
    (∀ d c b p s s', lloop o fuel d c b p s = some s' → Advances d s s' ∧
      ∀ r, directLoops b = 0 → scopesOk b = true → s.ctrs = p :: r → c.inv p →
        ∃ q, s'.ctrs = (p + q) :: r ∧ passesAt d s' = passesAt d s + q ∧ c.okCount (p + q) = true ∧
          (s.exact = true → s'.exact = true)) := by
  induction fuel with
  | zero => simp only [lexec_zero, lexecs_zero, lloop_zero, reduceCtorEq, false_implies, implies_true, and_self]
  | succ fuel ih =>
    obtain ⟨ih1, ih2, ih3⟩ := ih
    refine ⟨fun d c s s' h => ?_, fun d cs s s' h => ?_, fun d c b p s s' h => ?_⟩
    · cases c with
      | leaf rp =>
        rw [lexec_leaf] at h
        split at h
        · cases h
        · cases h; exact ⟨.refl d s, fun _ _ => .refl _ s⟩
      | seq cs => exact ih2 _ _ _ _ (lexec_seq .. ▸ h)
      | loop c b =>
        obtain ⟨ha, hl⟩ := ih3 _ _ _ _ _ _ (lexec_loop .. ▸ h)
        refine ⟨ha, fun (hd : 1 + directLoops b ≤ 1) hs => ⟨fun h0 => (nomatch (Nat.add_eq_zero_iff.1 h0).1), fun r hr => ?_⟩⟩
        obtain ⟨q, e, _, _, he⟩ := hl r (Nat.le_zero.1 (Nat.le_of_add_le_add_left hd)) hs hr c.inv_zero
        exact ⟨⟨_, e⟩, he⟩
      | branch t e =>
        -- both relations read `exact`, `passes`, `ctrs` only: the state with the advanced `tick` stands for `s` by unfolding
        obtain ⟨ha, hk⟩ := ih1 _ _ _ _ (lexec_branch .. ▸ h)
        refine ⟨ha, fun (hd : directLoops t + directLoops e ≤ 1) (hs : (scopesOk t && scopesOk e) = true) => ?_⟩
        rw [Bool.and_eq_true] at hs
        show KeepsLevel (directLoops t + directLoops e) _ _
        split at hk
        · exact (hk (Nat.le_trans (Nat.le_add_right ..) hd) hs.1).mono (Nat.le_add_right ..)
        · exact (hk (Nat.le_trans (Nat.le_add_left ..) hd) hs.2).mono (Nat.le_add_left ..)
      | scope b =>
        rw [lexec_scope, Option.map_eq_some_iff] at h
        obtain ⟨s1, h1, rfl⟩ := h
        obtain ⟨ha, hk⟩ := ih1 _ _ _ _ h1
        refine ⟨ha, fun _ (hs : (decide (directLoops b ≤ 1) && scopesOk b) = true) => ?_⟩
        rw [Bool.and_eq_true, decide_eq_true_eq] at hs
        obtain ⟨⟨x, hx⟩, he⟩ := (hk hs.1 hs.2).2 s.ctrs rfl
        have hc : ({ s1 with ctrs := s1.ctrs.tail, prog := s.prog } : LSt).ctrs = s.ctrs := by simp [hx]
        exact ⟨fun _ => ⟨hc, he⟩, fun r hr => ⟨⟨0, hc.trans hr⟩, he⟩⟩
    · cases cs with
      | nil => rw [lexecs_nil] at h; cases h; exact ⟨.refl d s, fun _ _ => .refl _ s⟩
      | cons c rest =>
        rw [lexecs_cons, Option.bind_eq_some_iff] at h
        obtain ⟨s1, h1, h2⟩ := h
        obtain ⟨a1, k1⟩ := ih1 _ _ _ _ h1
        obtain ⟨a2, k2⟩ := ih2 _ _ _ _ h2
        refine ⟨a1.trans a2, fun (hd : directLoops c + directLoopsL rest ≤ 1)
          (hs : (scopesOk c && scopesOkL rest) = true) => ?_⟩
        rw [Bool.and_eq_true] at hs
        exact (k1 (Nat.le_trans (Nat.le_add_right ..) hd) hs.1).trans (k2 (Nat.le_trans (Nat.le_add_left ..) hd) hs.2) hd
    · cases hc : s.ctrs with
      | nil => rw [lloop_nil _ _ _ _ _ _ _ hc] at h; cases h
      | cons ctr r =>
        rw [lloop_cons _ _ _ _ _ _ _ hc] at h
        split at h
        next hev =>
          rw [Option.bind_eq_some_iff] at h
          obtain ⟨s1, h1, h2⟩ := h
          obtain ⟨a1, k1⟩ := ih1 _ _ _ _ h1
          obtain ⟨a2, k2⟩ := ih3 _ _ _ _ _ _ h2
          refine ⟨(Advances.pass a1 _).trans a2, fun r' hd hs hc' hi => ?_⟩
          obtain ⟨rfl, rfl⟩ := List.cons.inj hc'
          obtain ⟨c1, x1⟩ := (k1 (hd ▸ Nat.zero_le 1) hs).1 hd
          obtain ⟨q, e1, e2, e3, e4⟩ := k2 r hd hs (by simp [c1, hc, bump]) (c.inv_step ctr _ hev)
          have hp : passesAt d s1 = passesAt d s := a1.passesAt_eq
          rw [Nat.add_assoc, Nat.add_comm 1 q] at e1 e3
          refine ⟨q + 1, e1, ?_, e3, e4 ∘ x1⟩
          rw [e2, ← hp, Nat.add_comm q 1, ← Nat.add_assoc]
          simp [passesAt]
        next hev =>
          cases h
          refine ⟨⟨fun hk => by simpa using (Bool.and_eq_true _ _ ▸ hk).1, [], rfl, by simp⟩, fun r' _ _ hc' hi => ?_⟩
          obtain ⟨rfl, rfl⟩ := List.cons.inj hc'
          have hok := c.ok_exit ctr _ hi (by simpa using hev)
          exact ⟨0, hc, rfl, hok, fun hk => by simp [hk, hok]⟩

theorem lexecs_exact_mono (o : LOracle) : ∀ (fuel d : Nat) (cs : LComps) (s s' : LSt),
    lexecs o fuel d cs s = some s' → s'.exact = true → s.exact = true :=
  fun fuel d cs s s' h => ((lexec_sound o fuel).2.1 d cs s s' h).1.1

theorem lloop_exact_mono (o : LOracle) : ∀ (fuel d : Nat) (c : LCond) (b : LComp) (p : Nat) (s s' : LSt),
    lloop o fuel d c b p s = some s' → s'.exact = true → s.exact = true :=
  fun fuel d c b p s s' h => ((lexec_sound o fuel).2.2 d c b p s s' h).1.1

theorem lexecs_passes (o : LOracle) : ∀ (fuel d : Nat) (cs : LComps) (s s' : LSt),
    lexecs o fuel d cs s = some s' → ∃ l, s'.passes = l ++ s.passes ∧ ∀ x ∈ l, d ≤ x :=
  fun fuel d cs s s' h => ((lexec_sound o fuel).2.1 d cs s s' h).1.2

theorem lloop_passes (o : LOracle) : ∀ (fuel d : Nat) (c : LCond) (b : LComp) (p : Nat) (s s' : LSt),
    lloop o fuel d c b p s = some s' → ∃ l, s'.passes = l ++ s.passes ∧ ∀ x ∈ l, d ≤ x :=
  fun fuel d c b p s s' h => ((lexec_sound o fuel).2.2 d c b p s s' h).1.2

theorem oneLoop_sound (o : LOracle) (fuel d : Nat) (c : LComp) (s s' : LSt) (r : List Nat)
    (hd : directLoops c ≤ 1) (hs : scopesOk c = true) (hc : s.ctrs = 0 :: r) (h : lexec o fuel d c s = some s') :
    (∃ x, s'.ctrs = x :: r) ∧ (s.exact = true → s'.exact = true) :=
  (((lexec_sound o fuel).1 d c s s' h).2 hd hs).2 r hc

theorem noLoops_sound (o : LOracle) : ∀ (fuel d : Nat) (cs : LComps) (s s' : LSt),
    directLoopsL cs = 0 → scopesOkL cs = true → lexecs o fuel d cs s = some s' →
    s'.ctrs = s.ctrs ∧ (s.exact = true → s'.exact = true) :=
  fun fuel d cs s s' hd hs h => (((lexec_sound o fuel).2.1 d cs s s' h).2 (hd ▸ Nat.zero_le 1) hs).1 hd

theorem oneLoops_sound (o : LOracle) : ∀ (fuel d : Nat) (cs : LComps) (s s' : LSt) (r : List Nat),
    directLoopsL cs ≤ 1 → scopesOkL cs = true → s.ctrs = 0 :: r → lexecs o fuel d cs s = some s' →
    (∃ x, s'.ctrs = x :: r) ∧ (s.exact = true → s'.exact = true) :=
  fun fuel d cs s s' r hd hs hc h => (((lexec_sound o fuel).2.1 d cs s s' h).2 hd hs).2 r hc

/-- The numbers for a running loop, under any condition. -/
theorem lloop_exact (o : LOracle) (fuel d : Nat) (c : LCond) (b : LComp) (p : Nat) (s s' : LSt) (r : List Nat)
    (hd : directLoops b = 0) (hs : scopesOk b = true) (hc : s.ctrs = p :: r) (hi : c.inv p)
    (h : lloop o fuel d c b p s = some s') :
    ∃ q, s'.ctrs = (p + q) :: r ∧ passesAt d s' = passesAt d s + q ∧ c.okCount (p + q) = true ∧
      (s.exact = true → s'.exact = true) :=
  ((lexec_sound o fuel).2.2 d c b p s s' h).2 r hd hs hc hi

theorem lloop_sound (o : LOracle) : ∀ (fuel d : Nat) (c : LCond) (b : LComp) (p : Nat) (s s' : LSt) (r : List Nat),
    directLoops b = 0 → scopesOk b = true → s.ctrs = p :: r → c.inv p →
    lloop o fuel d c b p s = some s' →
    (∃ x, s'.ctrs = x :: r) ∧ (s.exact = true → s'.exact = true) :=
  fun fuel d c b p s s' r hd hs hc hi h =>
    let ⟨_, e, _, _, he⟩ := lloop_exact o fuel d c b p s s' r hd hs hc hi h
    ⟨⟨_, e⟩, he⟩

/-- The check is sound: every loop execution of every terminating run made an allowed number of passes, and only the
top level's counter remains. -/
theorem itersExact_sound (o : LOracle) (fuel : Nat) (c : LComp) (s' : LSt) (hc : itersExact c = true)
    (h : lexec o fuel 0 c (LSt.init c) = some s') : s'.exact = true ∧ ∃ x, s'.ctrs = [x] := by
  simp only [itersExact, Bool.and_eq_true, decide_eq_true_eq] at hc
  have g := oneLoop_sound o fuel 0 c (LSt.init c) s' [] hc.1 hc.2 rfl h
  exact ⟨g.2 rfl, g.1⟩

end MahfModel.Tpl
