/-
Lists as bags.  Two models state multiset inclusion with a completion, `∃ r, (a ++ r).Perm b`
(`Replacement.SubBag`, the archive invariant of `PopMachineC07`), and compute what was left out by erasing
(`Replacement.bagDiff`, `PopMachine.eraseAll`): that is `List.Subperm` and `List.diff`, whose theory is in Batteries.
-/
import Batteries.Data.List.Perm
namespace MahfModel
variable {α : Type}

theorem exists_perm_append_iff_subperm {a b : List α} : (∃ r, (a ++ r).Perm b) ↔ a.Subperm b :=
  ⟨fun ⟨_, hp⟩ => (List.sublist_append_left _ _).subperm.trans hp.subperm,
   fun ⟨_, hl, hs⟩ => let ⟨r, hp⟩ := hs.exists_perm_append; ⟨r, (hl.symm.append_right r).trans hp.symm⟩⟩

/-- The completion is what erasing leaves. -/
theorem perm_append_diff_of_subperm [DecidableEq α] {a b : List α} (h : a.Subperm b) : (a ++ b.diff a).Perm b :=
  List.subperm_append_diff_self_of_count_le (List.subperm_ext_iff.1 h)

theorem perm_diff_of_perm_append [DecidableEq α] {a r b : List α} (h : (a ++ r).Perm b) : (b.diff a).Perm r :=
  (List.perm_append_left_iff a).1
    ((perm_append_diff_of_subperm (exists_perm_append_iff_subperm.1 ⟨r, h⟩)).trans h.symm)

end MahfModel
