/- C19 (ant colony), the generation half: a route under construction (what is still to come is a permutation of
`remaining`; legal witnesses are not refused; no panic where `WeightedIndex::new` succeeds), the greedy route (the
code's loop as a run of the witness model, `max_by` returns the last maximum), a whole generation, and the ordered
field, where every sampling weight is positive. -/
import MahfModel.Proofs.C19Matrix
import Mathlib.Algebra.Order.Field.Basic
import Mathlib.Data.List.Nodup
import Mathlib.Data.List.Perm.Subperm
namespace MahfModel.Aco

variable {F : Type}

/-! ### Routes -/

/-- A step of a construction keeps "what is still to come is a permutation of `remaining`". -/
theorem rest_perm_step {route rem t : List Nat} {k c : Nat} (hc : rem[k]? = some c)
    (h : ∃ s, t = route ++ [c] ++ s ∧ s.Perm (rem.eraseIdx k)) : ∃ s, t = route ++ s ∧ s.Perm rem := by
  obtain ⟨s, rfl, hs⟩ := h
  obtain ⟨hk, rfl⟩ := List.getElem?_eq_some_iff.mp hc
  exact ⟨rem[k] :: s, by rw [List.append_assoc]; rfl, (hs.cons _).trans (List.getElem_cons_eraseIdx_perm hk)⟩

theorem rest_perm_done {route rem : List Nat} (he : rem.isEmpty = true) : ∃ s, route = route ++ s ∧ s.Perm rem :=
  ⟨[], (List.append_nil _).symm, by rw [List.isEmpty_iff.mp he]⟩

theorem remaining0_mem {n r : Nat} (h : r ∈ remaining0 n) : r < n ∧ r ≠ 0 := by
  simp only [remaining0, List.mem_range'_1] at h
  omega

theorem remaining0_nodup (n : Nat) : (remaining0 n).Nodup := List.nodup_range'

theorem remaining0_length (n : Nat) : (remaining0 n).length = n - 1 := List.length_range'

theorem range_eq_zero_cons (n : Nat) (h : 1 ≤ n) : List.range n = 0 :: remaining0 n := by
  obtain ⟨m, rfl⟩ : ∃ m, n = m + 1 := ⟨n - 1, by omega⟩
  rw [remaining0, List.range_eq_range', List.range'_succ, Nat.add_sub_cancel, Nat.zero_add]

theorem greedyGoW_perm {le : F → F → Bool} {pm : PM F} {ks route : List Nat} {last : Nat} {remaining t : List Nat}
    (h : greedyGoW le pm ks route last remaining = .ok t) : ∃ s, t = route ++ s ∧ s.Perm remaining := by
  fun_induction greedyGoW le pm ks route last remaining with
  | case1 route _ rem he =>  -- witness and cities exhausted
    cases h
    exact rest_perm_done he
  | case6 k ks route last rem _ ph _ _ c hc ih =>  -- one step
    exact rest_perm_step hc (ih h)
  | _ => cases h

section
variable [Add F] [Mul F] [Div F] [LT F] [LE F] [DecidableLT F] [DecidableLE F] [OfNat F 0] [OfNat F 1]

theorem sampleGo_perm {N : Num F} {pm : PM F} {dist : Nat → Nat → F} {α β : F} {ks route : List Nat} {last : Nat}
    {remaining t : List Nat} (h : sampleGo N pm dist α β ks route last remaining = .ok t) :
    ∃ s, t = route ++ s ∧ s.Perm remaining := by
  fun_induction sampleGo N pm dist α β ks route last remaining with
  | case1 route _ rem he =>  -- witness and cities exhausted
    cases h
    exact rest_perm_done he
  | case6 k ks route last rem _ ws _ _ c hc ih =>  -- one step
    exact rest_perm_step hc (ih h)
  | _ => cases h

theorem witLegalGo_zeros : ∀ m : Nat, witLegalGo (List.replicate m 0) m = true
  | 0 => rfl
  | m + 1 => by
    rw [List.replicate_succ, witLegalGo, Nat.add_sub_cancel, witLegalGo_zeros m, Bool.and_true]
    exact decide_eq_true (Nat.succ_pos m)

theorem sampleGo_not_bad {N : Num F} {pm : PM F} {dist : Nat → Nat → F} {α β : F} {ks route : List Nat} {last : Nat}
    {remaining : List Nat} (h : witLegalGo ks remaining.length = true) :
    sampleGo N pm dist α β ks route last remaining ≠ .badWitness := by
  fun_induction sampleGo N pm dist α β ks route last remaining with
  | case2 route _ rem hne =>  -- cities left over
    exact absurd (List.isEmpty_iff.mpr (List.length_eq_zero_iff.mp (beq_iff_eq.mp h))) hne
  | case3 k ks route last rem he =>  -- witness left over
    simp only [witLegalGo, Bool.and_eq_true, decide_eq_true_eq, List.isEmpty_iff.mp he] at h
    exact absurd h.1 (Nat.not_lt_zero k)
  | case5 k ks route last rem _ ws _ _ hc =>  -- index outside `remaining`
    simp only [witLegalGo, Bool.and_eq_true, decide_eq_true_eq] at h
    rw [List.getElem?_eq_getElem h.1] at hc; cases hc
  | case6 k ks route last rem _ ws _ _ c hc ih =>  -- one step
    simp only [witLegalGo, Bool.and_eq_true, decide_eq_true_eq] at h
    exact ih (by rw [List.length_eraseIdx, if_pos h.1]; exact h.2)
  | _ => exact TourOut.noConfusion

theorem ne_of_mem_eraseIdx {l : List Nat} (hnd : l.Nodup) {k c : Nat} (hc : l[k]? = some c) {r : Nat}
    (hr : r ∈ l.eraseIdx k) : r ≠ c := by
  obtain ⟨hk, rfl⟩ := List.getElem?_eq_some_iff.mp hc
  rw [← List.Nodup.erase_getElem hnd k hk] at hr
  exact ((List.Nodup.mem_erase_iff hnd).mp hr).1

omit [LT F] [LE F] [DecidableLT F] [DecidableLE F] in
theorem weights_eq_map {N : Num F} {pm : PM F} (hwf : pm.wf = true) (dist : Nat → Nat → F) (α β : F) {last : Nat}
    (hl : last < pm.dim) {rem : List Nat} (h : ∀ r ∈ rem, r < pm.dim) :
    weights N pm dist α β last rem =
      some (rem.map fun r => N.pow (pm.getD last r 0) α * N.pow (1 / dist last r) β + N.eps) := by
  induction rem with
  | nil => rfl
  | cons r rs ih =>
    rw [weights, get?_getD hwf hl (h r List.mem_cons_self) 0, ih fun y hy => h y (List.mem_cons_of_mem _ hy)]
    rfl

/-- `WeightedIndex::new` succeeds wherever a route under construction can stand: at a city of the matrix, with
cities of the matrix other than it still to visit. On a carrier where this holds sampling cannot panic; the
ordered field is one such carrier (`WeightsOk.of_nonneg`). -/
def WeightsOk (N : Num F) (pm : PM F) (dist : Nat → Nat → F) (α β : F) : Prop :=
  ∀ last rem, last < pm.dim → (∀ r ∈ rem, r < pm.dim ∧ r ≠ last) → ¬ rem.isEmpty →
    ∃ ws, weights N pm dist α β last rem = some ws ∧ weightsLegal N ws = true

theorem sampleGo_no_panic {N : Num F} {pm : PM F} {dist : Nat → Nat → F} {α β : F} (hws : WeightsOk N pm dist α β)
    {ks route : List Nat} {last : Nat} {remaining : List Nat} (hl : last < pm.dim)
    (hr : ∀ r ∈ remaining, r < pm.dim ∧ r ≠ last) (hnd : remaining.Nodup) :
    sampleGo N pm dist α β ks route last remaining ≠ .panic := by
  fun_induction sampleGo N pm dist α β ks route last remaining with
  | case4 k ks route last rem hne hw =>  -- index panic
    obtain ⟨ws, hw', _⟩ := hws last rem hl hr hne
    rw [hw] at hw'; cases hw'
  | case6 k ks route last rem _ ws _ _ c hc ih =>  -- one step
    exact ih (hr c (List.mem_of_getElem? hc)).1
      (fun r hr' => ⟨(hr r (List.mem_of_mem_eraseIdx hr')).1, ne_of_mem_eraseIdx hnd hc hr'⟩)
      (hnd.eraseIdx _)
  | case7 k ks route last rem hne ws hw hill =>  -- illegal weights
    obtain ⟨ws', hw', hleg⟩ := hws last rem hl hr hne
    rw [hw] at hw'; cases hw'
    exact absurd hleg hill
  | _ => nofun

end

/-! ### The greedy route -/

theorem pheromones_some [OfNat F 0] {pm : PM F} {last : Nat} :
    ∀ {rem : List Nat} {ph : List F}, pheromones pm last rem = some ph →
      ph = rem.map (fun r => pm.getD last r 0)
  | [], ph, h => by cases h; rfl
  | r :: rs, ph, h => by
    unfold pheromones at h
    split at h
    · rename_i x xs hx hxs
      cases h
      rw [List.map_cons, getD_of_get? hx, ← pheromones_some hxs]
    · cases h

theorem pheromones_eq_map [OfNat F 0] {pm : PM F} (hwf : pm.wf = true) {last : Nat} (hl : last < pm.dim)
    {rem : List Nat} (h : ∀ r ∈ rem, r < pm.dim) :
    pheromones pm last rem = some (rem.map fun r => pm.getD last r 0) := by
  induction rem with
  | nil => rfl
  | cons r rs ih =>
    rw [pheromones, get?_getD hwf hl (h r List.mem_cons_self) 0, ih fun y hy => h y (List.mem_cons_of_mem _ hy)]
    rfl

theorem argmaxGo_lt (tle : F → F → Bool) (xs : List F) (i bi : Nat) (bv : F) (h : bi < i) :
    argmaxGo tle i bi bv xs < i + xs.length := by
  induction xs generalizing i bi bv with
  | nil => exact h
  | cons x xs ih =>
    rw [argmaxGo, List.length_cons]
    split
    · have := ih (i + 1) i x (Nat.lt_succ_self i); omega
    · have := ih (i + 1) bi bv (Nat.lt_succ_of_lt h); omega

theorem argmaxLast_lt {tle : F → F → Bool} {l : List F} {k : Nat} (h : argmaxLast tle l = some k) :
    k < l.length := by
  cases l with
  | nil => cases h
  | cons x xs =>
    cases h
    have := argmaxGo_lt tle xs 1 0 x Nat.one_pos
    rw [List.length_cons]; omega

theorem isArgmax_top_of_argmaxLast (tle : F → F → Bool) (ph : List F) (k : Nat) (h : argmaxLast tle ph = some k) :
    isArgmax (fun _ _ => true) ph k = true := by
  simp [isArgmax, List.getElem?_eq_getElem (argmaxLast_lt h)]

/-- The code's greedy construction is a run of the witness model with the same outcome, panics included, for
every acceptance test `le` that accepts the index `max_by` returns. -/
theorem greedyGo_refines [OfNat F 0] {N : Num F} (le : F → F → Bool)
    (hle : ∀ ph k, argmaxLast N.tle ph = some k → isArgmax le ph k = true) {pm : PM F} {fuel : Nat}
    {route : List Nat} {last : Nat} {remaining : List Nat} (hl : remaining.length ≤ fuel) :
    ∃ gw, greedyGoW le pm gw route last remaining =
      (greedyGo N pm fuel route last remaining).elim .panic .ok := by
  fun_induction greedyGo N pm fuel route last remaining with
  | case1 route last rem =>  -- fuel spent
    exact ⟨[], by rw [List.length_eq_zero_iff.mp (Nat.le_zero.mp hl)]; rfl⟩
  | case2 fuel route last rem he => exact ⟨[], by rw [greedyGoW, if_pos he]; rfl⟩  -- no city left
  | case3 fuel route last rem hne hph => exact ⟨[0], by simp only [greedyGoW, hne, hph]; rfl⟩  -- index panic
  | case4 fuel route last rem hne ph hph hk =>  -- no maximum: but `ph` is as long as `rem`
    cases ph with
    | nil => cases rem with
      | nil => exact absurd rfl hne
      | cons r rs => cases pheromones_some hph
    | cons x xs => cases hk
  | case5 fuel route last rem hne ph hph k hk hc =>  -- index outside `remaining`
    have hlt := argmaxLast_lt hk
    rw [pheromones_some hph, List.length_map] at hlt
    rw [List.getElem?_eq_getElem hlt] at hc; cases hc
  | case6 fuel route last rem hne ph hph k hk c hc ih =>  -- one step
    have hlt : k < rem.length := (List.getElem?_eq_some_iff.mp hc).1
    obtain ⟨gw, hgw⟩ := ih (by rw [List.length_eraseIdx, if_pos hlt]; omega)
    exact ⟨k :: gw, by simp only [greedyGoW, hne, hph, hle ph k hk, hc, hgw]; rfl⟩

theorem greedyGoW_no_panic [OfNat F 0] {le : F → F → Bool} {pm : PM F} (hwf : pm.wf = true) {ks route : List Nat} {last : Nat}
    {remaining : List Nat} (hl : last < pm.dim) (hr : ∀ r ∈ remaining, r < pm.dim) :
    greedyGoW le pm ks route last remaining ≠ .panic := by
  fun_induction greedyGoW le pm ks route last remaining with
  | case4 k ks route last rem _ hph =>  -- index panic
    rw [pheromones_eq_map hwf hl hr] at hph; cases hph
  | case6 k ks route last rem _ ph _ _ c hc ih =>  -- one step
    exact ih (hr c (List.mem_of_getElem? hc)) (fun r hr' => hr r (List.mem_of_mem_eraseIdx hr'))
  | _ => nofun

section
variable [LE F] [DecidableLE F]

theorem isArgmax_iff (ph : List F) (k : Nat) :
    isArgmax dle ph k = true ↔ ∃ w, ph[k]? = some w ∧ ∀ x ∈ ph, x ≤ w := by
  unfold isArgmax
  cases ph[k]? with
  | none => exact ⟨nofun, fun ⟨_, h, _⟩ => nomatch h⟩
  | some w =>
    simp only [List.all_eq_true, dle, decide_eq_true_eq]
    exact ⟨fun h => ⟨w, rfl, h⟩, fun ⟨_, h, hall⟩ => Option.some.inj h ▸ hall⟩

variable [OfNat F 0]

theorem greedyOkGo_of_greedyGoW {pm : PM F} {ks route : List Nat} {last : Nat} {remaining t : List Nat}
    (hnd : remaining.Nodup) (h : greedyGoW dle pm ks route last remaining = .ok t) :
    ∃ s, t = route ++ s ∧ greedyOkGo pm s last remaining = true := by
  fun_induction greedyGoW dle pm ks route last remaining with
  | case1 route _ rem he => cases h; exact ⟨[], (List.append_nil _).symm, rfl⟩  -- witness and cities exhausted
  | case6 k ks route last rem _ ph hph hmax c hc ih =>  -- one step
    obtain ⟨s, rfl, hok⟩ := ih (hnd.eraseIdx _) h
    refine ⟨c :: s, by rw [List.append_assoc]; rfl, ?_⟩
    obtain ⟨hk, rfl⟩ := List.getElem?_eq_some_iff.mp hc
    obtain ⟨w, hw, hall⟩ := (isArgmax_iff ph k).mp hmax
    rw [pheromones_some hph] at hw hall
    rw [List.getElem?_map, List.getElem?_eq_getElem hk] at hw
    cases hw
    rw [greedyOkGo, List.Nodup.erase_getElem hnd k hk, hok, Bool.and_true, List.all_eq_true]
    exact fun r hr => decide_eq_true (hall _ (List.mem_map_of_mem hr))
  | _ => cases h

end

section order
variable [LinearOrder F]

/-- `k` is the index of the last maximum of `l`, `w` its value (what `argmax_is_last_max` concludes). -/
def IsLastMax (l : List F) (k : Nat) (w : F) : Prop :=
  l[k]? = some w ∧ (∀ x ∈ l, x ≤ w) ∧ ∀ j v, k < j → l[j]? = some v → v < w

theorem IsLastMax.snoc_le {l : List F} {k : Nat} {w x : F} (h : IsLastMax l k w) (hx : w ≤ x) :
    IsLastMax (l ++ [x]) l.length x := by
  refine ⟨List.getElem?_concat_length, fun y hy => ?_, fun j v hj hv => ?_⟩
  · rcases List.mem_append.mp hy with hy | hy
    · exact (h.2.1 y hy).trans hx
    · exact (List.mem_singleton.mp hy).le
  · rw [List.getElem?_eq_none (by rw [List.length_append, List.length_singleton]; omega)] at hv
    cases hv

theorem IsLastMax.snoc_lt {l : List F} {k : Nat} {w x : F} (h : IsLastMax l k w) (hx : x < w) :
    IsLastMax (l ++ [x]) k w := by
  refine ⟨?_, fun y hy => ?_, fun j v hj hv => ?_⟩
  · rw [List.getElem?_append_left (List.getElem?_eq_some_iff.mp h.1).1]; exact h.1
  · rcases List.mem_append.mp hy with hy | hy
    · exact h.2.1 y hy
    · rw [List.mem_singleton.mp hy]; exact hx.le
  · rw [List.getElem?_append] at hv
    split at hv
    · exact h.2.2 j v hj hv
    · rw [List.mem_singleton.mp (List.mem_of_getElem? hv)]; exact hx

/-- Loop invariant of `max_by`: the best so far is the last maximum of the elements seen so far (`pre`). -/
theorem argmaxGo_spec (xs pre : List F) (bi : Nat) (bv : F) (h : IsLastMax pre bi bv) :
    ∃ w, IsLastMax (pre ++ xs) (argmaxGo dle pre.length bi bv xs) w := by
  induction xs generalizing pre bi bv with
  | nil => exact ⟨bv, by rw [List.append_nil]; exact h⟩
  | cons x xs ih =>
    have hlen : (pre ++ [x]).length = pre.length + 1 := List.length_append
    rw [List.append_cons, argmaxGo, ← hlen]
    split
    · rename_i hle
      exact ih (pre ++ [x]) pre.length x (h.snoc_le (of_decide_eq_true hle))
    · rename_i hle
      exact ih (pre ++ [x]) bi bv (h.snoc_lt (not_le.mp (fun hh => hle (decide_eq_true hh))))

theorem argmaxLast_spec {l : List F} {k : Nat} (h : argmaxLast dle l = some k) : ∃ w, IsLastMax l k w := by
  cases l with
  | nil => cases h
  | cons x xs =>
    cases h
    exact argmaxGo_spec xs [x] 0 x ⟨rfl, fun y hy => (List.mem_singleton.mp hy).le,
      fun j v hj hv => by rw [List.getElem?_eq_none (by exact hj)] at hv; cases hv⟩

theorem isArgmax_of_argmaxLast {N : Num F} (hN : N.tle = dle) (ph : List F) (k : Nat)
    (h : argmaxLast N.tle ph = some k) : isArgmax dle ph k = true := by
  obtain ⟨w, hw, hall, _⟩ := argmaxLast_spec (hN ▸ h)
  exact (isArgmax_iff ph k).mpr ⟨w, hw, hall⟩

end order

/-! ### A generation -/

section
variable [Add F] [Mul F] [Div F] [LT F] [LE F] [DecidableLT F] [DecidableLE F] [OfNat F 0] [OfNat F 1]

theorem sampleAll_cases (N : Num F) (pm : PM F) (dist : Nat → Nat → F) (α β : F) (n ants : Nat)
    (wits : List (List Nat)) :
    match sampleAll N pm dist α β n ants wits with
    | .tours ts => ts.length = ants ∧ ∀ t ∈ ts, ∃ w, sampleGo N pm dist α β w [0] 0 (remaining0 n) = .ok t
    | .panic => ∃ w ∈ wits, sampleGo N pm dist α β w [0] 0 (remaining0 n) = .panic
    | .badWitness =>
      wits.length ≠ ants ∨ ∃ w ∈ wits, sampleGo N pm dist α β w [0] 0 (remaining0 n) = .badWitness := by
  fun_induction sampleAll N pm dist α β n ants wits with
  | case1 => exact ⟨rfl, nofun⟩  -- no ant, no witness
  | case2 | case3 => exact Or.inl nofun  -- witness left over; witness missing
  | case4 ants w ws hw => exact ⟨w, List.mem_cons_self, hw⟩  -- this ant panics
  | case5 ants w ws hw => exact Or.inr ⟨w, List.mem_cons_self, hw⟩  -- this ant's witness refused
  | case6 ants w ws t ht ts hts ih =>  -- this ant and the rest succeed
    rw [hts] at ih
    exact ⟨by rw [List.length_cons, ih.1], List.forall_mem_cons.mpr ⟨⟨w, ht⟩, ih.2⟩⟩
  | case7 ants w ws t ht hno ih =>  -- the rest fails
    cases hs : sampleAll N pm dist α β n ants ws with
    | tours ts => exact absurd hs (hno ts)
    | panic => rw [hs] at ih; obtain ⟨v, hv, h⟩ := ih; exact ⟨v, List.mem_cons_of_mem _ hv, h⟩
    | badWitness =>
      rw [hs] at ih
      exact ih.imp (fun h e => h (Nat.succ.inj e)) fun ⟨v, hv, h⟩ => ⟨v, List.mem_cons_of_mem _ hv, h⟩

theorem generateW_tours {N : Num F} {le : F → F → Bool} {pm : PM F} {dist : Nat → Nat → F} {α β : F}
    {n numAnts : Nat} {gw : List Nat} {wits ts : List (List Nat)}
    (h : generateW N le pm dist α β n numAnts gw wits = .tours ts) :
    ∃ g ss, ts = g :: ss ∧ greedyTourW le pm n gw = .ok g ∧ sampleAll N pm dist α β n numAnts wits = .tours ss := by
  unfold generateW at h
  split at h
  · cases h  -- greedy route panics
  · cases h  -- greedy witness refused
  · rename_i g hg
    split at h
    · cases h; exact ⟨g, _, rfl, hg, ‹_›⟩  -- a population
    · rename_i hno; exact absurd h (hno ts)  -- the sampling outcome is passed on

theorem generate_refines {N : Num F} (le : F → F → Bool)
    (hle : ∀ ph k, argmaxLast N.tle ph = some k → isArgmax le ph k = true) (pm : PM F) (dist : Nat → Nat → F)
    (α β : F) (n numAnts : Nat) (wits : List (List Nat)) :
    ∃ gw, generateW N le pm dist α β n numAnts gw wits = generate N pm dist α β n numAnts wits := by
  obtain ⟨gw, hgw⟩ := greedyGo_refines (pm := pm) (route := [0]) (last := 0) le hle
    (Nat.le_refl (remaining0 n).length)
  refine ⟨gw, ?_⟩
  unfold generateW generate greedyTourW greedyTour
  rw [hgw]
  cases greedyGo N pm (remaining0 n).length [0] 0 (remaining0 n) <;> rfl

theorem generateW_spec {N : Num F} {le : F → F → Bool} {pm : PM F} {dist : Nat → Nat → F} {α β : F}
    {n numAnts : Nat} {gw : List Nat} {wits ts : List (List Nat)}
    (h : generateW N le pm dist α β n numAnts gw wits = .tours ts) :
    ts.length = 1 + numAnts ∧ (1 ≤ n → ∀ t ∈ ts, t.Perm (List.range n) ∧ t.head? = some 0) := by
  obtain ⟨g, ss, rfl, hg, hs⟩ := generateW_tours h
  have hall := sampleAll_cases N pm dist α β n numAnts wits
  rw [hs] at hall
  refine ⟨by rw [List.length_cons, hall.1, Nat.add_comm], fun hn t ht => ?_⟩
  obtain ⟨s, rfl, hs⟩ : ∃ s, t = [0] ++ s ∧ s.Perm (remaining0 n) := by
    rcases List.mem_cons.mp ht with rfl | ht
    · exact greedyGoW_perm hg
    · obtain ⟨w, hw⟩ := hall.2 t ht
      exact sampleGo_perm hw
  exact ⟨by rw [range_eq_zero_cons n hn]; exact hs.cons 0, rfl⟩

theorem generateW_no_panic {N : Num F} (le : F → F → Bool) {pm : PM F} {dist : Nat → Nat → F} {α β : F}
    (hws : WeightsOk N pm dist α β) (hwf : pm.wf = true) {n : Nat} (hdim : pm.dim = n) (hn : 1 ≤ n) {numAnts : Nat}
    {gw : List Nat} {wits : List (List Nat)} : generateW N le pm dist α β n numAnts gw wits ≠ .panic := by
  subst hdim
  unfold generateW
  split
  · exact absurd ‹_› (greedyGoW_no_panic hwf hn (fun _ h => (remaining0_mem h).1))  -- greedy route panics
  · nofun  -- greedy witness refused
  · split
    · nofun  -- a population
    · intro e  -- the sampling outcome is passed on: some ant would have panicked
      have hall := sampleAll_cases N pm dist α β pm.dim numAnts wits
      rw [e] at hall
      obtain ⟨w, _, hp⟩ := hall
      exact sampleGo_no_panic hws hn (fun _ h => remaining0_mem h) (remaining0_nodup _) hp

end

/-! ### The executable permutation predicate -/

theorem isPermFromZero_iff (n : Nat) (t : List Nat) :
    isPermFromZero n t = true ↔ t.Perm (List.range n) ∧ t.head? = some 0 := by
  simp only [isPermFromZero, Bool.and_eq_true, beq_iff_eq, List.all_eq_true, List.contains_iff_mem,
    List.mem_range]
  refine ⟨fun ⟨⟨hh, hl⟩, hall⟩ => ⟨?_, hh⟩, fun ⟨hp, hh⟩ =>
    ⟨⟨hh, by simpa using hp.length_eq⟩, fun c hc => hp.mem_iff.mpr (List.mem_range.mpr hc)⟩⟩
  -- `range n` has no repetition and lies inside `t`, which is no longer
  exact ((List.subperm_of_subset List.nodup_range fun c hc => hall c (List.mem_range.mp hc)).perm_of_length_le
    (by simp [hl])).symm

/-! ### Sampling weights in an ordered field -/

section field
variable [Field F] [LinearOrder F] [IsStrictOrderedRing F]

theorem foldl_add_pos {l : List F} {a : F} (ha : 0 < a) (h : ∀ w ∈ l, 0 < w) : 0 < l.foldl (· + ·) a :=
  List.foldlRecOn l _ ha fun _ hb w hw => add_pos hb (h w hw)

theorem weightsLegal_of_pos {N : Num F} (hfin : ∀ x, N.fin x = true) {ws : List F} (hne : ws ≠ [])
    (hpos : ∀ w ∈ ws, 0 < w) : weightsLegal N ws = true := by
  cases ws with
  | nil => exact absurd rfl hne
  | cons w rest =>
    simp only [weightsLegal, Bool.and_eq_true, List.all_eq_true, decide_eq_true_eq, hfin, and_true]
    exact ⟨fun x hx => (hpos x hx).le,
      foldl_add_pos (hpos w List.mem_cons_self) (fun x hx => hpos x (List.mem_cons_of_mem _ hx))⟩

/-- In exact arithmetic every sampling weight is positive, so `WeightedIndex::new` cannot fail. -/
theorem WeightsOk.of_nonneg {N : Num F} {pm : PM F} {dist : Nat → Nat → F} (hfin : ∀ x, N.fin x = true)
    (hpow : ∀ x a, 0 ≤ x → 0 ≤ N.pow x a) (heps : 0 < N.eps) (hwf : pm.wf = true) (hnn : ∀ x ∈ pm.inner, 0 ≤ x)
    (hd : ∀ i j, i ≠ j → 0 < dist i j) (α β : F) : WeightsOk N pm dist α β := by
  intro last rem hl hr hne
  refine ⟨_, weights_eq_map hwf dist α β hl fun r h => (hr r h).1,
    weightsLegal_of_pos hfin (fun e => hne (by rw [List.map_eq_nil_iff.mp e]; rfl))
      (List.forall_mem_map.mpr fun r h => ?_)⟩
  obtain ⟨hr', hne'⟩ := hr r h
  exact add_pos_of_nonneg_of_pos (mul_nonneg (hpow _ α (hnn _ (getD_mem hwf hl hr' 0)))
    (hpow _ β (one_div_nonneg.mpr (hd last r (Ne.symm hne')).le))) heps

end field

end MahfModel.Aco
