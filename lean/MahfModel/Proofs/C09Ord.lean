/- C09 — the users of the order as comparison programs (`CmpProg`): `bind`, freedom from panics of their own (`NoFail`),
the model's sort / min / max as programs, closed forms of the runs of `Ord::min` / `max` / `clamp` on legal values, and what
`BTreeSet::insert` returns on a strictly ascending set of them. Imports no Mathlib. -/
import MahfModel.Proofs.C09
import MahfModel.Model.ObjectiveOrd
namespace MahfModel.Objective
open CmpProg

/-! ### comparison programs: `NoFail` and `bind` (soundness itself is `comparison_program_safe`, Props/C09Ord.lean) -/

namespace CmpProg
variable {α β γ : Type}

/-- No branch of the program contains the algorithm's own `fail`. -/
def NoFail : CmpProg α β → Prop
  | .ret _ => True
  | .fail => False
  | .ask _ _ k => ∀ o, (k o).NoFail
  | .askP _ _ k => ∀ o, (k o).NoFail
  | .askEq _ _ k => ∀ o, (k o).NoFail

theorem NoFail_bind (p : CmpProg α β) (f : β → CmpProg α γ) (hp : p.NoFail) (hf : ∀ b, (f b).NoFail) :
    (p.bind f).NoFail := by
  induction p with
  | ret b => exact hf b
  | fail => exact absurd hp (by simp [NoFail])
  | ask x y k ih => intro o; exact ih o (hp o)
  | askP x y k ih => intro o; exact ih o (hp o)
  | askEq x y k ih => intro o; exact ih o (hp o)

theorem run_bind (key : α → F64) (p : CmpProg α β) (f : β → CmpProg α γ) :
    (p.bind f).run key = (match p.run key with | .ok b => (f b).run key | .panic => .panic) := by
  induction p with
  | ret b => rfl
  | fail => rfl
  | ask x y k ih =>
    simp only [bind, run]
    cases objCmp (key x) (key y) with
    | ok o => exact ih o
    | panic => rfl
  | askP x y k ih => simp only [bind, run]; exact ih _
  | askEq x y k ih => simp only [bind, run]; exact ih _

end CmpProg

/-! ### the documented algorithms as programs: the folds and the insertion are the direct definitions of `Model/Objective.lean` -/

section progs
variable {α : Type} (key : α → F64)

theorem pMinMaxGo_run (m : α) (l : List α) :
    (pMinGo m l).run key = minGo key m l ∧ (pMaxGo m l).run key = maxGo key m l := by
  induction l generalizing m with
  | nil => exact ⟨rfl, rfl⟩
  | cons y ys ih =>
    simp only [pMinGo, pMaxGo, run, minGo, maxGo]
    cases objCmp (key m) (key y) with
    | panic => exact ⟨rfl, rfl⟩
    | ok o => cases o <;> simp [ih]

theorem pInsert_run (x : α) (l : List α) : (pInsert false x l).run key = insertSorted key x l := by
  induction l with
  | nil => rfl
  | cons y ys ih =>
    simp only [pInsert, Bool.false_eq_true, if_false, run, insertSorted]
    cases objCmp (key x) (key y) with
    | panic => rfl
    | ok o =>
      cases o
      · rfl
      · rfl
      · simp only [run_bind, ih]
        cases insertSorted key x ys <;> rfl

end progs

/-! ### none of the documented algorithms (except `clamp`) has a panic of its own -/

section nofail
variable {α : Type}
attribute [local simp] CmpProg.NoFail

@[local simp] theorem NoFail_bind_ret {β γ : Type} (p : CmpProg α β) (g : β → γ) :
    (p.bind (fun b => .ret (g b))).NoFail ↔ p.NoFail := by
  induction p <;> simp_all [CmpProg.bind]

theorem pMinGo_noFail (m : α) (l : List α) : (pMinGo m l).NoFail := by
  induction l generalizing m <;> simp [pMinGo, Ordering.forall, *]

theorem pMin_noFail (l : List α) : (pMin l).NoFail := by
  cases l <;> simp [pMin, pMinGo_noFail]

theorem pMaxGo_noFail (m : α) (l : List α) : (pMaxGo m l).NoFail := by
  induction l generalizing m <;> simp [pMaxGo, Ordering.forall, *]

theorem pMax_noFail (l : List α) : (pMax l).NoFail := by
  cases l <;> simp [pMax, pMaxGo_noFail]

theorem pOrdMin_noFail (a b : α) : (pOrdMin a b).NoFail := by
  intro o; dsimp only; split <;> trivial

theorem pOrdMax_noFail (a b : α) : (pOrdMax a b).NoFail := by
  intro o; dsimp only; split <;> trivial

theorem pInsert_noFail (rev : Bool) (x : α) (l : List α) : (pInsert rev x l).NoFail := by
  induction l <;> cases rev <;> simp [pInsert, Ordering.forall, *]

theorem pSort_noFail (rev : Bool) (l : List α) : (pSort rev l).NoFail := by
  induction l with
  | nil => simp [pSort]
  | cons x xs ih => exact NoFail_bind _ _ ih (pInsert_noFail rev x)

theorem pLex_noFail (a b : List α) : (pLex a b).NoFail := by
  induction a generalizing b <;> cases b <;> simp [pLex, Ordering.forall, *]

theorem pLexP_noFail (a b : List α) : (pLexP a b).NoFail := by
  induction a generalizing b <;> cases b <;> simp [pLexP, Option.forall, Ordering.forall, *]

theorem pSliceEq_noFail (a b : List α) : (pSliceEq a b).NoFail := by
  induction a generalizing b <;> cases b <;> simp [pSliceEq, *]

theorem pSetInsert_noFail (x : α) (s : List α) : (pSetInsert x s).NoFail := by
  induction s <;> simp [pSetInsert, Ordering.forall, *]

theorem pSetGo_noFail (s : List α) (fl : List Bool) (l : List α) : (pSetGo s fl l).NoFail := by
  induction l generalizing s fl with
  | nil => simp [pSetGo]
  | cons x xs ih => exact NoFail_bind _ _ (pSetInsert_noFail x s) (fun r => ih _ _)

theorem pMapInsert_noFail (x v : α) (m : List (α × α)) : (pMapInsert x v m).NoFail := by
  induction m <;> simp [pMapInsert, Ordering.forall, *]

theorem pMapGo_noFail (m : List (α × α)) (l : List α) : (pMapGo m l).NoFail := by
  induction l generalizing m with
  | nil => simp [pMapGo]
  | cons x xs ih => exact NoFail_bind _ _ (pMapInsert_noFail x x m) (fun r => ih _)

theorem pDedupGo_noFail (last : α) (acc l : List α) : (pDedupGo last acc l).NoFail := by
  induction l generalizing last acc <;> simp [pDedupGo, *]

theorem pDedup_noFail (l : List α) : (pDedup l).NoFail := by
  cases l <;> simp [pDedup, pDedupGo_noFail]

end nofail

/-! ### provided methods of `Ord` -/

section provided
variable {α : Type} (key : α → F64)

theorem pOrdMinMax_run (a b : α) (ha : legal (key a) = true) (hb : legal (key b) = true) :
    (pOrdMin a b).run key = .ok (if lt (key b) (key a) then b else a) ∧
    (pOrdMax a b).run key = .ok (if lt (key b) (key a) then a else b) := by
  simp only [pOrdMin, pOrdMax, run, (partial_tests _ _ hb ha).1]
  cases lt (key b) (key a) <;> exact ⟨rfl, rfl⟩

theorem pClamp_run (a lo hi : α) (ha : legal (key a) = true) (hl : legal (key lo) = true)
    (hh : legal (key hi) = true) :
    (pClamp a lo hi).run key =
      if lt (key hi) (key lo) then .panic
      else if lt (key a) (key lo) then .ok lo
      else if lt (key hi) (key a) then .ok hi else .ok a := by
  have t1 := (partial_tests _ _ hl hh).2.2
  have t2 := (partial_tests _ _ ha hl).1
  have t3 := (partial_tests _ _ ha hh).2.1
  simp only [pClamp, run, t1]
  cases lt (key hi) (key lo)
  · simp only [Bool.not_false, if_true, Bool.false_eq_true, if_false, run, t2]
    cases lt (key a) (key lo)
    · simp only [Bool.false_eq_true, if_false, run, t3]
      cases lt (key hi) (key a) <;> rfl
    · rfl
  · rfl

end provided

/-! ### `BTreeSet::insert` -/

section setp
variable {α : Type} (key : α → F64)

/-- Either no member equals `x` and `x` is put in (flag `true`), or some member does and nothing changes (flag `false`). -/
theorem pSetInsert_run (x : α) (s : List α) (hx : legal (key x) = true)
    (hs : ∀ y ∈ s, legal (key y) = true) (hst : s.Pairwise (fun a b => lt (key a) (key b) = true)) :
    ∃ r fl, (pSetInsert x s).run key = .ok (r, fl) ∧ r.Pairwise (fun a b => lt (key a) (key b) = true) ∧
      ((fl = true ∧ r.Perm (x :: s) ∧ ∀ z ∈ s, eq (key z) (key x) = false) ∨
       (fl = false ∧ r = s ∧ ∃ z ∈ s, eq (key z) (key x) = true)) := by
  induction s with
  | nil => exact ⟨[x], true, rfl, by simp, .inl ⟨rfl, .refl _, by simp⟩⟩
  | cons y ys ih =>
    obtain ⟨hy, hys⟩ := List.forall_mem_cons.mp hs
    obtain ⟨hyall, hst'⟩ := List.pairwise_cons.mp hst
    have hrun := objCmp_of_legal (key x) (key y) hx hy
    rcases Bool.eq_false_or_eq_true (lt (key x) (key y)) with hlt | hlt
    · have hxz : ∀ z ∈ y :: ys, lt (key x) (key z) = true :=
        List.forall_mem_cons.mpr ⟨hlt, fun z h => lt_trans' _ _ _ hlt (hyall z h)⟩
      refine ⟨x :: y :: ys, true, by simp [pSetInsert, run, hrun, hlt],
        List.pairwise_cons.mpr ⟨hxz, hst⟩, .inl ⟨rfl, .refl _, fun z hz => ?_⟩⟩
      rw [eq_symm']; exact eq_false_of_lt _ _ (hxz z hz)
    · rcases Bool.eq_false_or_eq_true (lt (key y) (key x)) with hgt | hgt
      · obtain ⟨r, fl, hr, hsr, hcase⟩ := ih hys hst'
        have hrun' : (pSetInsert x (y :: ys)).run key = .ok (y :: r, fl) := by
          simp [pSetInsert, run, hrun, hlt, hgt, run_bind, hr]
        have hall : ∀ z ∈ x :: ys, lt (key y) (key z) = true := List.forall_mem_cons.mpr ⟨hgt, hyall⟩
        rcases hcase with ⟨rfl, hp, hne⟩ | ⟨rfl, rfl, z, hz, hze⟩
        · refine ⟨y :: r, true, hrun', List.pairwise_cons.mpr ⟨fun z hz => ?_, hsr⟩,
            .inl ⟨rfl, (hp.cons y).trans (.swap x y ys), ?_⟩⟩
          · exact hall z (hp.mem_iff.mp hz)
          · exact List.forall_mem_cons.mpr ⟨eq_false_of_lt _ _ hgt, hne⟩
        · exact ⟨y :: r, false, hrun', hst, .inr ⟨rfl, rfl, z, List.mem_cons_of_mem _ hz, hze⟩⟩
      · have heq : eq (key y) (key x) = true := by
          rw [eq_symm', ← objCmp_eq_iff, hrun, hlt, hgt]; rfl
        exact ⟨y :: ys, false, by simp [pSetInsert, run, hrun, hlt, hgt], hst,
          .inr ⟨rfl, rfl, y, by simp, heq⟩⟩

end setp

end MahfModel.Objective
