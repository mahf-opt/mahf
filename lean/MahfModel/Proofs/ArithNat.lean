/- Small counting and arithmetic facts about `Nat` and `List` that several property groups use (core only). -/
namespace MahfModel.Arith

theorem countP_lt_range (N m : Nat) : (List.range N).countP (fun w => decide (w < m)) = min m N := by
  induction N with
  | zero => simp
  | succ N ih =>
    rw [List.range_succ, List.countP_append, ih, List.countP_singleton]
    by_cases h : N < m
    · rw [if_pos (decide_eq_true h), Nat.min_eq_right (Nat.le_of_lt h), Nat.min_eq_right h]
    · rw [if_neg (by simpa using h), Nat.min_eq_left (Nat.le_of_not_lt h),
        Nat.min_eq_left (Nat.le_succ_of_le (Nat.le_of_not_lt h)), Nat.add_zero]

/-- `j < ⌈a / e⌉ ↔ j · e < a`, for the ceiling written `(a + e - 1) / e`. -/
theorem lt_ceilDiv {e : Nat} (he : 0 < e) (a j : Nat) : j < (a + e - 1) / e ↔ j * e < a := by
  rw [Nat.lt_iff_add_one_le, Nat.le_div_iff_mul_le he, Nat.succ_mul, Nat.le_sub_one_iff_lt (Nat.add_pos_right a he),
    Nat.add_lt_add_iff_right]

theorem exists_first_stop (g : Nat → Bool) (N : Nat) (h : g N = false) :
    ∃ p, p ≤ N ∧ g p = false ∧ ∀ q, q < p → g q = true := by
  induction N using Nat.strongRecOn with
  | _ N ih =>
    by_cases hq : ∃ q, q < N ∧ g q = false
    · obtain ⟨q, hqN, hg⟩ := hq
      obtain ⟨p, hp, h1, h2⟩ := ih q hqN hg
      exact ⟨p, Nat.le_trans hp (Nat.le_of_lt hqN), h1, h2⟩
    · refine ⟨N, Nat.le_refl _, h, ?_⟩
      intro q hqN
      cases hgq : g q with
      | true => rfl
      | false => exact absurd ⟨q, hqN, hgq⟩ hq

end MahfModel.Arith
