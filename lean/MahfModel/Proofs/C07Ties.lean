/- The tie-agnostic (witness-based) C07 models of `Model/PopMachineC07.lean`: their steps satisfy the same relations `Offers`
(`Proofs/C07`) and `Keeps` (`Proofs/C07Archive`) as the deterministic ones, so every history lemma is the same short induction for
both. Seen through the objective values the choice of witness disappears: the archive invariant is an equation between sorted
value lists (`archInv_iff_keys`), a best update is `feedBest` on values (`Offers.values`). The driver's Boolean predicates
(`subBag`, `eraseAll`, `reinsertOk`) against their specifications. What needs no order on the values stands first: `objKeys`,
the best update seen through `obj`, the sub-multiset predicates. -/
import MahfModel.Proofs.C07Archive
import MahfModel.Proofs.ListBag
import MahfModel.Model.PopMachineC07
namespace MahfModel.PopMachine

variable {O : Type}

/-! ### the objective values a population carries -/

theorem objKeys_append (a b : List (Ind O)) : objKeys (a ++ b) = objKeys a ++ objKeys b := by
  simp [objKeys, List.filterMap_append]

theorem objKeys_length (a : List (Ind O)) (h : ∀ i ∈ a, i.obj.isSome) : (objKeys a).length = a.length := by
  induction a with
  | nil => rfl
  | cons x xs ih =>
    obtain ⟨hx, hxs⟩ := List.forall_mem_cons.mp h
    obtain ⟨o, ho⟩ := Option.isSome_iff_exists.mp hx
    rw [objKeys, List.filterMap_cons, ho]
    exact congrArg (· + 1) (ih hxs)

theorem mem_objKeys (a : List (Ind O)) (v : O) : v ∈ objKeys a ↔ ∃ i ∈ a, i.obj = some v := by
  simp [objKeys, List.mem_filterMap]

/-! ### the best update seen through `obj` -/

theorem bestUpdate_obj_congr [LT O] [DecidableLT O] (b : Option (Ind O)) (c m : Ind O) (h : c.obj = m.obj) :
    (bestUpdate b c).map (fun r => r.1.bind (·.obj)) = (bestUpdate b m).map (fun r => r.1.bind (·.obj)) := by
  cases b with
  | none => simp only [bestUpdate, Option.map_some, Option.bind_some, Ind.clone_eq, h]
  | some b0 =>
    simp only [bestUpdate, h]
    cases m.obj with
    | none => rfl
    | some co =>
      cases b0.obj with
      | none => rfl
      | some bo =>
        by_cases hlt : co < bo
        · simp only [if_pos hlt, Option.map_some, Option.bind_some, Ind.clone_eq, h]
        · simp only [if_neg hlt]

/-! ### sub-multisets -/

section
variable [DecidableEq O]

theorem eraseAll_eq_diff (l r : List (Ind O)) : eraseAll l r = l.diff r := by
  induction r generalizing l with
  | nil => rfl
  | cons x xs ih => rw [eraseAll, List.diff_cons, ih]

theorem subBag_iff_subperm (a b : List (Ind O)) : subBag a b = true ↔ a.Subperm b := by
  induction a generalizing b with
  | nil => simp [subBag]
  | cons x xs ih =>
    simp only [subBag, Bool.and_eq_true, List.contains_iff_mem, ih]
    constructor
    · rintro ⟨hx, h⟩
      exact ((List.subperm_cons x).2 h).trans (List.perm_cons_erase hx).symm.subperm
    · intro h
      have hx : x ∈ b := h.subset List.mem_cons_self
      exact ⟨hx, (List.subperm_cons x).1 (h.trans (List.perm_cons_erase hx).subperm)⟩

theorem subBag_of_perm (a r b : List (Ind O)) (h : (a ++ r).Perm b) : subBag a b = true :=
  (subBag_iff_subperm a b).2 (exists_perm_append_iff_subperm.1 ⟨r, h⟩)

theorem subBag_eraseAll (a b : List (Ind O)) (h : subBag a b = true) : (a ++ eraseAll b a).Perm b :=
  eraseAll_eq_diff b a ▸ perm_append_diff_of_subperm ((subBag_iff_subperm a b).1 h)

/-! ### the executable re-insertion predicate: completeness -/

theorem reinsertOk_complete (arch pop r : List (Ind O))
    (h : ∃ extra, (pop ++ extra).Perm r ∧ extra.Nodup ∧ (∀ e ∈ extra, e ∈ arch ∧ e ∉ pop) ∧ ∀ e ∈ arch, e ∈ r) :
    reinsertOk arch pop r = true := by
  obtain ⟨extra, hperm, hnd, hex, harch⟩ := h
  have hsub := subBag_of_perm pop extra r hperm
  have hp2 : (eraseAll r pop).Perm extra := eraseAll_eq_diff r pop ▸ perm_diff_of_perm_append hperm
  simp only [reinsertOk, Bool.and_eq_true, List.all_eq_true, List.contains_iff_mem, Bool.not_eq_true',
    beq_iff_eq]
  refine ⟨⟨hsub, fun e he => ?_⟩, harch⟩
  have he' : e ∈ extra := hp2.mem_iff.mp he
  refine ⟨⟨(hex e he').1, Bool.eq_false_iff.mpr fun hc => (hex e he').2 (List.contains_iff_mem.mp hc)⟩, ?_⟩
  rw [hp2.count_eq]
  exact Nat.le_antisymm (List.nodup_iff_count.mp hnd e) (List.count_pos_iff.mpr he')

end

variable [LinearOrder O]

theorem subBag_perm (a b : List (Ind O)) (h : subBag a b = true) : ∃ r, (a ++ r).Perm b :=
  ⟨eraseAll b a, subBag_eraseAll a b h⟩

/-! ### legal witnesses for the best of a population -/

theorem notWorse_iff (a b : Ind O) : notWorse a b = true ↔ objLe a b := by
  unfold notWorse objLe
  cases ha : a.obj <;> cases hb : b.obj <;> simp

theorem legalBest_iff (p : List (Ind O)) (w : Nat) :
    legalBest p w = true ↔ ∃ c, p[w]? = some c ∧ ∀ i ∈ p, objLe c i := by
  unfold legalBest
  cases h : p[w]? with
  | none => simp
  | some c => simp [notWorse_iff]

theorem legalBest_keyed (p : List (Ind O)) (w : Nat) (h : legalBest p w = true) : ∃ kp, keyed p = some kp := by
  obtain ⟨c, _, hc⟩ := (legalBest_iff p w).mp h
  apply keyed_some_of_all
  intro i hi
  obtain ⟨x, y, _, hy, _⟩ := hc i hi
  simp [hy]

theorem bestUpdateStepW_some (pm pm' : PM O) (p : List (Ind O)) (rest : List (List (Ind O))) (w : Nat)
    (hs : pm.stack = p :: rest) (hl : legalBest p w = true) (h : bestUpdateStepW pm w = some pm') :
    ∃ c b' r, p[w]? = some c ∧ (∀ i ∈ p, objLe c i) ∧ bestUpdate pm.best c = some (b', r) ∧
      pm' = { pm with best := b' } := by
  obtain ⟨c, hw, hc⟩ := (legalBest_iff p w).mp hl
  obtain ⟨kp, hk⟩ := legalBest_keyed p w hl
  unfold bestUpdateStepW at h
  split at h
  · cases h
  · rename_i p' _ hs'
    obtain ⟨rfl, _⟩ := List.cons.inj (hs.symm.trans hs')
    simp only [hk, hw] at h
    obtain ⟨⟨b', r⟩, hr, rfl⟩ := Option.map_eq_some_iff.mp h
    exact ⟨c, b', r, hw, hc, hr, rfl⟩

theorem feedW_offers {b b' : Option (Ind O)} {p : List (Ind O)} {w : Nat}
    (hl : p.isEmpty = true ∨ legalBest p w = true) (h : feedW b p w = some b') : Offers b p b' := by
  rcases hl with hl | hl
  · obtain rfl : p = [] := List.isEmpty_iff.mp hl
    cases h; exact Or.inl ⟨rfl, rfl⟩
  · obtain ⟨pm', hpm, rfl⟩ := Option.map_eq_some_iff.mp h
    obtain ⟨c, b', r, hw, hc, hr, rfl⟩ := bestUpdateStepW_some _ pm' p [] w rfl hl hpm
    exact Or.inr ⟨c, r, List.mem_of_getElem? hw, hc, hr⟩

theorem feedAllW_isMinOf (hist : List (List (Ind O) × Nat)) (b r : Option (Ind O)) (S : List (Ind O))
    (hl : legalHistory hist = true) (hb : IsMinOf b S) (h : feedAllW b hist = some r) :
    IsMinOf r (S ++ (hist.map (·.1)).flatten) := by
  induction hist generalizing b S with
  | nil => cases h; rw [List.map_nil, List.flatten_nil, List.append_nil]; exact hb
  | cons pw ps ih =>
    obtain ⟨p, w⟩ := pw
    simp only [feedAllW] at h
    simp only [legalHistory, Bool.and_eq_true, Bool.or_eq_true] at hl
    split at h
    · cases h
    · rename_i b' hf
      rw [List.map_cons, List.flatten_cons, ← List.append_assoc]
      exact ih b' (S ++ p) hl.2 ((feedW_offers hl.1 hf).isMinOf S hb) h

/-! ### archive: any admissible sort -/

theorem sortedByObj_iff (s : List (Ind O)) :
    sortedByObj s = true ↔ s.Pairwise (fun a b => objLe a b) := by
  induction s with
  | nil => simp [sortedByObj]
  | cons x xs ih =>
    simp only [sortedByObj, Bool.and_eq_true, List.all_eq_true, List.pairwise_cons, ih, notWorse_iff]

theorem legalSort_iff (all s : List (Ind O)) :
    legalSort all s = true ↔ s.Perm all ∧ s.Pairwise (fun a b => objLe a b) := by
  simp [legalSort, List.isPerm_iff, sortedByObj_iff]

theorem archiveUpdateW_keeps (arch pop arch' s : List (Ind O)) (k : Nat)
    (hl : legalSort (arch ++ pop) s = true) (h : archiveUpdateW arch pop k s = some arch') : Keeps k arch pop arch' := by
  obtain ⟨hperm, hsorted⟩ := (legalSort_iff _ _).mp hl
  simp only [archiveUpdateW] at h
  split at h
  · -- fewer than two elements: nothing is compared
    rename_i hlen
    cases h
    exact ⟨arch ++ pop, List.Perm.refl _, pairwise_of_length_lt_two _ _ hlen, rfl⟩
  · obtain ⟨_, _, rfl⟩ := Option.map_eq_some_iff.mp h
    exact ⟨s, hperm, hsorted, rfl⟩

theorem archFeedW_inv (k : Nat) (hist : List (List (Ind O) × List (Ind O))) (arch rest shown final : List (Ind O))
    (hinv : ArchInv k arch rest shown) (hev : ∀ i ∈ shown ++ (hist.map (·.1)).flatten, i.obj.isSome)
    (hl : legalArchHistory k arch hist = true) (h : archFeedW k arch hist = some final) :
    ∃ rest', ArchInv k final rest' (shown ++ (hist.map (·.1)).flatten) := by
  induction hist generalizing arch rest shown with
  | nil => cases h; exact ⟨rest, by rw [List.map_nil, List.flatten_nil, List.append_nil]; exact hinv⟩
  | cons ps pss ih =>
    obtain ⟨p, s⟩ := ps
    simp only [archFeedW] at h
    simp only [legalArchHistory, Bool.and_eq_true] at hl
    split at h
    · cases h
    · rename_i a' ha
      rw [ha] at hl
      rw [List.map_cons, List.flatten_cons, ← List.append_assoc] at hev ⊢
      obtain ⟨rest', hinv'⟩ := (archiveUpdateW_keeps arch p a' s k hl.1 ha).inv hinv fun i hi => hev i (List.mem_append_left _ hi)
      exact ih a' rest' _ hinv' hev hl.2 h

/-! ### the kept objective VALUES are canonical -/

theorem sortByKey_eq_of_perm {l s : List O} (hp : s.Perm l) (hs : s.Pairwise (· ≤ ·)) : sortByKey id l = s :=
  List.Perm.eq_of_pairwise (le := fun a b : O => a ≤ b) (fun _ _ _ _ h1 h2 => le_antisymm h1 h2) (sortByKey_sorted id l) hs
    ((sortByKey_perm id l).trans hp.symm)

/-- Values only: `A` with remainder `R` is a choice of the `k` least values of `S` iff it is as long as it can be and
nothing left out is smaller than something chosen. -/
theorem sortByKey_take_iff {A R S : List O} {k : Nat} (hp : (A ++ R).Perm S) :
    sortByKey id A = (sortByKey id S).take k ↔ A.length = min k S.length ∧ ∀ x ∈ A, ∀ y ∈ R, x ≤ y := by
  have hA := sortByKey_perm (id : O → O) A
  have hS := sortByKey_perm (id : O → O) S
  constructor
  · intro h
    refine ⟨by rw [← hA.length_eq, h, List.length_take, hS.length_eq], fun x hx y hy => ?_⟩
    -- what the sorted list holds behind position `k` is the remainder
    have hR : ((sortByKey id S).drop k).Perm R := by
      refine (List.perm_append_left_iff (sortByKey id A)).mp ?_
      have e : sortByKey id A ++ (sortByKey id S).drop k = sortByKey id S := by rw [h, List.take_append_drop]
      rw [e]
      exact hS.trans (hp.symm.trans (hA.symm.append_right R))
    have hsplit : ((sortByKey id S).take k ++ (sortByKey id S).drop k).Pairwise (fun a b : O => a ≤ b) := by
      rw [List.take_append_drop]; exact sortByKey_sorted id S
    exact (List.pairwise_append.mp hsplit).2.2 x (h ▸ hA.mem_iff.mpr hx) y (hR.mem_iff.mpr hy)
  · rintro ⟨hlen, hle⟩
    have hR := sortByKey_perm (id : O → O) R
    -- sorted(A) ++ sorted(R) is sorted and a permutation of `S`, hence sorted(S)
    rw [sortByKey_eq_of_perm (l := S) (s := sortByKey id A ++ sortByKey id R) ((hA.append hR).trans hp)
      (List.pairwise_append.mpr ⟨sortByKey_sorted id A, sortByKey_sorted id R,
        fun a ha b hb => hle a (hA.mem_iff.mp ha) b (hR.mem_iff.mp hb)⟩)]
    cases R with
    | nil =>
      rw [show sortByKey id ([] : List O) = [] from rfl, List.append_nil, List.take_of_length_le]
      rw [hA.length_eq, hlen]; exact Nat.min_le_left _ _
    | cons y ys =>
      exact (List.take_left' (hA.length_eq.trans
        (eq_of_eq_min_of_add_pos hlen (List.length_append ▸ hp.length_eq) (Nat.succ_pos _)))).symm

/-- "Nothing omitted is strictly better than something kept" is the order of the values carried. -/
theorem cross_objKeys (a r : List (Ind O)) :
    (∀ x ∈ objKeys a, ∀ y ∈ objKeys r, x ≤ y) ↔ ∀ x ∈ a, ∀ y ∈ r, ¬ objLt y x := by
  constructor
  · rintro h x hx y hy ⟨yo, xo, hyo, hxo, hlt⟩
    exact not_lt.mpr (h xo ((mem_objKeys a xo).mpr ⟨x, hx, hxo⟩) yo ((mem_objKeys r yo).mpr ⟨y, hy, hyo⟩)) hlt
  · intro h xo hx yo hy
    obtain ⟨x, hx, hxo⟩ := (mem_objKeys a xo).mp hx
    obtain ⟨y, hy, hyo⟩ := (mem_objKeys r yo).mp hy
    exact not_lt.mp fun hlt => h x hx y hy ⟨yo, xo, hyo, hxo, hlt⟩

/-- On evaluated individuals the invariant (sub-multiset, full, nothing omitted strictly better) is the canonical form:
the sorted objective values of the archive are the first `k` sorted objective values of everything shown. -/
theorem archInv_iff_keys (k : Nat) (arch rest shown : List (Ind O)) (hperm : (arch ++ rest).Perm shown)
    (hev : ∀ i ∈ shown, i.obj.isSome) :
    ArchInv k arch rest shown ↔ sortByKey id (objKeys arch) = (sortByKey id (objKeys shown)).take k := by
  have hev' : ∀ i ∈ arch ++ rest, i.obj.isSome := fun i hi => hev i (hperm.mem_iff.mp hi)
  have hpk : (objKeys arch ++ objKeys rest).Perm (objKeys shown) := objKeys_append arch rest ▸ hperm.filterMap _
  rw [sortByKey_take_iff hpk, cross_objKeys arch rest,
    objKeys_length arch fun i hi => hev' i (List.mem_append_left _ hi), objKeys_length shown hev]
  exact ⟨fun h => ⟨h.2.1, h.2.2⟩, fun h => ⟨hperm, h.1, h.2⟩⟩

/-! ### the value-level update of the run model refines the individual-level update -/

/-- A minimal member carries the least objective value of the population. -/
theorem listMin_objKeys_of_min {p : List (Ind O)} {c : Ind O} (hc1 : c ∈ p) (hc2 : ∀ i ∈ p, objLe c i) :
    ∃ co, c.obj = some co ∧ minByKey id (objKeys p) = some co := by
  obtain ⟨co, _, hco, _, _⟩ := hc2 c hc1
  refine ⟨co, hco, ?_⟩
  cases hm : minByKey id (objKeys p) with
  | none => exact absurd ((mem_objKeys p co).mpr ⟨c, hc1, hco⟩) ((minByKey_none id _).mp hm ▸ List.not_mem_nil)
  | some m =>
    obtain ⟨hm1, hm2⟩ := minByKey_le id _ m hm
    obtain ⟨i, hi, hio⟩ := (mem_objKeys p m).mp hm1
    obtain ⟨x, y, hx, hy, hxy⟩ := hc2 i hi
    obtain rfl : co = x := Option.some.inj (hco.symm.trans hx)
    obtain rfl : m = y := Option.some.inj (hio.symm.trans hy)
    exact congrArg some (le_antisymm (hm2 co ((mem_objKeys p co).mpr ⟨c, hc1, hco⟩)) hxy)

/-- Seen through `obj`, either model of the update is the value-level update of the run model (`feedBest`). -/
theorem Offers.values {b b' : Option (Ind O)} {p : List (Ind O)} (h : Offers b p b') :
    b'.bind (·.obj) = feedBest (b.bind (·.obj)) (objKeys p) := by
  rcases h with ⟨rfl, rfl⟩ | ⟨c, r, hc1, hc2, hr⟩
  · rfl
  · obtain ⟨co, hco, hmin⟩ := listMin_objKeys_of_min hc1 hc2
    simp only [feedBest, hmin]
    rcases bestUpdate_spec b b' c r hr with ⟨rfl, rfl, _⟩ | ⟨x, rfl, ⟨co', bo, hco', hbo, hlt⟩, rfl, _⟩ |
      ⟨x, rfl, ⟨bo, co', hbo, hco', hle⟩, rfl, _⟩
    · exact hco
    · obtain rfl : co = co' := Option.some.inj (hco.symm.trans hco')
      simp only [Option.bind_some, hbo, hco, if_pos hlt]
    · obtain rfl : co = co' := Option.some.inj (hco.symm.trans hco')
      simp only [Option.bind_some, hbo, if_neg (not_lt.mpr hle)]

end MahfModel.PopMachine
