/-
C03 — the `init` and `require` passes: their programs are straight-line, so a pass appends its events in order up to
the first error (`initC_out`, `reqC_out`); `require` and the condition phases leave the registry alone; which phases
the events have; a block split in two runs its parts in sequence.
-/
import MahfModel.Proofs.C03Compile
import MahfModel.Proofs.C03Run
namespace MahfModel.Config

/-! ### What a straight-line run does: the `init` and `require` passes -/

/-- Outcome of a straight-line run: all the events were appended and the result is `ok`, or a prefix of them and the
result is an error. -/
def StraightOut (evs : List Ev) (σ : St) (x : St × Res) : Prop :=
  x.2 = .ok ∧ x.1.trace = σ.trace ++ evs ∨ ∃ pre ph id, pre <+: evs ∧ x.2 = .err ph id ∧ x.1.trace = σ.trace ++ pre

theorem straightOut_andThen {xa xb : List Ev} {σ : St} {x : St × Res} {k : St → St × Res}
    (h1 : StraightOut xa σ x) (h2 : ∀ σ1, StraightOut xb σ1 (k σ1)) :
    StraightOut (xa ++ xb) σ (andThen x k) := by
  obtain ⟨σ1, r1⟩ := x
  rcases h1 with ⟨rfl, ht1⟩ | ⟨pre, ph, id, hp, rfl, ht1⟩
  · rcases h2 σ1 with ⟨hr, ht2⟩ | ⟨pre, ph, id, hp, hr, ht2⟩
    · exact Or.inl ⟨hr, by rw [andThen, ht2, ht1, List.append_assoc]⟩
    · exact Or.inr ⟨xa ++ pre, ph, id, (List.prefix_append_right_inj xa).mpr hp, hr, by rw [andThen, ht2, ht1, List.append_assoc]⟩
  · exact Or.inr ⟨pre, ph, id, hp.trans (List.prefix_append xa xb), rfl, ht1⟩

theorem straight_run (s : Script) (f : Nat) (p : Stmt) (evs : List Ev) (σ : St) (h : p.straight = some evs) :
    StraightOut evs σ (srun s f p σ) := by
  fun_induction Stmt.straight p generalizing evs σ with
  | case1 | case3 =>  -- `skip`, `counter0`: no event
    cases h; exact Or.inl ⟨rfl, (List.append_nil _).symm⟩
  | case2 ev acts =>  -- one leaf call
    cases h
    have ht : ∀ r, (⟨r, ev :: σ.tr⟩ : St).trace = σ.trace ++ [ev] := fun _ => List.reverse_cons
    show StraightOut _ σ (step s ev (effOf ev.1 acts) σ)
    rcases step_cases s ev (effOf ev.1 acts) σ with h' | ⟨r, _, h'⟩ <;> rw [h']
    · exact Or.inr ⟨_, _, _, List.prefix_refl _, rfl, ht _⟩
    · exact Or.inl ⟨rfl, ht _⟩
  | case4 a b xa xb hb ha iha ihb =>  -- `seq a b`, both straight
    cases h; exact straightOut_andThen (iha xa σ ha) fun σ1 => ihb xb σ1 hb
  | case5 | case6 => cases h  -- not straight-line

theorem initC_out (s : Script) (c : Comp) (σ : St) : StraightOut (initEvents c) σ (initC s c σ) := by
  rw [initC_eq s 0 c σ]; exact straight_run s 0 _ _ σ (initProg_straight c)

theorem reqC_out (s : Script) (c : Comp) (σ : St) : StraightOut (reqEvents c) σ (reqC s c σ) := by
  rw [reqC_eq s 0 c σ]; exact straight_run s 0 _ _ σ (reqProg_straight c)

/-! ### `require` and the condition phases leave the registry alone -/

theorem condPhase_reg (s : Script) (ph : Phase) (c : Cond) : ∀ (σ : St), (condPhase s ph c σ).1.reg = σ.reg := by
  induction c using Cond.ind with
  | leaf => exact step_pres (R := fun r r' => r' = r) (fun _ => rfl) s _ fun _ _ h => (Option.some.inj h).symm
  | not c ih => exact ih
  | all_nil | any_nil => exact fun _ => rfl
  | all_cons c cs ihc ihcs | any_cons c cs ihc ihcs => exact fun σ => andThen_pres seq_reg (ihc σ) ihcs

theorem condsPhase_reg (s : Script) (ph : Phase) : ∀ (cs : Conds) (σ : St), (condsPhase s ph cs σ).1.reg = σ.reg :=
  fun cs => condPhase_reg s ph (.all cs)

theorem reqC_reg (s : Script) (c : Comp) : ∀ (σ : St), (reqC s c σ).1.reg = σ.reg := by
  induction c using Comp.ind with
  | leaf _ acts =>
    -- `require` can look but not touch
    exact step_pres (R := fun r r' => r' = r) (fun _ => rfl) s _ fun r r' h => by
      unfold needEff at h; split at h <;> cases h; rfl
  | nil | scope | scopeW => exact fun _ => rfl
  | cons c cs ihc ihcs => exact fun σ => andThen_pres seq_reg (ihc σ) ihcs
  | loop c b ih => exact fun σ => andThen_pres seq_reg (condPhase_reg s _ c σ) ih
  | branch c t e he iht ihe =>
    exact fun σ => andThen_pres seq_reg (condPhase_reg s _ c σ) fun σ1 => andThen_pres seq_reg (iht σ1) fun σ2 =>
      match he with
      | true => ihe σ2
      | false => rfl

theorem reqCs_reg (s : Script) : ∀ (cs : Comps) (σ : St), (reqCs s cs σ).1.reg = σ.reg :=
  fun cs => reqC_reg s (.block cs)

/-! ### A block split in two -/

theorem execs_append (s : Script) (f : Nat) : ∀ (cs ds : Comps) (σ : St),
    execs s f (cs.append ds) σ = andThen (execs s f cs σ) (execs s f ds)
  | .nil, _, _ => rfl
  | .cons _ cs, ds, _ => (andThen_congr rfl (execs_append s f cs ds)).trans (andThen_assoc _ _ _).symm

theorem initCs_append (s : Script) : ∀ (cs ds : Comps) (σ : St),
    initCs s (cs.append ds) σ = andThen (initCs s cs σ) (initCs s ds)
  | .nil, _, _ => rfl
  | .cons _ cs, ds, _ => (andThen_congr rfl (initCs_append s cs ds)).trans (andThen_assoc _ _ _).symm

theorem reqCs_append (s : Script) : ∀ (cs ds : Comps) (σ : St),
    reqCs s (cs.append ds) σ = andThen (reqCs s cs σ) (reqCs s ds)
  | .nil, _, _ => rfl
  | .cons _ cs, ds, _ => (andThen_congr rfl (reqCs_append s cs ds)).trans (andThen_assoc _ _ _).symm

/-! ### Which phases the events of a pass have -/

theorem condEvents_phase (ph : Phase) (c : Cond) : ∀ (e : Ev), e ∈ condEvents ph c → e.1 = ph := by
  induction c using Cond.ind with
  | leaf id => exact fun e h => by rw [List.mem_singleton.mp h]
  | not c ih => exact ih
  | all_nil | any_nil => exact fun _ h => nomatch h
  | all_cons c cs ihc ihcs | any_cons c cs ihc ihcs => exact fun e h => (List.mem_append.mp h).elim (ihc e) (ihcs e)

theorem condsEvents_phase (ph : Phase) : ∀ (cs : Conds) (e : Ev), e ∈ condsEvents ph cs → e.1 = ph :=
  fun cs => condEvents_phase ph (.all cs)

theorem phaseEvents_phase (ph cph : Phase) (c : Comp) : ∀ (e : Ev), e ∈ phaseEvents ph cph c → e.1 = ph ∨ e.1 = cph := by
  induction c using Comp.ind with
  | leaf id _ => exact fun e h => by rw [List.mem_singleton.mp h]; exact Or.inl rfl
  | nil | scope | scopeW => exact fun _ h => nomatch h
  | cons c cs ihc ihcs => exact fun e h => (List.mem_append.mp h).elim (ihc e) (ihcs e)
  | loop c b ih =>
    exact fun e h => (List.mem_append.mp h).elim (fun h => Or.inr (condEvents_phase cph c e h)) (ih e)
  | branch c t el he iht ihe =>
    exact fun e h => (List.mem_append.mp h).elim
      (fun h => (List.mem_append.mp h).elim (fun h => Or.inr (condEvents_phase cph c e h)) (iht e))
      fun h => match he, h with
        | true, h => ihe e h
        | false, h => nomatch h

theorem phaseEventss_phase (ph cph : Phase) : ∀ (cs : Comps) (e : Ev), e ∈ phaseEventss ph cph cs → e.1 = ph ∨ e.1 = cph :=
  fun cs => phaseEvents_phase ph cph (.block cs)

end MahfModel.Config
