/- C09 — sorting, minimum and maximum of objective values: where the stable insertion puts an element, what one insertion
preserves, why the stable result is unique, and `Iterator::min` / `max` as the selection fold of `Proofs/Pick.lean`.
Imports no Mathlib. -/
import MahfModel.Proofs.C09
import MahfModel.Proofs.Pick
namespace MahfModel.Objective

/-! ### the insertion sort -/

section sort
variable {α : Type} (key : α → F64)

/-- Where insertion puts `x`: behind the longest prefix of strictly smaller elements. -/
theorem insertSorted_split (x : α) (l : List α) (hx : legal (key x) = true)
    (hl : ∀ y ∈ l, legal (key y) = true) :
    ∃ pre post, l = pre ++ post ∧ insertSorted key x l = .ok (pre ++ x :: post) ∧
      (∀ y ∈ pre, lt (key y) (key x) = true) ∧ (∀ y ∈ post.head?, lt (key y) (key x) = false) := by
  induction l with
  | nil => exact ⟨[], [], rfl, rfl, nofun, nofun⟩
  | cons y ys ih =>
    obtain ⟨hy, hys⟩ := List.forall_mem_cons.mp hl
    cases hgt : lt (key y) (key x) with
    | true =>
      obtain ⟨pre, post, e, hr, h1, h2⟩ := ih hys
      exact ⟨y :: pre, post, by rw [e]; rfl,
        by simp [insertSorted, objCmp_of_legal _ _ hx hy, hgt, lt_asymm' _ _ hgt, hr],
        List.forall_mem_cons.mpr ⟨hgt, h1⟩, h2⟩
    | false =>
      refine ⟨[], y :: ys, rfl, ?_, nofun, by simpa using hgt⟩
      rw [insertSorted, objCmp_of_legal _ _ hx hy, hgt]; cases lt (key x) (key y) <;> rfl

/-- One insertion into an ascending list: a permutation, ascending again, and every class of equal values keeps
its order (`x` goes in front of the elements it is equal to, behind strictly smaller ones). -/
theorem insertSorted_stable (x : α) (l : List α) (hx : legal (key x) = true)
    (hl : ∀ y ∈ l, legal (key y) = true) (hs : l.Pairwise (fun a b => objLe (key a) (key b) = true)) :
    ∃ r, insertSorted key x l = .ok r ∧ r.Perm (x :: l) ∧ r.Pairwise (fun a b => objLe (key a) (key b) = true) ∧
      ∀ v : F64, r.filter (fun a => eq (key a) v) = (x :: l).filter (fun a => eq (key a) v) := by
  obtain ⟨pre, post, rfl, hr, h1, h2⟩ := insertSorted_split key x l hx hl
  obtain ⟨spre, spost, cross⟩ := List.pairwise_append.mp hs
  refine ⟨_, hr, List.perm_middle, ?_, fun v => ?_⟩
  · -- the walk stopped at the head of `post`: `x` is below it, hence below all of `post`
    have hxpost : ∀ b ∈ post, objLe (key x) (key b) = true := by
      cases post with
      | nil => nofun
      | cons y ys =>
        have hxy := (objLe_iff_not_gt _ _ hx (hl y (by simp))).mpr (h2 y rfl)
        exact List.forall_mem_cons.mpr ⟨hxy, fun z hz => objLe_trans _ _ _ hxy ((List.pairwise_cons.mp spost).1 z hz)⟩
    exact List.pairwise_append.mpr ⟨spre, List.pairwise_cons.mpr ⟨hxpost, spost⟩,
      fun a ha => List.forall_mem_cons.mpr ⟨objLe_of_lt _ _ (h1 a ha), cross a ha⟩⟩
  · simp only [List.filter_append, List.filter_cons]
    split
    · -- `x` is in the class: nothing strictly smaller is
      rename_i px
      rw [List.filter_eq_nil_iff.mpr fun y hy h => by
        have := h1 y hy
        rw [eq_of_eq _ _ px, eq_of_eq _ _ h, lt_irrefl'] at this; cases this]
      rfl
    · rfl

end sort

/-- Ascending + permutation + "every class of equal values in the same order" determines the list. -/
theorem sorted_perm_classes_eq {α : Type} (key : α → F64) (r1 r2 : List α)
    (hp : r1.Perm r2)
    (s1 : r1.Pairwise (fun a b => objLe (key a) (key b) = true))
    (s2 : r2.Pairwise (fun a b => objLe (key a) (key b) = true))
    (hleg : ∀ y ∈ r1, legal (key y) = true)
    (hf : ∀ v : F64, r1.filter (fun a => eq (key a) v) = r2.filter (fun a => eq (key a) v)) :
    r1 = r2 := by
  induction r1 generalizing r2 with
  | nil => exact (List.Perm.nil_eq hp)
  | cons a t1 ih =>
    cases r2 with
    | nil => exact absurd hp.symm (by simp)
    | cons b t2 =>
      obtain ⟨ha, ht1⟩ := List.forall_mem_cons.mp hleg
      have hb : legal (key b) = true := hleg b (hp.mem_iff.mpr (by simp))
      -- the head of an ascending list is below every member, so the two heads are equal as values
      have hle : ∀ {a : α} {t : List α}, legal (key a) = true →
          (a :: t).Pairwise (fun a b => objLe (key a) (key b) = true) →
          ∀ z ∈ a :: t, objLe (key a) (key z) = true :=
        fun ha s => List.forall_mem_cons.mpr ⟨objLe_refl _ ha, (List.pairwise_cons.mp s).1⟩
      have heq : eq (key b) (key a) = true :=
        objLe_antisymm _ _ (hle hb s2 a (hp.mem_iff.mp (by simp))) (hle ha s1 b (hp.mem_iff.mpr (by simp)))
      have hv := hf (key a)
      simp only [List.filter_cons, eq_self _ (legal_not_nan _ ha), heq, if_true] at hv
      injection hv with h1 h2
      subst h1
      have htail : ∀ v : F64, t1.filter (fun x => eq (key x) v) = t2.filter (fun x => eq (key x) v) := by
        intro v
        have := hf v
        simp only [List.filter_cons] at this
        split at this
        · injection this
        · exact this
      have := ih t2 (List.Perm.cons_inv hp) (List.pairwise_cons.mp s1).2 (List.pairwise_cons.mp s2).2 ht1 htail
      rw [this]

/-! ### `Iterator::min` and `max`: which of equal candidates

Both are the selection fold `Pick.foldPick` with a different replacement test ("the later `y` replaces the
candidate `m`"): `min` replaces on `y < m`, `max` unless `y < m`. -/

section minmax
open MahfModel.Pick
variable {α : Type} (key : α → F64)

theorem minmaxGo_eq_pick (m : α) (l : List α) (hm : legal (key m) = true)
    (hl : ∀ y ∈ l, legal (key y) = true) :
    minGo key m l = .ok (foldPick (fun y m => lt (key y) (key m) = true) m l) ∧
    maxGo key m l = .ok (foldPick (fun y m => lt (key y) (key m) = false) m l) := by
  induction l generalizing m with
  | nil => exact ⟨rfl, rfl⟩
  | cons y ys ih =>
    obtain ⟨hy, hys⟩ := List.forall_mem_cons.mp hl
    simp only [minGo, maxGo, foldPick, List.foldl_cons, objCmp_of_legal _ _ hm hy]
    rcases Bool.eq_false_or_eq_true (lt (key y) (key m)) with h | h
    · simp only [h, lt_asymm' _ _ h, Bool.false_eq_true, if_false, if_true]
      exact ⟨(ih y hy hys).1, (ih m hm hys).2⟩
    · rcases Bool.eq_false_or_eq_true (lt (key m) (key y)) with h' | h' <;>
        simp only [h, h', Bool.false_eq_true, if_false, if_true] <;>
        exact ⟨(ih m hm hys).1, (ih y hy hys).2⟩

end minmax

end MahfModel.Objective
