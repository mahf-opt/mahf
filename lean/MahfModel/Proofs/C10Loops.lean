/- C10 — loops inside a State: iteration-bounded loops on the registry chain (a well-scoped level runs to the specified
log, `lExecs_level`), reading pass counts off a log, and the loop guarded by a composite of two bounds (`loop2Go_least`). -/
import MahfModel.Model.ConditionsLoops
namespace MahfModel.Conditions

section loops
variable {F : Type}

mutual
  theorem lvl0_not_lvl1 (i : LItem) (h : lvl0 i = true) : lvl1 i = false := by
    cases i with
    | leaf t => rfl
    | loop id n b => simp [lvl0] at h
    | scope b => rfl
  theorem lvl0s_not_lvl1s (is : LItems) (h : lvl0s is = true) : lvl1s is = false := by
    cases is with
    | nil => rfl
    | cons i is =>
      simp only [lvl0s, Bool.and_eq_true] at h
      simp [lvl1s, lvl0_not_lvl1 i h.1, lvl0s_not_lvl1s is h.2]
end

mutual
  theorem lInit_lvl0 [OfNat F 0] (i : LItem) (h : lvl0 i = true) (r : LReg F) : lInit i r = r := by
    cases i with
    | leaf t => rfl
    | loop id n b => simp [lvl0] at h
    | scope b => rfl
  theorem lInits_lvl0s [OfNat F 0] (is : LItems) (h : lvl0s is = true) (r : LReg F) : lInits is r = r := by
    cases is with
    | nil => rfl
    | cons i is =>
      simp only [lvl0s, Bool.and_eq_true] at h
      simp [lInits, lInit_lvl0 i h.1, lInits_lvl0s is h.2]
end

mutual
  theorem lInit_lvl1 [OfNat F 0] (i : LItem) (h : lvl1 i = true) (r : LReg F) :
      lInit i r = { r with top := { iters := some 0, progress := some 0 } } := by
    cases i with
    | leaf t => simp [lvl1] at h
    | loop id n b =>
      simp only [lvl1] at h
      rw [lInit, lInits_lvl0s b h]
    | scope b => simp [lvl1] at h
  theorem lInits_lvl1s [OfNat F 0] (is : LItems) (h : lvl1s is = true) (r : LReg F) :
      lInits is r = { r with top := { iters := some 0, progress := some 0 } } := by
    cases is with
    | nil => simp [lvl1s] at h
    | cons i is =>
      simp only [lvl1s, Bool.or_eq_true, Bool.and_eq_true] at h
      rcases h with h | h
      · rw [lInits, lInit_lvl1 i h.1, lInits_lvl0s is h.2]
      · rw [lInits, lInit_lvl0 i h.1, lInits_lvl1s is h.2]
end

/-- One entry of a loop whose body leaves the registry alone (no loop on this level): from counter
`k` it makes the remaining `d = n − k` passes; test `j` reads `j`, reports `j / n`, the body sees `j`. -/
theorem lLoop_exact [Div F] (toF : Nat → F) (id n : Nat) (body : LReg F → List (LEvent F) → LRes F)
    (bs : Option Nat → List (LEvent F))
    (hb : ∀ r log, body r log = .ok r (log ++ bs r.iters))
    (d : Nat) : ∀ (k : Nat), k + d = n → ∀ (fuel : Nat), d + 1 ≤ fuel →
      ∀ (pr : F) (rest : List (LFrame F)) (log : List (LEvent F)),
      lLoop toF id n body fuel { top := { iters := some k, progress := some pr }, rest := rest } log =
        .ok { top := { iters := some n, progress := some (toF n / toF n) }, rest := rest }
          (log ++ (List.range' k d).flatMap (fun j =>
              LEvent.test id true j (some (toF j / toF n)) :: bs (some j)) ++
            [.test id false n (some (toF n / toF n))]) := by
  induction d with
  | zero =>
    intro k hk fuel hf pr rest log
    cases fuel with
    | zero => exact absurd hf (Nat.not_succ_le_zero _)
    | succ fuel =>
      obtain rfl : k = n := hk
      simp [lLoop, lTest, LReg.iters, lookIters, LReg.setProgress, LReg.progress, lookProgress]
  | succ d ih =>
    intro k hk fuel hf pr rest log
    cases fuel with
    | zero => exact absurd hf (Nat.not_succ_le_zero _)
    | succ fuel =>
      have hlt : k < n := hk ▸ Nat.lt_add_of_pos_right (Nat.succ_pos d)
      have hi : ({ top := { iters := some k, progress := some (toF k / toF n) }, rest := rest } : LReg F).iters = some k := by
        simp [LReg.iters, lookIters]
      simp only [lLoop, lTest, LReg.iters, lookIters, LReg.setProgress, LReg.progress, lookProgress, hlt,
        decide_true, if_true]
      rw [hb]
      simp only [hi, LReg.bump]
      rw [ih (k + 1) ((Nat.succ_add_eq_add_succ k d).trans hk) fuel (Nat.le_of_succ_le_succ hf)]
      simp [List.range'_succ, List.append_assoc]

theorem child_iters (r : LReg F) :
    ({ top := { iters := none, progress := none }, rest := r.top :: r.rest } : LReg F).iters = r.iters := by
  simp [LReg.iters, lookIters]

end loops

/-! ### The registry-level model meets the specification on well-scoped trees -/

section tops
variable {F : Type} [Div F] (toF : Nat → F)

/-- The top registry an item leaves behind: a loop ends with its counter at the bound and the progress of its
last test; nothing else writes the top registry. -/
def itemTop : LItem → LFrame F → LFrame F
  | .loop _ n _, _ => { iters := some n, progress := some (toF n / toF n) }
  | _, t => t

def itemsTop : LItems → LFrame F → LFrame F
  | .nil, t => t
  | .cons i is, t => itemsTop is (itemTop toF i t)

theorem itemTop_lvl0 (i : LItem) (h : lvl0 i = true) (t : LFrame F) : itemTop toF i t = t := by
  cases i with
  | loop id n b => simp [lvl0] at h
  | _ => rfl

theorem itemsTop_lvl0s (is : LItems) (h : lvl0s is = true) (t : LFrame F) : itemsTop toF is t = t := by
  cases is with
  | nil => rfl
  | cons i is =>
    simp only [lvl0s, Bool.and_eq_true] at h
    rw [itemsTop, itemTop_lvl0 toF i h.1, itemsTop_lvl0s is h.2]

/-- The counter visible afterwards is the specified one. -/
theorem itemTop_iters (i : LItem) (r : LReg F) :
    ({ r with top := itemTop toF i r.top } : LReg F).iters = (specItem toF i r.iters).2 := by
  cases i <;> rfl

theorem itemsTop_iters (is : LItems) (r : LReg F) :
    ({ r with top := itemsTop toF is r.top } : LReg F).iters = (specItems toF is r.iters).2 := by
  cases is with
  | nil => rfl
  | cons i is => rw [itemsTop, specItems, ← itemTop_iters]; exact itemsTop_iters is { r with top := itemTop toF i r.top }

end tops

section main
variable {F : Type} [Div F] [OfNat F 0] (toF : Nat → F)

/- One statement for both kinds of registry level: a level without a loop, or a level with its one loop entered
with the counter at 0, produces the specified log and leaves the parents alone; the top registry it ends with is
`itemsTop` (the initial one if the level has no loop). -/
mutual
  theorem lExec_level (fuel : Nat) (i : LItem) (r : LReg F) (log : List (LEvent F))
      (h : lvl0 i = true ∨ (lvl1 i = true ∧ r.top.iters = some 0)) (hf : maxN i < fuel) :
      lExec toF fuel i r log = .ok { r with top := itemTop toF i r.top } (log ++ (specItem toF i r.iters).1) := by
    cases i with
    | leaf t => rfl
    | loop id n b =>
      obtain ⟨hb0, hit⟩ : lvl0s b = true ∧ r.top.iters = some 0 := by simpa [lvl0, lvl1] using h
      simp only [maxN] at hf
      have hb : ∀ (r : LReg F) (log : List (LEvent F)),
          lExecs toF fuel b r log = .ok r (log ++ (fun cur => (specItems toF b cur).1) r.iters) := fun r log => by
        rw [lExecs_level fuel b r log (.inl hb0) (Nat.lt_of_le_of_lt (Nat.le_max_right _ _) hf), itemsTop_lvl0s toF b hb0]
      obtain ⟨⟨it, pr⟩, rest⟩ := r
      obtain rfl : it = some 0 := hit
      have e := lLoop_exact toF id n (lExecs toF fuel b) (fun cur => (specItems toF b cur).1) hb
        n 0 (Nat.zero_add n) fuel (Nat.lt_of_le_of_lt (Nat.le_max_left _ _) hf) (0 : F) rest log
      simp only [lExec, specItem, itemTop]
      rw [e]
      simp [List.append_assoc]
    | scope b =>
      simp only [maxN] at hf
      have hw : lvl0s b = true ∨ lvl1s b = true := by simpa [lvl0, lvl1] using h
      rcases hw with h0 | h1
      · rw [lExec, lInits_lvl0s b h0, lExecs_level fuel b _ log (.inl h0) hf, child_iters]
        simp [specItem, lvl0s_not_lvl1s b h0, itemTop]
      · rw [lExec, lInits_lvl1s b h1, lExecs_level fuel b _ log (.inr ⟨h1, rfl⟩) hf]
        simp [specItem, h1, LReg.iters, lookIters, itemTop]
  theorem lExecs_level (fuel : Nat) (is : LItems) (r : LReg F) (log : List (LEvent F))
      (h : lvl0s is = true ∨ (lvl1s is = true ∧ r.top.iters = some 0)) (hf : maxNs is < fuel) :
      lExecs toF fuel is r log = .ok { r with top := itemsTop toF is r.top } (log ++ (specItems toF is r.iters).1) := by
    cases is with
    | nil => simp [lExecs, specItems, itemsTop]
    | cons i is =>
      simp only [maxNs] at hf
      -- the head is ready at `r`; the tail is ready at what the head leaves (a loop-free head leaves `r.top`)
      obtain ⟨hi, his⟩ : (lvl0 i = true ∨ (lvl1 i = true ∧ r.top.iters = some 0)) ∧
          (lvl0s is = true ∨ (lvl1s is = true ∧ (itemTop toF i r.top).iters = some 0)) := by
        simp only [lvl0s, lvl1s, Bool.and_eq_true, Bool.or_eq_true] at h
        rcases h with ⟨a, b⟩ | ⟨⟨a, b⟩ | ⟨a, b⟩, hz⟩
        · exact ⟨.inl a, .inl b⟩
        · exact ⟨.inr ⟨a, hz⟩, .inl b⟩
        · exact ⟨.inl a, .inr ⟨b, by rw [itemTop_lvl0 toF i a]; exact hz⟩⟩
      rw [lExecs, lExec_level fuel i r log hi (Nat.lt_of_le_of_lt (Nat.le_max_left _ _) hf)]
      simp only
      rw [lExecs_level fuel is _ _ his (Nat.lt_of_le_of_lt (Nat.le_max_right _ _) hf), itemTop_iters]
      simp only [specItems, itemsTop, List.append_assoc]
end

/-- The one loop of a level, entered right after its initialisation (counter 0, whatever the
parents hold): the log the specification says; the parents are untouched; the counter ends at the
value the specification says. -/
theorem lExec_lvl1 (fuel : Nat) (i : LItem) (h : lvl1 i = true) (hf : maxN i < fuel)
    (pr : Option F) (rest : List (LFrame F)) (log : List (LEvent F)) :
    ∃ (top' : LFrame F) (m : Nat),
      lExec toF fuel i { top := { iters := some 0, progress := pr }, rest := rest } log =
        .ok { top := top', rest := rest } (log ++ (specItem toF i (some 0)).1) ∧
      top'.iters = some m ∧ (specItem toF i (some 0)).2 = some m ∧ top'.progress.isSome = true := by
  have e := lExec_level toF fuel i { top := { iters := some 0, progress := pr }, rest := rest } log (.inr ⟨h, rfl⟩) hf
  cases i with
  | loop id n b => exact ⟨_, n, e, rfl, rfl, rfl⟩
  | _ => simp [lvl1] at h

end main

/-! ### Reading counts off a log -/

theorem countP_flatMap_one {α β : Type} (q : α → Bool) (f : β → List α) (l : List β)
    (h : ∀ k, (f k).countP q = 1) : (l.flatMap f).countP q = l.length := by
  induction l with
  | nil => rfl
  | cons k ks ih => rw [List.flatMap_cons, List.countP_append, h, ih, List.length_cons, Nat.add_comm]

/-- The passes of one loop entry in a log: a `true` test of loop `id` followed by a body, `n` times;
a predicate that holds of these tests and of nothing in the bodies counts `n`. -/
theorem countP_passes {F : Type} (q : LEvent F → Bool) (id n : Nat) (body : Nat → List (LEvent F))
    (p : Nat → Option F) (hq : ∀ k, q (.test id true k (p k)) = true)
    (hb : ∀ k, ∀ e ∈ body k, q e = false) :
    ((List.range' 0 n).flatMap (fun k => LEvent.test id true k (p k) :: body k)).countP q = n := by
  rw [countP_flatMap_one q _ _ (fun k => by
    rw [List.countP_cons_of_pos (hq k), List.countP_eq_zero.mpr (fun e he => by simp [hb k e he])]),
    List.length_range']

/-! ### A loop guarded by a composite of two bounds -/

theorem connB_eq_goesOn (c : Conn) (n m step k : Nat) :
    connB c (decide (k < n)) (decide (k * step < m)) = goesOn c n m step k := by
  cases c <;> simp [connB, goesOn, allB, anyB]

theorem goesOn_and (c : Conn) (hc : c = .and ∨ c = .nand) (n m step k : Nat) :
    goesOn c n m step k = (decide (k < n) && decide (k * step < m)) := by
  rcases hc with rfl | rfl <;> rfl

theorem loop2Go_least {F : Type} [Div F] (toF : Nat → F) (c : Conn) (n m step p : Nat)
    (hstop : goesOn c n m step p = false) (d : Nat) :
    ∀ (k : Nat), k + d = p → (∀ q, k ≤ q → q < p → goesOn c n m step q = true) →
    ∀ (fuel : Nat), d + 1 ≤ fuel → ∀ (pit pev : F) (passes : Nat) (log : List (L2Ev F)),
      loop2Go toF c n m step fuel { it := k, ev := k * step, pit := pit, pev := pev, passes := passes } log =
        some ({ it := p, ev := p * step, pit := toF p / toF n, pev := toF (p * step) / toF m, passes := passes + d },
          log ++ (List.range' k (d + 1)).map (specEv2 toF c n m step)) := by
  induction d with
  | zero =>
    intro k hk _ fuel hf pit pev passes log
    obtain rfl : k = p := hk
    cases fuel with
    | zero => exact absurd hf (Nat.not_succ_le_zero _)
    | succ fuel =>
      simp [loop2Go, lessThanN, connB_eq_goesOn, hstop, specEv2]
  | succ d ih =>
    intro k hk hgo fuel hf pit pev passes log
    cases fuel with
    | zero => exact absurd hf (Nat.not_succ_le_zero _)
    | succ fuel =>
      have hg : goesOn c n m step k = true :=
        hgo k (Nat.le_refl _) (hk ▸ Nat.lt_add_of_pos_right (Nat.succ_pos d))
      simp only [loop2Go, lessThanN, connB_eq_goesOn, hg, if_true]
      rw [← Nat.succ_mul, ih (k + 1) ((Nat.succ_add_eq_add_succ k d).trans hk)
        (fun q h1 h2 => hgo q (Nat.le_of_succ_le h1) h2) fuel (Nat.le_of_succ_le_succ hf)]
      simp [List.range'_succ, specEv2, hg, List.append_assoc]
      exact Nat.succ_add_eq_add_succ passes d

end MahfModel.Conditions
