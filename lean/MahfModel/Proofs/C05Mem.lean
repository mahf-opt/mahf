/- C05 on the machine with memories (`Model/PopMachineMem.lean`): PSO personal/global best, CRO molecule memory, partial
mutation, recombination executor, DE mutation. Every step only copies individuals between the places that hold them,
un-evaluates them or evaluates them with `f`, so it hands on every `Closed f P` (`PMX.All P`, `memStep_hands`; the four CRO
reactions need no closure at all); the relations the driver evaluates on snapshots imply validity. -/
import MahfModel.Proofs.C05
import MahfModel.Model.PopMachineMem
namespace MahfModel.PopMachine

variable {O : Type}

/-- Validity of everything the machine with memories holds. -/
def AllValidX (f : Nat → O) (x : PMX O) : Prop :=
  AllValidPM f x.pm ∧ AllValid f x.pbest ∧ (∀ g, x.gbest = some g → Valid f g) ∧ AllValid f x.mols

/-- `P` holds of every individual the machine with memories holds (`AllValidX f` is `PMX.All (Valid f)`). -/
def PMX.All (P : Ind O → Prop) (x : PMX O) : Prop :=
  PM.All P x.pm ∧ (∀ i ∈ x.pbest, P i) ∧ (∀ g, x.gbest = some g → P g) ∧ ∀ i ∈ x.mols, P i

theorem allValidX_iff (f : Nat → O) (x : PMX O) : AllValidX f x ↔ AllValid f (allInds x) := by
  simp only [allInds, AllValid, List.forall_mem_append, List.forall_mem_flatten, Option.mem_toList, AllValidX, AllValidPM,
    and_assoc]

theorem allValid_of_mem_stack (f : Nat → O) (x : PMX O) (h : AllValidX f x) (p : List (Ind O)) (hp : p ∈ x.pm.stack) : AllValid f p :=
  h.1.1 p hp

/-! ### partial mutation, recombination executor, DE mutation, duplication -/

/-- What a partial mutation does to the member at position `k`: `solution_mut` (and `w` written) where the witness is
`mut w`, nothing otherwise. -/
def touch (ts : List Touch) (k : Nat) (a : Ind O) : Ind O :=
  match ts[k]? with
  | some (.mut w) => a.solutionMut w
  | _ => a

theorem mutateSome_eq_mapIdx (p : List (Ind O)) (ts : List Touch) : mutateSome p ts = p.mapIdx (touch ts) := by
  induction p generalizing ts with
  | nil => rfl
  | cons i is ih =>
    rw [List.mapIdx_cons]
    match ts with
    | [] => exact congrArg (i :: ·) (ih [])
    | .keep :: ts => exact congrArg (i :: ·) (ih ts)
    | .mut w :: ts => exact congrArg (i.solutionMut w :: ·) (ih ts)

theorem forall_mem_mutateSome {P : Ind O → Prop} (p : List (Ind O)) (ts : List Touch) (h : ∀ i ∈ p, P i)
    (hm : ∀ (i : Ind O) (w : Option Nat), P (i.solutionMut w)) : ∀ i ∈ mutateSome p ts, P i := by
  intro i hi
  obtain ⟨k, hk, rfl⟩ := List.mem_mapIdx.mp (mutateSome_eq_mapIdx p ts ▸ hi)
  unfold touch
  split
  · exact hm _ _
  · exact h _ (List.getElem_mem hk)

theorem recombineExec_unevaluated (p : List (Ind O)) (ws : List PairOut) : ∀ i ∈ recombineExec p ws, i.obj = none :=
  intoIndividuals_unevaluated _

/-- Pairs for which the operator returned `None` (and the odd remainder) hand the parents' SOLUTIONS on. -/
theorem recombineSols_none : ∀ (ss : List Nat), recombineSols ss [] = ss
  | [] => rfl
  | [_] => rfl
  | a :: b :: rest => by simp [recombineSols, recombineSols_none rest]

theorem retainEveryFrom_sublist {α : Type} (size : Nat) (k : Nat) (l : List α) : (retainEveryFrom size k l).Sublist l := by
  induction l generalizing k with
  | nil => exact List.Sublist.slnil
  | cons y ys ih =>
    rw [retainEveryFrom]
    split
    · exact (ih _).cons_cons y
    · exact (ih _).cons y

theorem deMutation_sublist (size : Nat) (p p' : List (Ind O)) (ws : List (Option Nat))
    (h : deMutation size p ws = some p') : p'.Sublist (asSolutionsMut p ws) := by
  rw [deMutation] at h
  split at h
  · cases h
  · cases h; exact retainEveryFrom_sublist size 0 _

theorem deMutation_unevaluated (size : Nat) (p p' : List (Ind O)) (ws : List (Option Nat))
    (h : deMutation size p ws = some p') : ∀ i ∈ p', i.obj = none :=
  fun i hi => asSolutionsMut_unevaluated p ws i ((deMutation_sublist size p p' ws h).subset hi)

theorem duplicate_mem (p : List (Ind O)) : ∀ x ∈ duplicate p, x ∈ p := by
  induction p with
  | nil => exact fun _ h => nomatch h
  | cons i is ih =>
    intro x h
    rw [duplicate, List.mem_cons, List.mem_cons, Ind.clone_eq] at h
    rcases h with h | h | h
    · exact h ▸ List.mem_cons_self
    · exact h ▸ List.mem_cons_self
    · exact List.mem_cons_of_mem _ (ih x h)

theorem position_lt [DecidableEq O] : ∀ (l : List (Ind O)) (r : Ind O) (k : Nat), position l r = some k → l[k]? = some r := by
  intro l r
  induction l with
  | nil => exact fun _ h => nomatch h
  | cons x xs ih =>
    intro k h
    rw [position] at h
    split at h
    · rename_i hx
      cases h; exact congrArg some hx
    · obtain ⟨j, hj, rfl⟩ := Option.map_eq_some_iff.mp h
      exact ih j hj

/-! ### memories -/

section Better
variable [LT O] [DecidableLT O]

/-- `keepBetter`, `gbestUpd` and `bestUpdate` are one comparison: the memory updates of PSO and CRO are
`BestIndividual::update` without the Boolean. -/
theorem keepBetter_eq (cur cand : Ind O) : (keepBetter cur cand).map some = (bestUpdate (some cur) cand).map (·.1) := by
  simp only [keepBetter, bestUpdate]
  cases cand.obj with
  | none => rfl
  | some c =>
    cases cur.obj with
    | none => rfl
    | some b => by_cases h : c < b <;> simp only [h, if_true, if_false] <;> rfl

theorem gbestUpd_some (best : Option (Ind O)) (c : Ind O) : gbestUpd best (some c) = (bestUpdate best c).map (·.1) := by
  cases best with
  | none => rfl
  | some cur => exact keepBetter_eq cur c

theorem gbestUpd_none (best : Option (Ind O)) : gbestUpd best none = some best := by cases best <;> rfl

theorem keepBetter_cases (cur cand r : Ind O) (h : keepBetter cur cand = some r) : r = cur ∨ r = cand := by
  obtain ⟨⟨b', r'⟩, h1, h2⟩ := Option.map_eq_some_iff.mp ((keepBetter_eq cur cand).symm.trans (congrArg (Option.map some) h))
  exact (bestUpdate_cases _ _ _ _ h1).symm.imp (fun e => Option.some.inj (h2.symm.trans e)) fun e => Option.some.inj (h2.symm.trans e)

theorem gbestUpd_cases (best cand g : Option (Ind O)) (h : gbestUpd best cand = some g) : g = best ∨ (g = cand ∧ cand.isSome) := by
  cases cand with
  | none => exact Or.inl (Option.some.inj ((gbestUpd_none best).symm.trans h)).symm
  | some c =>
    obtain ⟨⟨b', r'⟩, h1, rfl⟩ := Option.map_eq_some_iff.mp ((gbestUpd_some best c).symm.trans h)
    exact (bestUpdate_cases _ _ _ _ h1).symm.imp_right fun e => ⟨e, rfl⟩

/-- One walk of `pbestUpd`: surplus memory entries stay, every other entry is the old one or the particle at its place. -/
theorem pbestUpd_spec (bs cs r : List (Ind O)) (h : pbestUpd bs cs = some r) :
    r.length = bs.length ∧ ∀ x ∈ r, x ∈ bs ∨ x ∈ cs := by
  induction bs generalizing cs r with
  | nil => cases h; exact ⟨rfl, fun _ hx => nomatch hx⟩
  | cons b bs ih =>
    cases cs with
    | nil => cases h; exact ⟨rfl, fun x hx => Or.inl hx⟩
    | cons c cs =>
      rw [pbestUpd] at h
      split at h
      · rename_i b' r' hb hr
        cases h
        obtain ⟨ih1, ih2⟩ := ih cs r' hr
        refine ⟨congrArg (· + 1) ih1, List.forall_mem_cons.mpr ⟨?_, fun x hx => ?_⟩⟩
        · exact (keepBetter_cases b c b' hb).imp (fun (e : b' = b) => e ▸ List.mem_cons_self) (fun (e : b' = c) => e ▸ List.mem_cons_self)
        · exact (ih2 x hx).imp (List.mem_cons_of_mem _) (List.mem_cons_of_mem _)
      · cases h

end Better

section All
variable {P : Ind O → Prop} {x : PMX O}

theorem PMX.All.stack (h : PMX.All P x) : ∀ p ∈ x.pm.stack, ∀ i ∈ p, P i := h.1.1
theorem PMX.All.best (h : PMX.All P x) : ∀ b, x.pm.best = some b → P b := h.1.2.1
theorem PMX.All.archive (h : PMX.All P x) : ∀ i ∈ x.pm.archive, P i := h.1.2.2
theorem PMX.All.pbest (h : PMX.All P x) : ∀ i ∈ x.pbest, P i := h.2.1
theorem PMX.All.gbest (h : PMX.All P x) : ∀ g, x.gbest = some g → P g := h.2.2.1
theorem PMX.All.mols (h : PMX.All P x) : ∀ i ∈ x.mols, P i := h.2.2.2

theorem PMX.All.trivial (x : PMX O) : PMX.All (fun _ => True) x :=
  ⟨⟨fun _ _ _ _ => ⟨⟩, fun _ _ => ⟨⟩, fun _ _ => ⟨⟩⟩, fun _ _ => ⟨⟩, fun _ _ => ⟨⟩, fun _ _ => ⟨⟩⟩

theorem PMX.All.withStack (h : PMX.All P x) {s : List (List (Ind O))} (hs : ∀ p ∈ s, ∀ i ∈ p, P i) :
    PMX.All P (x.withStack s) :=
  ⟨⟨hs, h.best, h.archive⟩, h.2⟩

/-- Dropping populations from the top of the stack (what a reaction leaves behind when it stops with an `Err`, or when
the energy balance refuses it). -/
theorem PMX.All.drop (h : PMX.All P x) {pre s : List (List (Ind O))} (hst : x.pm.stack = pre ++ s) :
    PMX.All P (x.withStack s) :=
  h.withStack fun p hp => h.stack p (hst ▸ List.mem_append_right _ hp)

theorem PMX.All.reaction (h : PMX.All P x) {cur' m : List (Ind O)} {rest : List (List (Ind O))}
    (hcur : ∀ i ∈ cur', P i) (hrest : ∀ q ∈ rest, ∀ i ∈ q, P i) (hm : ∀ i ∈ m, P i) :
    PMX.All P { x.withStack (cur' :: rest) with mols := m } :=
  ⟨⟨List.forall_mem_cons.mpr ⟨hcur, hrest⟩, h.best, h.archive⟩, h.pbest, h.gbest, hm⟩

theorem PMX.All.stack3 (h : PMX.All P x) {pp rp cur : List (Ind O)} {rest : List (List (Ind O))}
    (hst : x.pm.stack = pp :: rp :: cur :: rest) :
    (∀ i ∈ pp, P i) ∧ (∀ i ∈ rp, P i) ∧ (∀ i ∈ cur, P i) ∧ ∀ q ∈ rest, ∀ i ∈ q, P i := by
  have h := hst ▸ h.stack
  simp only [List.forall_mem_cons] at h
  exact h

end All

/-! ### the CRO reactions only copy individuals, between the population stack and the molecule memory: what holds of all
individuals before holds afterwards, for every outcome, and the PSO global best is not touched -/

section Cro
variable [LT O] [DecidableLT O] [DecidableEq O] {P : Ind O → Prop}

omit [DecidableEq O] in
theorem keepBetter_all (m p m' : Ind O) (hm : P m) (hp : P p) (h : keepBetter m p = some m') : P m' := by
  rcases keepBetter_cases m p m' h with rfl | rfl
  · exact hm
  · exact hp

-- Below: a panic has no state, most outcomes only drop populations (`PMX.All.drop`); left are the accepted
-- reaction and the `Err` on a stack that is too short.

theorem onWall_hands (a : Bool) (x x' : PMX O) (hv : PMX.All P x)
    (hs : (onWall a x).state? = some x') : PMX.All P x' ∧ x'.gbest = x.gbest := by
  revert x'
  fun_cases onWall a x <;> rintro _ ⟨⟩ <;> refine ⟨?_, rfl⟩
  any_goals exact hv.drop (pre := [_, _]) ‹_›
  any_goals exact hv.drop (pre := [_]) ‹_›
  · -- accepted
    obtain ⟨hpp, _, hcur, hrest⟩ := hv.stack3 ‹_›
    have vp := hpp _ (intoSingle_mem _ _ ‹_›)
    exact hv.reaction (forall_mem_set hcur vp) hrest
      (forall_mem_set hv.mols (keepBetter_all _ _ _ (hv.mols _ (List.mem_of_getElem? ‹_›)) vp ‹_›))
  · -- stack too short
    exact hv

omit [LT O] [DecidableLT O] in
theorem decomposition_hands (a : Bool) (x x' : PMX O) (hv : PMX.All P x)
    (hs : (decomposition a x).state? = some x') : PMX.All P x' ∧ x'.gbest = x.gbest := by
  revert x'
  fun_cases decomposition a x <;> rintro _ ⟨⟩ <;> refine ⟨?_, rfl⟩
  any_goals exact hv.drop (pre := [_, _]) ‹_›
  any_goals exact hv.drop (pre := [_]) ‹_›
  · -- accepted
    obtain ⟨hpp, _, hcur, hrest⟩ := hv.stack3 ‹_›
    have v1 := hpp _ (.head _)
    have v2 := hpp _ (.tail _ (.head _))
    exact hv.reaction (List.forall_mem_append.mpr ⟨forall_mem_set hcur v1, List.forall_mem_singleton.mpr v2⟩) hrest
      (List.forall_mem_append.mpr ⟨forall_mem_set hv.mols ((Ind.clone_eq _).symm ▸ v1),
        List.forall_mem_singleton.mpr ((Ind.clone_eq _).symm ▸ v2)⟩)
  · -- stack too short
    exact hv

theorem intermolecular_hands (a : Bool) (x x' : PMX O) (hv : PMX.All P x)
    (hs : (intermolecular a x).state? = some x') : PMX.All P x' ∧ x'.gbest = x.gbest := by
  revert x'
  fun_cases intermolecular a x <;> rintro _ ⟨⟩ <;> refine ⟨?_, rfl⟩
  any_goals exact hv.drop (pre := [_, _]) ‹_›
  any_goals exact hv.drop (pre := [_]) ‹_›
  · -- accepted
    rename_i hm2 hm1 _ a' b' hb ha hst
    obtain ⟨hpp, _, hcur, hrest⟩ := hv.stack3 hst
    have v1 := hpp _ (.head _)
    have v2 := hpp _ (.tail _ (.head _))
    exact hv.reaction (forall_mem_set (forall_mem_set hcur v1) v2) hrest
      (forall_mem_set (forall_mem_set hv.mols
        (keepBetter_all _ _ a' (hv.mols _ (List.mem_of_getElem? hm1)) v1 ha))
        (keepBetter_all _ _ b' (hv.mols _ (List.mem_of_getElem? hm2)) v2 hb))
  · -- stack too short
    exact hv

omit [LT O] [DecidableLT O] in
theorem synthesis_hands (a : Bool) (x x' : PMX O) (hv : PMX.All P x)
    (hs : (synthesis a x).state? = some x') : PMX.All P x' ∧ x'.gbest = x.gbest := by
  revert x'
  fun_cases synthesis a x <;> rintro _ ⟨⟩ <;> refine ⟨?_, rfl⟩
  any_goals exact hv.drop (pre := [_, _]) ‹_›
  any_goals exact hv.drop (pre := [_]) ‹_›
  · -- accepted
    obtain ⟨hpp, _, hcur, hrest⟩ := hv.stack3 ‹_›
    have vp := hpp _ (intoSingle_mem _ _ ‹_›)
    exact hv.reaction (fun i hi => forall_mem_set hcur vp i (List.mem_of_mem_eraseIdx hi)) hrest
      fun i hi => forall_mem_set hv.mols ((Ind.clone_eq _).symm ▸ vp) i (List.mem_of_mem_eraseIdx hi)
  · -- stack too short
    exact hv

end Cro

/-! ### every step of the machine with memories -/

/-- The only step that writes the PSO global best. -/
def MemOp.writesGbest : MemOp → Bool
  | .gbestUpdate => true
  | _ => false

section Step
variable [LT O] [DecidableLT O] [DecidableEq O] {P : Ind O → Prop}

/-- Every step — all `PMOp` steps, partial mutations, the recombination executor, DE mutation, duplication, the PSO
personal/global best components, `ChemicalReactionInit`, the four CRO reactions for every outcome of their energy
balance, the `init`s — hands on what holds of every individual anywhere in the state, also when it ends with an `Err`;
and only `GlobalBestParticleUpdate` writes the PSO global best. -/
theorem memStep_hands (f : Nat → O) (hP : Closed f P) (x x' : PMX O) (op : MemOp)
    (hv : PMX.All P x) (hs : (memStep f x op).state? = some x') :
    PMX.All P x' ∧ (op.writesGbest = false → x'.gbest = x.gbest) := by
  have top := @hv.1.top
  have newTop : ∀ {p p' : List (Ind O)} {rest : List (List (Ind O))}, x.pm.stack = p :: rest → (∀ i ∈ p', P i) →
      PMX.All P (x.withStack (p' :: rest)) := fun hst hp' => hv.withStack (List.forall_mem_cons.mpr ⟨hp', (top hst).2⟩)
  have clones : ∀ {p : List (Ind O)}, (∀ i ∈ p, P i) → ∀ i ∈ p.map Ind.clone, P i := fun hp =>
    List.forall_mem_map.mpr fun j hj => (Ind.clone_eq j).symm ▸ hp j hj
  revert x'
  fun_cases memStep f x op
  -- outside the four reactions the outcome is explicit: a panic, or `x'` is given
  any_goals rintro _ ⟨⟩
  · -- `base`
    exact ⟨⟨pmStep_all f hP x.pm _ _ hv.1 ‹_›, hv.2⟩, fun _ => rfl⟩
  · -- `mutateSome`
    exact ⟨newTop ‹_› (forall_mem_mutateSome _ _ (top ‹_›).1 fun _ _ => hP.uneval _ rfl), fun _ => rfl⟩
  · -- `recombineExec`
    exact ⟨newTop ‹_› fun i hi => hP.uneval i (recombineExec_unevaluated _ _ i hi), fun _ => rfl⟩
  · -- `deMutation`, `Err`
    exact ⟨hv, fun _ => rfl⟩
  · -- `deMutation`
    exact ⟨newTop ‹_› fun i hi => hP.uneval i (deMutation_unevaluated _ _ _ _ ‹_› i hi), fun _ => rfl⟩
  · -- `duplicate`
    exact ⟨newTop ‹_› fun i hi => (top ‹_›).1 i (duplicate_mem _ i hi), fun _ => rfl⟩
  · -- `pbestInit`
    exact ⟨⟨hv.1, clones (top ‹_›).1, hv.gbest, hv.mols⟩, fun _ => rfl⟩
  · -- `pbestUpdate`
    exact ⟨⟨hv.1, fun i hi => ((pbestUpd_spec x.pbest _ _ ‹_›).2 i hi).elim (hv.pbest i) ((top ‹_›).1 i), hv.gbest, hv.mols⟩,
      fun _ => rfl⟩
  · -- `gbestUpdate`
    rename_i p _ hst cand hc g hg
    refine ⟨⟨hv.1, hv.pbest, fun g' hg' => ?_, hv.mols⟩, nofun⟩
    rcases gbestUpd_cases x.gbest cand g hg with h | ⟨h, _⟩
    · exact hv.gbest g' (h ▸ hg')
    · exact (top hst).1 g' (bestIndividual_mem p g' (hc.trans (congrArg some (h.symm.trans hg'))))
  · -- `croInit`
    exact ⟨⟨hv.1, hv.pbest, hv.gbest, clones (top ‹_›).1⟩, fun _ => rfl⟩
  · -- `onWall`
    exact fun x' hs => (onWall_hands _ x x' hv hs).imp_right fun h _ => h
  · -- `decomposition`
    exact fun x' hs => (decomposition_hands _ x x' hv hs).imp_right fun h _ => h
  · -- `intermolecular`
    exact fun x' hs => (intermolecular_hands _ x x' hv hs).imp_right fun h _ => h
  · -- `synthesis`
    exact fun x' hs => (synthesis_hands _ x x' hv hs).imp_right fun h _ => h
  · -- `initBest`
    exact ⟨⟨⟨hv.stack, fun _ h => (nomatch h), hv.archive⟩, hv.2⟩, fun _ => rfl⟩
  · -- `initArchive`
    exact ⟨⟨⟨hv.stack, hv.best, fun _ h => (nomatch h)⟩, hv.2⟩, fun _ => rfl⟩
  · -- `initPbest`
    exact ⟨⟨hv.1, fun _ h => (nomatch h), hv.gbest, hv.mols⟩, fun _ => rfl⟩
  · -- `initGbest`: an entry that is there is kept
    have e : (match x.gbest with | some g => some g | none => none) = x.gbest := by cases x.gbest <;> rfl
    exact ⟨⟨hv.1, hv.pbest, fun g hg => hv.gbest g (e ▸ hg), hv.mols⟩, fun _ => e⟩
  · -- `initMols`
    exact ⟨⟨hv.1, hv.pbest, hv.gbest, fun _ h => (nomatch h)⟩, fun _ => rfl⟩
  · -- `initEvals`
    exact ⟨⟨⟨hv.stack, hv.best, hv.archive⟩, hv.2⟩, fun _ => rfl⟩

end Step

/-- What every step of a run hands on holds of the state the run leaves behind, however it ends. -/
theorem memRun_inv [LT O] [DecidableLT O] [DecidableEq O] {f : Nat → O} {I : PMX O → Prop} (ops : List MemOp)
    (step : ∀ op ∈ ops, ∀ x x', I x → (memStep f x op).state? = some x' → I x') :
    ∀ x x', I x → (memRun f x ops).state? = some x' → I x' := by
  induction ops with
  | nil => rintro x _ h ⟨⟩; exact h
  | cons op ops ih =>
    intro x x' h hr
    obtain ⟨hop, hops⟩ := List.forall_mem_cons.mp step
    rw [memRun] at hr
    cases h1 : memStep f x op with
    | ok x1 => rw [h1] at hr; exact ih hops x1 x' (hop x x1 h (h1 ▸ rfl)) hr
    | err x1 => rw [h1] at hr; exact hop x x' h (h1 ▸ hr)
    | panic => rw [h1] at hr; cases hr

/-! ### the transition relations -/

section Rel
variable [DecidableEq O]

theorem freshOrCopy_sound (f : Nat → O) (src p : List (Ind O)) (h : freshOrCopy f src p = true) (hs : AllValid f src) :
    AllValid f p := by
  intro i hi
  simp only [freshOrCopy, List.all_eq_true, Bool.or_eq_true] at h
  rcases h i hi with (h | h) | h
  · exact valid_of_unevaluated f i (Option.isNone_iff_eq_none.mp h)
  · exact hs i (List.contains_iff_mem.mp h)
  · exact fun o ho => Option.some.inj (beq_iff_eq.mp (ho ▸ h))

theorem unevalOrCopy_sound (f : Nat → O) (src p : List (Ind O)) (h : unevalOrCopy src p = true) (hs : AllValid f src) :
    AllValid f p :=
  freshOrCopy_sound f src p (List.all_eq_true.mpr fun i hi => by rw [List.all_eq_true.mp h i hi]; rfl) hs

theorem allValidB_iff (f : Nat → O) (p : List (Ind O)) : allValidB f p = true ↔ AllValid f p := by
  simp only [allValidB, List.all_eq_true, AllValid, Valid]
  constructor
  · intro h i hi o ho
    have := h i hi
    rw [ho] at this
    simpa using this
  · intro h i hi
    cases ho : i.obj with
    | none => rfl
    | some o => simpa using h i hi o ho

theorem unevalOrSame_spec (a b : List (Ind O)) (h : unevalOrSame a b = true) :
    a.length = b.length ∧ ∀ (k : Nat) (x y : Ind O), a[k]? = some x → b[k]? = some y → y.obj = none ∨ y = x := by
  induction a generalizing b with
  | nil =>
    cases b with
    | nil => exact ⟨rfl, fun _ _ _ hx => nomatch hx⟩
    | cons _ _ => cases h
  | cons a as ih =>
    cases b with
    | nil => cases h
    | cons b bs =>
      rw [unevalOrSame, Bool.and_eq_true, Bool.or_eq_true, decide_eq_true_eq] at h
      obtain ⟨ih1, ih2⟩ := ih bs h.2
      refine ⟨congrArg (· + 1) ih1, fun k x y hx hy => ?_⟩
      cases k with
      | zero =>
        cases hx; cases hy
        exact h.1.imp Option.isNone_iff_eq_none.mp Eq.symm
      | succ k => exact ih2 k x y hx hy

end Rel

end MahfModel.PopMachine
