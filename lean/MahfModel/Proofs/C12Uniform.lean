/-
C12, clause "mu random ones": counting over all legal witnesses of `RandomReplacement` (`keeps_mul`).
The legal witnesses for `n = a + b` individuals are the `n!` permutations of
`0 … n-1`; among them exactly `min mu n * (n-1)!` keep position `i` (stated without division as
`count * n = min mu n * n!`).  Proof: double counting + symmetry under transpositions.
-/
import MahfModel.Model.Replacement
import Mathlib.Data.List.Permutation
import Mathlib.Algebra.BigOperators.Group.List.Basic
import Mathlib.Logic.Equiv.Basic
namespace MahfModel.Replacement
open List

/-- Every legal witness for `n` individuals, each exactly once. -/
def witnesses (n : Nat) : List (List Nat) := (List.range n).permutations

theorem mem_witnesses {n : Nat} {w : List Nat} : w ∈ witnesses n ↔ Legal w n :=
  List.mem_permutations

theorem witnesses_nodup (n : Nat) : (witnesses n).Nodup :=
  nodup_permutations _ List.nodup_range

theorem witnesses_length (n : Nat) : (witnesses n).length = n.factorial := by
  simp [witnesses, length_permutations]

theorem swap_lt {n i j x : Nat} (hi : i < n) (hj : j < n) (hx : x < n) : Equiv.swap i j x < n := by
  rw [Equiv.swap_apply_def]; split_ifs <;> assumption

theorem range_map_swap {n i j : Nat} (hi : i < n) (hj : j < n) :
    ((List.range n).map (Equiv.swap i j)).Perm (List.range n) := by
  refine (List.perm_ext_iff_of_nodup (List.Nodup.map (Equiv.swap i j).injective List.nodup_range)
    List.nodup_range).2 fun x => ?_
  simp only [List.mem_map, List.mem_range]
  exact ⟨by rintro ⟨a, ha, rfl⟩; exact swap_lt hi hj ha,
    fun hx => ⟨Equiv.swap i j x, swap_lt hi hj hx, Equiv.swap_apply_self i j x⟩⟩

/-- Relabelling the positions permutes the witnesses among themselves. -/
theorem witnesses_map {n : Nat} {σ : Nat → Nat} (h : ((List.range n).map σ).Perm (List.range n)) :
    ((witnesses n).map (List.map σ)).Perm (witnesses n) := by
  rw [witnesses, map_permutations]
  exact h.permutations

/-- As many witnesses keep `i` as keep `j`: exchange the two labels. -/
theorem keeps_symm {n : Nat} (mu : Nat) {i j : Nat} (hi : i < n) (hj : j < n) :
    (witnesses n).countP (fun w => decide (i ∈ w.take mu)) = (witnesses n).countP (fun w => decide (j ∈ w.take mu)) := by
  rw [← (witnesses_map (range_map_swap hi hj)).countP_eq, List.countP_map]
  refine List.countP_congr fun w _ => ?_
  simp only [Function.comp_apply, decide_eq_true_eq, ← List.map_take]
  have := List.mem_map_of_injective (Equiv.swap i j).injective (a := j) (l := w.take mu)
  rwa [Equiv.swap_apply_right] at this

/-- Counting the pairs that satisfy `p` row by row or column by column. -/
theorem sum_countP_comm {α β : Type} (p : α → β → Bool) (l : List α) (m : List β) :
    (l.map fun a => m.countP (p a)).sum = (m.map fun b => l.countP (p · b)).sum := by
  have one : ∀ a, m.countP (p a) = (m.map fun b => if p a b = true then 1 else 0).sum := fun a => by
    induction m with
    | nil => rfl
    | cons b m ihm => rw [List.countP_cons, ihm, List.map_cons, List.sum_cons, Nat.add_comm]
  induction l with
  | nil => simp
  | cons a l ih =>
    rw [List.map_cons, List.sum_cons, ih, one a, ← List.sum_map_add]
    simp only [List.countP_cons, Nat.add_comm]

theorem kept_of_legal {n : Nat} (mu : Nat) {w : List Nat} (h : Legal w n) :
    (List.range n).countP (fun i => decide (i ∈ w.take mu)) = min mu n := by
  have hnd : w.Nodup := h.nodup_iff.2 List.nodup_range
  rw [← h.countP_eq, ← List.length_range (n := n), ← h.length_eq, ← List.length_take]
  conv_lhs => arg 2; rw [← List.take_append_drop mu w]
  rw [List.countP_append, List.countP_eq_length.2 (fun x hx => decide_eq_true hx),
    List.countP_eq_zero.2 (fun x hx => by simpa using fun hx' => List.disjoint_take_drop hnd (Nat.le_refl _) hx' hx)]
  rfl

theorem keeps_mul (n mu i : Nat) (hi : i < n) :
    (witnesses n).countP (fun w => decide (i ∈ w.take mu)) * n = min mu n * n.factorial := by
  -- the pairs (position, witness keeping it): every position has as many as `i`, every witness has `min mu n`
  have hs := sum_countP_comm (fun i w => decide (i ∈ w.take mu)) (List.range n) (witnesses n)
  rw [List.map_congr_left (fun j hj => keeps_symm mu (List.mem_range.1 hj) hi),
    List.map_congr_left (fun w hw => kept_of_legal mu (mem_witnesses.1 hw)), List.map_const', List.map_const',
    List.sum_replicate, List.sum_replicate, List.length_range, witnesses_length] at hs
  rw [Nat.mul_comm, Nat.mul_comm (min mu n)]; exact hs

end MahfModel.Replacement
