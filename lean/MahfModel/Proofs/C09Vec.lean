/- C09 — vectors of objective values: the legality test of the constructor, the lockstep folds `vecEq` / `allLe` / `anyLt`
as `all` / `any` over the zipped coordinates, the flag loop of `partial_cmp`, and the Pareto order it computes.
Imports no Mathlib. -/
import MahfModel.Proofs.C09Basic
namespace MahfModel.Objective

/-! ### legal vectors -/

/-- The two scans of the multi-objective constructor together are the legality test. -/
theorem legalVec_eq (v : List F64) : legalVec v =
    (!v.any isNan && !v.any (fun o => isInfinite o && infIsNegative o)) := by
  induction v with
  | nil => rfl
  | cons x xs ih =>
    rw [legalVec] at ih ⊢
    rw [List.all_cons, List.any_cons, List.any_cons, ih, legal_eq]
    cases isNan x <;> cases (isInfinite x && infIsNegative x) <;> simp

theorem legalVec_noNan (a : List F64) (h : legalVec a = true) : ∀ x ∈ a, isNan x = false :=
  fun x hx => legal_not_nan x (List.all_eq_true.mp h x hx)

/-! ### the lockstep folds

The three lockstep folds of the model are `all` / `any` over the zipped coordinates; what relates them is then
said coordinate by coordinate. -/

theorem allLe_eq (a b : List F64) : allLe a b = (a.zip b).all fun p => le p.1 p.2 := by
  induction a generalizing b with
  | nil => rfl
  | cons x xs ih => cases b <;> simp [allLe, ih]

/-- "Somewhere better" and "somewhere worse" along the same zipped coordinates, by one induction. -/
theorem anyLt_eq (a b : List F64) :
    anyLt a b = (a.zip b).any (fun p => lt p.1 p.2) ∧ anyLt b a = (a.zip b).any (fun p => lt p.2 p.1) := by
  induction a generalizing b with
  | nil => cases b <;> exact ⟨rfl, rfl⟩
  | cons x xs ih => cases b <;> simp [anyLt, ih]

theorem vecEq_eq (a b : List F64) :
    vecEq a b = (a.length == b.length && (a.zip b).all fun p => eq p.1 p.2) := by
  induction a generalizing b with
  | nil => cases b <;> rfl
  | cons x xs ih => cases b <;> simp [vecEq, ih, Bool.and_left_comm]

theorem allLe_iff_zip (a b : List F64) :
    allLe a b = true ↔ ∀ p ∈ List.zip a b, le p.1 p.2 = true := by
  rw [allLe_eq, List.all_eq_true]

theorem anyLt_iff_zip (a b : List F64) :
    anyLt a b = true ↔ ∃ p ∈ List.zip a b, lt p.1 p.2 = true := by
  rw [(anyLt_eq a b).1, List.any_eq_true]

theorem anyGt_iff_zip (a b : List F64) :
    anyLt b a = true ↔ ∃ p ∈ List.zip a b, lt p.2 p.1 = true := by
  rw [(anyLt_eq a b).2, List.any_eq_true]

theorem vecEq_length (a b : List F64) (h : vecEq a b = true) : a.length = b.length := by
  rw [vecEq_eq, Bool.and_eq_true, beq_iff_eq] at h; exact h.1

theorem vecEq_zip (a b : List F64) (h : vecEq a b = true) : ∀ p ∈ a.zip b, eq p.1 p.2 = true := by
  rw [vecEq_eq, Bool.and_eq_true, List.all_eq_true] at h; exact h.2

theorem vecEq_iff (a b : List F64) (ha : ∀ x ∈ a, isNan x = false) :
    vecEq a b = true ↔ a = b := by
  induction a generalizing b with
  | nil => cases b <;> simp [vecEq]
  | cons x xs ih =>
    cases b with
    | nil => simp [vecEq]
    | cons y ys =>
      obtain ⟨hx, hxs⟩ := List.forall_mem_cons.mp ha
      simp only [vecEq, Bool.and_eq_true, List.cons.injEq]
      rw [ih ys hxs, eq_iff_of_not_nan x y hx]

theorem vecEq_anyLt (a b : List F64) (h : vecEq a b = true) : anyLt a b = false ∧ anyLt b a = false := by
  rw [(anyLt_eq a b).1, (anyLt_eq a b).2, List.any_eq_false, List.any_eq_false]
  refine ⟨fun p hp => ?_, fun p hp => ?_⟩ <;>
    rw [eq_of_eq _ _ (vecEq_zip a b h p hp), lt_irrefl'] <;> exact Bool.false_ne_true

theorem allLe_of_vecEq (a b : List F64) (h : vecEq a b = true) : allLe a b = true := by
  rw [allLe_iff_zip]
  intro p hp
  rw [le_iff_lt_or_eq, vecEq_zip a b h p hp, Bool.or_true]

/-- The flag loop computes "somewhere better" and "somewhere worse". -/
theorem flagLoop_eq (a b : List F64) (p q : Bool) :
    flagLoop a b (p, q) = (p || anyLt a b, q || anyLt b a) := by
  induction a generalizing b p q with
  | nil => cases b <;> simp [flagLoop, anyLt]
  | cons x xs ih =>
    cases b with
    | nil => simp [flagLoop, anyLt]
    | cons y ys =>
      simp only [flagLoop, gt, anyLt]
      by_cases h1 : lt x y = true
      · have h2 := lt_asymm' x y h1
        simp [h1, h2, ih]
      · by_cases h2 : lt y x = true
        · simp [h1, h2, ih]
        · simp [h1, h2, ih]

theorem paretoCmp_iff (a b : List F64) :
    (paretoCmp a b = some .eq ↔ vecEq a b = true) ∧
    (paretoCmp a b = some .lt ↔ a.length = b.length ∧ anyLt a b = true ∧ anyLt b a = false) ∧
    (paretoCmp a b = some .gt ↔ a.length = b.length ∧ anyLt a b = false ∧ anyLt b a = true) ∧
    (paretoCmp a b = none ↔ vecEq a b = false ∧ (a.length = b.length → anyLt a b = anyLt b a)) := by
  rw [paretoCmp, flagLoop_eq]
  by_cases he : vecEq a b = true
  · simp [he, vecEq_length a b he, vecEq_anyLt a b he]
  · by_cases hl : a.length = b.length
    · cases anyLt a b <;> cases anyLt b a <;> simp [he, hl]
    · simp [he, hl]

theorem allLe_eq_not_anyLt (a b : List F64)
    (ha : ∀ x ∈ a, isNan x = false) (hb : ∀ x ∈ b, isNan x = false) :
    allLe a b = !anyLt b a := by
  rw [allLe_eq, (anyLt_eq a b).2, List.all_eq_not_any_not, Bool.not_inj_iff, Bool.eq_iff_iff, List.any_eq_true,
    List.any_eq_true]
  refine exists_congr fun p => and_congr_right fun hp => ?_
  obtain ⟨h1, h2⟩ := List.of_mem_zip (show (p.1, p.2) ∈ a.zip b from hp)
  rw [le_eq_not_lt _ _ (ha _ h1) (hb _ h2), Bool.not_not]

theorem paretoCmp_lt_iff (a b : List F64) (ha : legalVec a = true) (hb : legalVec b = true) :
    paretoCmp a b = some .lt ↔ dominates a b = true := by
  rw [(paretoCmp_iff a b).2.1, dominates, Bool.and_eq_true, Bool.and_eq_true, beq_iff_eq, and_assoc,
    allLe_eq_not_anyLt a b (legalVec_noNan a ha) (legalVec_noNan b hb), Bool.not_eq_true',
    and_comm (a := anyLt a b = true)]

/-- "Nowhere worse" composes (the middle vector must not be the shortest). -/
theorem allLe_trans (a b c : List F64) (h : a.length ≤ b.length) (hab : allLe a b = true) (hbc : allLe b c = true) :
    allLe a c = true := by
  induction a generalizing b c with
  | nil => rfl
  | cons x xs ih =>
    cases b with
    | nil => simp at h
    | cons y ys =>
      cases c with
      | nil => rfl
      | cons z zs =>
        simp only [allLe, Bool.and_eq_true] at hab hbc ⊢
        exact ⟨le_trans' x y z hab.1 hbc.1, ih ys zs (by simpa using h) hab.2 hbc.2⟩

/-- Without NaN dominance is the strict part of "nowhere worse", so it is transitive because that is. -/
theorem dominates_trans (a b c : List F64) (ha : ∀ x ∈ a, isNan x = false) (hb : ∀ x ∈ b, isNan x = false)
    (hc : ∀ x ∈ c, isNan x = false) (h1 : dominates a b = true) (h2 : dominates b c = true) :
    dominates a c = true := by
  simp only [dominates, Bool.and_eq_true, beq_iff_eq] at *
  obtain ⟨⟨l1, ab⟩, -⟩ := h1
  obtain ⟨⟨l2, bc⟩, sbc⟩ := h2
  refine ⟨⟨l1.trans l2, allLe_trans a b c (Nat.le_of_eq l1) ab bc⟩, ?_⟩
  -- otherwise `c` is nowhere worse than `a`, hence than `b`: against `b` somewhere better than `c`
  cases hac : anyLt a c with
  | true => rfl
  | false =>
    have hca : allLe c a = true := by rw [allLe_eq_not_anyLt c a hc ha, hac]; rfl
    have hcb := allLe_trans c a b (Nat.le_of_eq (l1.trans l2).symm) hca ab
    rw [allLe_eq_not_anyLt c b hc hb, sbc] at hcb
    cases hcb

end MahfModel.Objective
