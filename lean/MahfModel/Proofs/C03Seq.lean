/-
C03 — the vocabulary of `Proofs/C03*`: the side conditions of the property statements; the sequencing operators, so
that every later notion needs one lemma per operator instead of a case analysis per constructor; induction over trees.
-/
import MahfModel.Model.Config
namespace MahfModel.Config

/-! ### Side conditions of the property statements -/

/-- Not a `remove` of `k`. -/
def Act.keeps (k : Nat) (a : Act) : Bool := !(a.isRem && a.key == k)
/-- Neither `set_value` nor `remove` of `k`. -/
def Act.spares (k : Nat) (a : Act) : Bool := !(a.isWrite && a.key == k)

/-- Not an `insert` of `k`. -/
def Act.noInsOf (k : Nat) (a : Act) : Bool := !(a.isIns && a.key == k)
/-- Neither `insert`, `set_value` nor `remove` of `k` (requirements are fine). -/
def Act.leaves (k : Nat) (a : Act) : Bool := !((a.isIns || a.isWrite) && a.key == k)

def Act.offCounter (a : Act) : Bool := a.key != 0

def Act.noIns (a : Act) : Bool := !a.isIns

def Cond.avoids (cid : Nat) (c : Cond) : Bool := !c.ids.contains cid

/-- No merge hook anywhere in the tree exports anything (the only way `Comp.sat` can fail for the
trivial side conditions). -/
def Comp.noExports (c : Comp) : Bool := c.sat (fun _ => true) (fun _ => true) true

/-- What the caller finds under key `k` after the exports `mg` of a merge whose child map is `m`,
if it found `d` before: the value of the last export into `k` whose source the child holds. -/
def exportedValue (m : Scope) (mg : List (Nat × Nat)) (k : Nat) (d : Option Nat) : Option Nat :=
  mg.foldl (fun d ab => if ab.2 = k then (match m.get? ab.1 with | some v => some v | none => d) else d) d

theorem Stmt.all_true (p : Stmt) : p.all (fun _ => true) (fun _ => true) = true := by
  induction p with
  | skip | atom => rfl
  | seq a b iha ihb => exact Bool.and_eq_true_iff.mpr ⟨iha, ihb⟩
  | loop _ b ih | inScope b ih => exact ih
  | ite _ t e iht ihe => exact Bool.and_eq_true_iff.mpr ⟨iht, ihe⟩

theorem Stmt.all_seq {φ : Op → Bool} {C : Cond → Bool} {a b : Stmt} (ha : a.all φ C = true)
    (hb : b.all φ C = true) : (Stmt.seq a b).all φ C = true :=
  Bool.and_eq_true_iff.mpr ⟨ha, hb⟩

/-! ### Sequencing

`andThen` is the `?` of component code. Condition evaluations are sequenced the same way: go on with
the value, stop at an error. `cbind` continues with another evaluation (`Not`, `And`, `Or`), `cthen`
with a component (`while`, `if`). -/

def cbind (x : St × CRes) (k : Bool → St → St × CRes) : St × CRes :=
  match x with
  | (σ, .val b) => k b σ
  | (σ, .err ph id) => (σ, .err ph id)

def cthen (x : St × CRes) (k : Bool → St → St × Res) : St × Res :=
  match x with
  | (σ, .val b) => k b σ
  | (σ, .err ph id) => (σ, .err ph id)

theorem condEval_not (s : Script) (c : Cond) (σ : St) :
    condEval s (.not c) σ = cbind (condEval s c σ) fun b σ1 => (σ1, .val (!b)) := by
  rw [condEval]; rcases condEval s c σ with ⟨σ1, _ | _⟩ <;> rfl

theorem condEval_all_cons (s : Script) (c : Cond) (cs : Conds) (σ : St) :
    condEval s (.all (.cons c cs)) σ =
      cbind (condEval s c σ) fun b σ1 => cbind (condEval s (.all cs) σ1) fun b' σ2 => (σ2, .val (b && b')) := by
  show evalAll s (.cons c cs) σ = cbind _ fun b σ1 => cbind (evalAll s cs σ1) _
  rw [evalAll]; rcases condEval s c σ with ⟨σ1, b | _⟩ <;> simp only [cbind]
  rcases evalAll s cs σ1 with ⟨σ2, _ | _⟩ <;> rfl

theorem condEval_any_cons (s : Script) (c : Cond) (cs : Conds) (σ : St) :
    condEval s (.any (.cons c cs)) σ =
      cbind (condEval s c σ) fun b σ1 => cbind (condEval s (.any cs) σ1) fun b' σ2 => (σ2, .val (b || b')) := by
  show evalAny s (.cons c cs) σ = cbind _ fun b σ1 => cbind (evalAny s cs σ1) _
  rw [evalAny]; rcases condEval s c σ with ⟨σ1, b | _⟩ <;> simp only [cbind]
  rcases evalAny s cs σ1 with ⟨σ2, _ | _⟩ <;> rfl

theorem whileN_succ (cond : St → St × CRes) (body : St → St × Res) (n : Nat) (σ : St) :
    whileN cond body (n + 1) σ =
      cthen (cond σ) fun b σ1 => if b then andThen (body σ1) (whileN cond body n) else (σ1, .ok) := by
  rw [whileN]; rcases cond σ with ⟨σ1, ⟨_ | _⟩ | _⟩ <;> rfl

theorem srun_ite (s : Script) (f : Nat) (c : Cond) (t e : Stmt) (σ : St) :
    srun s f (.ite c t e) σ = cthen (condEval s c σ) fun b σ1 => srun s f (if b then t else e) σ1 := by
  rw [srun]; rcases condEval s c σ with ⟨σ1, ⟨_ | _⟩ | _⟩ <;> rfl

theorem exec_branch (s : Script) (f : Nat) (c : Cond) (t e : Comp) (he : Bool) (σ : St) :
    exec s f (.branch c t e he) σ =
      cthen (condEval s c σ) fun b σ1 => if b then exec s f t σ1 else if he then exec s f e σ1 else (σ1, .ok) := by
  rw [exec]; rcases condEval s c σ with ⟨σ1, ⟨_ | _⟩ | _⟩ <;> rfl

theorem andThen_congr {r r' : St × Res} {k k' : St → St × Res} (hr : r = r') (hk : ∀ σ, k σ = k' σ) :
    andThen r k = andThen r' k' :=
  hr ▸ congrArg (andThen r) (funext hk)

theorem cthen_congr {x : St × CRes} {k k' : Bool → St → St × Res} (h : ∀ b σ, k b σ = k' b σ) :
    cthen x k = cthen x k' :=
  congrArg (cthen x) (funext fun b => funext (h b))

theorem andThen_assoc (r : St × Res) (k1 k2 : St → St × Res) :
    andThen (andThen r k1) k2 = andThen r (fun σ => andThen (k1 σ) k2) := by
  obtain ⟨σ, x⟩ := r
  cases x <;> rfl

theorem andThen_ok {r : St × Res} {k : St → St × Res} {σ' : St} (h : andThen r k = (σ', .ok)) :
    ∃ σ1, r = (σ1, .ok) ∧ k σ1 = (σ', .ok) := by
  obtain ⟨σ1, r1⟩ := r
  cases r1
  · exact ⟨σ1, rfl, h⟩
  all_goals cases h

theorem cthen_ok {x : St × CRes} {k : Bool → St → St × Res} {σ' : St} (h : cthen x k = (σ', .ok)) :
    ∃ b σ1, x = (σ1, .val b) ∧ k b σ1 = (σ', .ok) := by
  obtain ⟨σ1, b | _⟩ := x
  · exact ⟨b, σ1, rfl, h⟩
  · cases h

/-! ### Induction over trees

A list of components is a block, a list of conditions an `And` or an `Or`: one predicate on trees
is enough, and the facts about `Comps` / `Conds` are the `block` / `all` / `any` instances. -/

theorem Cond.ind {P : Cond → Prop} (leaf : ∀ id, P (.leaf id)) (not : ∀ c, P c → P (.not c))
    (all_nil : P (.all .nil)) (all_cons : ∀ c cs, P c → P (.all cs) → P (.all (.cons c cs)))
    (any_nil : P (.any .nil)) (any_cons : ∀ c cs, P c → P (.any cs) → P (.any (.cons c cs))) : ∀ c, P c :=
  Cond.rec (motive_2 := fun cs => P (.all cs) ∧ P (.any cs)) leaf (fun _ h => h.1) (fun _ h => h.2) not
    ⟨all_nil, any_nil⟩ fun c cs hc h => ⟨all_cons c cs hc h.1, any_cons c cs hc h.2⟩

theorem Comp.ind {P : Comp → Prop} (leaf : ∀ id acts, P (.leaf id acts)) (nil : P (.block .nil))
    (cons : ∀ c cs, P c → P (.block cs) → P (.block (.cons c cs))) (loop : ∀ c b, P b → P (.loop c b))
    (branch : ∀ c t e he, P t → P e → P (.branch c t e he)) (scope : ∀ b, P b → P (.scope b))
    (scopeW : ∀ id si mg b, P b → P (.scopeW id si mg b)) : ∀ c, P c :=
  Comp.rec (motive_2 := fun cs => P (.block cs)) leaf (fun _ h => h) loop branch scope scopeW nil cons

end MahfModel.Config
